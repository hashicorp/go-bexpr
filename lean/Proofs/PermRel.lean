/-
  An instance of the two-run theorems of `Proofs/Relational.lean`: values equal up to the order of
  map entries (C14).

  A Go map is modelled as an association list = ONE arbitrary runtime iteration order.
  `PermEq v v'` : `v'` is `v` with the entry list of every map (anywhere inside) permuted; every
  such map has pairwise distinct keys (`keysDistinct`, true of every Go map).

  NaN keys: `fkeyEq` is not reflexive on NaN float keys, so a map may hold several NaN keys and
  `keysDistinct` is still true.  That is harmless here: no lookup key ever matches a NaN entry
  (`KeysUnique` below is phrased by "no lookup key matches two entries", which `keysDistinct`
  implies because IEEE `==` is Euclidean: `a == q ∧ b == q → b == a`).
-/
import Proofs.Relational
import Proofs.Total   -- for `LawfulBEq GoType` (array keys compare their element types)

namespace Bexpr.Proofs.PermRel
open Bexpr Bexpr.Go Bexpr.Eval Bexpr.Proofs.Rel

/-! ## `strLe` is a total order on byte strings; sorting forgets the input order -/

theorem strLe_total : ∀ (a b : GoString), (strLe a b || strLe b a) = true
  | [], _ => by simp [strLe]
  | _ :: _, [] => by simp [strLe]
  | x :: xs, y :: ys => by
    have ih := strLe_total xs ys
    simp only [strLe, Bool.or_eq_true, Bool.and_eq_true, decide_eq_true_eq, beq_iff_eq] at ih ⊢
    rcases Nat.lt_trichotomy x.toNat y.toNat with h | h | h
    · exact .inl (.inl (UInt8.lt_iff_toNat_lt.2 h))
    · have hxy : x = y := UInt8.toNat_inj.1 h
      rcases ih with h' | h'
      · exact .inl (.inr ⟨hxy, h'⟩)
      · exact .inr (.inr ⟨hxy.symm, h'⟩)
    · exact .inr (.inl (UInt8.lt_iff_toNat_lt.2 h))

theorem strLe_trans : ∀ (a b c : GoString), strLe a b = true → strLe b c = true → strLe a c = true
  | [], _, _ => by simp [strLe]
  | _ :: _, [], _ => by simp [strLe]
  | _ :: _, _ :: _, [] => by simp [strLe]
  | x :: xs, y :: ys, z :: zs => by
    simp only [strLe, Bool.or_eq_true, Bool.and_eq_true, decide_eq_true_eq, beq_iff_eq]
    rintro (h1 | ⟨rfl, h1⟩) (h2 | ⟨rfl, h2⟩)
    · exact .inl (UInt8.lt_trans h1 h2)
    · exact .inl h1
    · exact .inl h2
    · exact .inr ⟨rfl, strLe_trans xs ys zs h1 h2⟩

theorem strLe_antisymm : ∀ (a b : GoString), strLe a b = true → strLe b a = true → a = b
  | [], [] => by simp
  | [], _ :: _ => by simp [strLe]
  | _ :: _, [] => by simp [strLe]
  | x :: xs, y :: ys => by
    simp only [strLe, Bool.or_eq_true, Bool.and_eq_true, decide_eq_true_eq, beq_iff_eq]
    rintro (h1 | ⟨rfl, h1⟩) (h2 | ⟨h, h2⟩)
    · exact absurd (UInt8.lt_trans h1 h2) (UInt8.lt_irrefl _)
    · exact absurd (h ▸ h1) (UInt8.lt_irrefl _)
    · exact absurd h2 (UInt8.lt_irrefl _)
    · rw [strLe_antisymm xs ys h1 h2]

theorem sortKeys_perm {ks ks' : List GoString} (h : ks.Perm ks') : sortKeys ks = sortKeys ks' := by
  unfold sortKeys
  apply List.Perm.eq_of_pairwise (le := fun a b => strLe a b = true)
  · intro a b _ _ h1 h2; exact strLe_antisymm a b h1 h2
  · exact List.pairwise_mergeSort strLe_trans strLe_total ks
  · exact List.pairwise_mergeSort strLe_trans strLe_total ks'
  · exact (List.mergeSort_perm ks strLe).trans (h.trans (List.mergeSort_perm ks' strLe).symm)

/-! ## Lookups in a permuted entry list -/

theorem find?_perm {α} (P : α → Bool) {l l' : List α} (hp : l.Perm l')
    (hu : l.Pairwise fun a b => P a = true → P b = true → False) : l.find? P = l'.find? P := by
  induction hp with
  | nil => rfl
  | cons x _ ih => simp only [List.find?_cons, ih (List.pairwise_cons.1 hu).2]
  | swap x y l =>
    simp only [List.find?_cons]
    cases hy : P y <;> cases hx : P x <;> try rfl
    exact ((List.pairwise_cons.1 hu).1 x List.mem_cons_self hy hx).elim
  | trans h1 _ ih1 ih2 => rw [ih1 hu, ih2 (hu.perm h1 fun h hy hx => h hx hy)]

/-! ## `keyEq` is Euclidean, so distinct keys are never matched by the same lookup key -/

theorem keyEqScalar_eucl {f : Nat → Nat → Nat → Bool}
    (hf : ∀ w x y z, f w x y = true → f w z y = true → f w z x = true) (a q b : GoVal)
    (h : keyEqScalar f a q = true) (hb : keyEqScalar f b q = true) : keyEqScalar f b a = true := by
  revert h
  fun_cases keyEqScalar f a q <;> intro h
  case case6 => cases h
  case case4 k n x k' m y =>
    cases b with
    | float k'' l z =>
      simp only [keyEqScalar, Bool.and_eq_true, beq_iff_eq] at h hb ⊢
      obtain ⟨⟨rfl, rfl⟩, hxy⟩ := h
      obtain ⟨⟨rfl, rfl⟩, hz⟩ := hb
      exact ⟨⟨rfl, rfl⟩, hf _ _ _ _ hxy hz⟩
    | _ => cases hb
  -- the scalars other than floats: a match means `a = q`
  case case1 | case5 =>
    simp only [Bool.and_eq_true, beq_iff_eq] at h
    obtain ⟨rfl, rfl⟩ := h
    exact hb
  all_goals
    simp only [Bool.and_eq_true, beq_iff_eq] at h
    obtain ⟨⟨rfl, rfl⟩, rfl⟩ := h
    exact hb

theorem keyEqV_scalar (f : Nat → Nat → Nat → Bool) (a b : GoVal)
    (h : keyEqScalar f a b = true) : keyEqV f a b = true := by
  revert h
  fun_cases keyEqScalar f a b
  case case6 => intro h; cases h
  all_goals exact id

/-- By induction along the recursion of `keyEqV f a q`; only where the match does not force
    `a = q` (floats, boxed values, arrays) does the shape of `b` matter. -/
theorem keyEqV_eucl {f : Nat → Nat → Nat → Bool}
    (hf : ∀ w x y z, f w x y = true → f w z y = true → f w z x = true) (a q b : GoVal)
    (h : keyEqV f a q = true) (hb : keyEqV f b q = true) : keyEqV f b a = true := by
  induction a, q using keyEqV.induct (motive_2 := fun xs ys =>
    keyEqL f xs ys = true → ∀ zs, keyEqL f zs ys = true → keyEqL f zs xs = true) generalizing b with
  | case1 | case5 =>
    simp only [keyEqV, Bool.and_eq_true, beq_iff_eq] at h
    obtain ⟨rfl, rfl⟩ := h
    exact hb
  | case2 | case3 =>
    simp only [keyEqV, Bool.and_eq_true, beq_iff_eq] at h
    obtain ⟨⟨rfl, rfl⟩, rfl⟩ := h
    exact hb
  | case6 => exact hb
  | case8 e e' =>
    cases eq_of_beq (show (e == e') = true from h)
    exact hb
  | case4 k n x k' m y =>
    cases b with
    | float k'' l z =>
      simp only [keyEqV, Bool.and_eq_true, beq_iff_eq] at h hb ⊢
      obtain ⟨⟨rfl, rfl⟩, hxy⟩ := h
      obtain ⟨⟨rfl, rfl⟩, hz⟩ := hb
      exact ⟨⟨rfl, rfl⟩, hf _ _ _ _ hxy hz⟩
    | ptr _ o | iface o => cases o <;> cases hb
    | _ => cases hb
  | case7 a q ih =>
    cases b with
    | iface o =>
      cases o with
      | none => cases hb
      | some b => exact ih b h hb
    | ptr _ o => cases o <;> cases hb
    | _ => cases hb
  | case9 e xs e' ys ih =>
    cases b with
    | array e'' zs =>
      simp only [keyEqV, Bool.and_eq_true, beq_iff_eq] at h hb ⊢
      exact ⟨hb.1.trans h.1.symm, ih h.2 zs hb.2⟩
    | ptr _ o | iface o => cases o <;> cases hb
    | _ => cases hb
  | case10 t x h1 h2 h3 h4 h5 h6 h7 h8 h9 =>
    rw [keyEqV.eq_10 f t x h1 h2 h3 h4 h5 h6 h7 h8 h9] at h
    cases h
  | case11 => assumption
  | case12 x xs y ys ihx ihxs =>
    rename_i h zs hb
    cases zs with
    | nil => cases hb
    | cons z zs =>
      simp only [keyEqL, Bool.and_eq_true] at h hb ⊢
      exact ⟨ihx z h.1 hb.1, ihxs h.2 zs hb.2⟩
  | case13 t x h1 h2 =>
    rename_i h _ _
    rw [keyEqL.eq_3 f t x h1 h2] at h
    cases h

/-- IEEE `==` is Euclidean (NaN is related to nothing; the two zeros are related). -/
theorem feq_eucl (w x y z : Nat) (h1 : Strconv.feq w x y = true) (h2 : Strconv.feq w z y = true) :
    Strconv.feq w z x = true := by
  unfold Strconv.feq at *
  simp only [] at *
  generalize Strconv.fmtOf w = fm at *
  cases hx : fm.isNaN x <;> cases hy : fm.isNaN y <;> cases hz : fm.isNaN z <;>
    simp only [hx, hy, hz, Bool.or_false, Bool.or_true, if_true, if_false,
      Bool.false_eq_true] at h1 h2 ⊢ <;> try contradiction
  by_cases hzx : (fm.absOf x == 0 && fm.absOf y == 0) = true
  · by_cases hzz : (fm.absOf z == 0 && fm.absOf y == 0) = true
    · simp_all
    · simp only [hzz] at h2
      have : z = y := by simpa using h2
      subst this
      simp_all
  · simp only [hzx] at h1
    have : x = y := by simpa using h1
    subst this
    exact h2

theorem fkeyEq_eucl (a q b : GoVal) (h1 : fkeyEq a q = true) (h2 : fkeyEq b q = true) :
    fkeyEq b a = true :=
  keyEqV_eucl feq_eucl (unboxKey a) (unboxKey q) (unboxKey b) h1 h2

/-- No lookup key matches two entries of the list. -/
def KeysUnique (es : List (GoVal × GoVal)) : Prop :=
  es.Pairwise fun e1 e2 => ∀ q, fkeyEq e1.1 q = true → fkeyEq e2.1 q = true → False

theorem keysUnique_of_distinct : ∀ {es : List (GoVal × GoVal)}, keysDistinct es = true →
    KeysUnique es
  | [], _ => List.Pairwise.nil
  | (k, v) :: es, h => by
    simp only [keysDistinct, Bool.and_eq_true, Bool.not_eq_true', List.any_eq_false] at h
    refine List.Pairwise.cons ?_ (keysUnique_of_distinct h.2)
    intro e2 he2 q hq1 hq2
    exact h.1 e2 he2 (fkeyEq_eucl k q e2.1 hq1 hq2)

/-! ## The relation -/

inductive PermEq : GoVal → GoVal → Prop
  | bool n b : PermEq (.bool n b) (.bool n b)
  | int k n v : PermEq (.int k n v) (.int k n v)
  | uint k n v : PermEq (.uint k n v) (.uint k n v)
  | float k n v : PermEq (.float k n v) (.float k n v)
  | complex k n : PermEq (.complex k n) (.complex k n)
  | str n s : PermEq (.str n s) (.str n s)
  | other k n nl : PermEq (.other k n nl) (.other k n nl)
  | ptr e {x x'} : OptRel PermEq x x' → PermEq (.ptr e x) (.ptr e x')
  | iface {x x'} : OptRel PermEq x x' → PermEq (.iface x) (.iface x')
  | slice n e nl {xs xs'} : ListRel PermEq xs xs' → PermEq (.slice n e nl xs) (.slice n e nl xs')
  | array e {xs xs'} : ListRel PermEq xs xs' → PermEq (.array e xs) (.array e xs')
  /-- `es'` = some reordering `p` of `es`, with the values related entry by entry -/
  | map n kt vt nl {es p es'} : keysDistinct es = true → es.Perm p → EntRel PermEq p es' →
      PermEq (.map n kt vt nl es) (.map n kt vt nl es')
  | struct n {fs fs'} : FieldsRel PermEq (fun _ => false) fs fs' →
      PermEq (.struct n fs) (.struct n fs')

theorem mapObs_of_perm {S : GoVal → GoVal → Prop} {es p es' : List (GoVal × GoVal)}
    (hd : keysDistinct es = true) (hp : es.Perm p) (he : EntRel S p es') : MapObs S es es' where
  len := hp.length_eq.trans he.length_eq
  find := fun k => by
    rw [find?_perm _ hp ((keysUnique_of_distinct hd).imp fun h ha hb => h k ha hb)]
    exact he.find (fun a => fkeyEq a k)
  keys := by
    have h1 : (es.map fun e => strKey e.1).Perm (p.map fun e => strKey e.1) := hp.map _
    have h2 : (p.map fun e => strKey e.1) = (es'.map fun e => strKey e.1) := by
      have := congrArg (List.map strKey) he.keys_eq
      simpa [List.map_map, Function.comp_def] using this
    rw [sortKeys_perm h1, h2]

theorem permEq_inv (cfg : Config) {v v'} (h : PermEq v v') : Shape PermEq cfg v v' := by
  cases h with
  | map n kt vt nl hd hp he => exact .map n kt vt nl (mapObs_of_perm hd hp he)
  | struct n hf => exact .struct n (fun part => getStruct_rel (fun _ h => by cases h) hf part)
  -- the other constructors are those of `Shape`, with the same components
  | _ => constructor <;> assumption

theorem permEq_wrap {fs fs'} (h : PermEq (.struct "main.Wrap" fs) (.struct "main.Wrap" fs')) :
    HeadRel PermEq fs fs' := by
  cases h with
  | struct _ hf =>
    cases hf with
    | nil => exact .nil
    | hidden h _ => cases h
    | visible hv _ => exact .cons hv

/-! ## Reflexivity on values whose maps have distinct keys -/

mutual
/-- every map inside the value has pairwise distinct keys (as `fkeyEq` sees them) -/
def mapsOk : GoVal → Bool
  | .ptr _ (some v) => mapsOk v
  | .slice _ _ _ xs => mapsOkList xs
  | .array _ xs => mapsOkList xs
  | .map _ _ _ _ es => keysDistinct es && mapsOkEntries es
  | .struct _ fs => mapsOkFields fs
  | .iface (some v) => mapsOk v
  | _ => true
def mapsOkList : List GoVal → Bool
  | [] => true
  | x :: xs => mapsOk x && mapsOkList xs
def mapsOkEntries : List (GoVal × GoVal) → Bool
  | [] => true
  | (_, v) :: es => mapsOk v && mapsOkEntries es
def mapsOkFields : List (Field × GoVal) → Bool
  | [] => true
  | (_, v) :: fs => mapsOk v && mapsOkFields fs
end

mutual
theorem permEq_refl : ∀ v, mapsOk v = true → PermEq v v
  | .bool n b, _ => .bool n b
  | .int k n v, _ => .int k n v
  | .uint k n v, _ => .uint k n v
  | .float k n v, _ => .float k n v
  | .complex k n, _ => .complex k n
  | .str n s, _ => .str n s
  | .other k n nl, _ => .other k n nl
  | .ptr e none, _ => .ptr e .none
  | .ptr e (some v), h => .ptr e (.some (permEq_refl v h))
  | .iface none, _ => .iface .none
  | .iface (some v), h => .iface (.some (permEq_refl v h))
  | .slice n e nl xs, h => .slice n e nl (permEqList_refl xs h)
  | .array e xs, h => .array e (permEqList_refl xs h)
  | .map n kt vt nl es, h =>
    have h := Bool.and_eq_true_iff.1 h
    .map n kt vt nl h.1 (List.Perm.refl es) (permEqEntries_refl es h.2)
  | .struct n fs, h => .struct n (permEqFields_refl fs h)
theorem permEqList_refl : ∀ xs, mapsOkList xs = true → ListRel PermEq xs xs
  | [], _ => .nil
  | x :: xs, h =>
    have h := Bool.and_eq_true_iff.1 h
    .cons (permEq_refl x h.1) (permEqList_refl xs h.2)
theorem permEqEntries_refl : ∀ es, mapsOkEntries es = true → EntRel PermEq es es
  | [], _ => .nil
  | (_, v) :: es, h =>
    have h := Bool.and_eq_true_iff.1 h
    .cons (permEq_refl v h.1) (permEqEntries_refl es h.2)
theorem permEqFields_refl : ∀ fs, mapsOkFields fs = true → FieldsRel PermEq (fun _ => false) fs fs
  | [], _ => .nil
  | (_, v) :: fs, h =>
    have h := Bool.and_eq_true_iff.1 h
    .visible (permEq_refl v h.1) (permEqFields_refl fs h.2)
end

/-- for every tag name and every modelled hook -/
theorem permEq_hyps (cfg : Config) : RelHyps PermEq cfg :=
  relHyps_of (fun _ _ h => permEq_inv cfg h) (fun _ _ _ => permEq_wrap)
    fun v hv => permEq_refl v (by cases v <;> first | rfl | cases hv)

theorem permEq_of_perm (n kt vt nl) {es es' : List (GoVal × GoVal)} (hd : keysDistinct es = true)
    (hok : mapsOkEntries es' = true) (hp : es.Perm es') :
    PermEq (.map n kt vt nl es) (.map n kt vt nl es') :=
  .map n kt vt nl hd hp (permEqEntries_refl es' hok)

def anyOk : Any → Bool
  | none => true
  | some v => mapsOk v

theorem anyRel_refl {d : Any} (h : anyOk d = true) : AnyRel PermEq d d := by
  cases d with
  | none => exact .none
  | some v => exact .some (permEq_refl v h)

/-- the maps inside the unknown value and the bound local values have distinct keys -/
def OptsOk (o : Opts) : Prop :=
  (∀ u, o.unknown = some u → anyOk u = true) ∧ ∀ lv ∈ o.locals, anyOk lv.value = true

theorem optsRel_refl {o : Opts} (h : OptsOk o) : OptsRel PermEq o.cfg o o :=
  .refl (fun u hu => anyRel_refl (h.1 u hu)) fun lv hlv => anyRel_refl (h.2 lv hlv)

end Bexpr.Proofs.PermRel
