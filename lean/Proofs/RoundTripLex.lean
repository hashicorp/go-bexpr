/-
  Proofs.RoundTripLex — the print/parse round trip (C16 / C07), lexical layer.

  Everything is a derivation of the declarative semantics `Sem pinEnv pinGrammar` (the PINNED
  bexpr grammar table and code blocks); by `Props/C15.lean` the engine reproduces it.  The
  judgements are `Eats` (an expression matches exactly these bytes, logging nothing) and `Fails`
  (it does not match here, logging nothing), with `EatsSeq` / `FailsSeq` / `EatsStar` for the
  items of a sequence and the iterations of `e*`.

  The input is VALID UTF-8 TEXT (`VT`, `Proofs/Utf8Text.lean`: Go's `utf8.ValidString`), a
  sequence of encodings of one rune each (`Enc`).  The grammar's tokens other than string bodies
  and `\pL\pN` pointer segments are ASCII (`Asc`), so literals, blanks, identifiers and numbers
  are stated for ASCII tokens in front of valid text; a multi-byte rune never matches an ASCII
  literal or an ASCII-only class (`semLit_fail`, `Fails.cls`).
-/
import Bexpr.Driver
import Props.C15
import Props.C16Lex
import Proofs.Utf8Text
import Proofs.TableLookup

namespace Bexpr.Proofs.RoundTrip
open Bexpr Bexpr.Peg Bexpr.Driver

abbrev G : Grammar := pinGrammar
abbrev E : Env := pinEnv

/-! ## 0. Positions on valid text -/

/-- The position at remaining input `s`, byte offset `off`. -/
def ptAt (s : GoString) (off : Nat) : Pt :=
  { rest := s, off := off, rn := (Utf8.decodeRune s).1, w := (Utf8.decodeRune s).2 }

/-- the position after the initial `read` of `parse` -/
theorem start_next (input : GoString) : (Pt.start input).next = ptAt input 0 := rfl

theorem ptAt_nil (off : Nat) : ptAt [] off = { rest := [], off := off, rn := 0xFFFD, w := 0 } := rfl

theorem atEOF_nil (off : Nat) : atEOF (ptAt [] off) = true := by
  simp [atEOF, ptAt, Utf8.decodeRune, runeError, Utf8.runeError]

/-- `x` is the UTF-8 encoding of the one rune `r`: an ASCII byte, or the well-formed encoding of
    a rune `≥ 0x80`.  Valid text is a sequence of these (`RunesIn.uncons`). -/
inductive Enc : GoString → Nat → Prop
  | asc {b : UInt8} (hb : b.toNat < 128) : Enc [b] b.toNat
  | rune {r : Nat} (hv : Utf8.validRune r = true) (h80 : 0x80 ≤ r) : Enc (Utf8.encodeRune r) r

theorem RunesIn.uncons {p : Nat → Bool} {s : GoString} (h : RunesIn p s) :
    s = [] ∨ ∃ x r t, s = x ++ t ∧ Enc x r ∧ p r = true ∧ RunesIn p t := by
  rcases h.inv with rfl | ⟨b, t, rfl, hb, hp, ht⟩ | ⟨r, t, rfl, hv, h80, hp, ht⟩
  · exact .inl rfl
  · exact .inr ⟨[b], _, t, rfl, .asc hb, hp, ht⟩
  · exact .inr ⟨_, r, t, rfl, .rune hv h80, hp, ht⟩

theorem RunesIn.induction_enc {p : Nat → Bool} {motive : GoString → Prop} (nil : motive [])
    (step : ∀ {x r t}, Enc x r → p r = true → RunesIn p t → motive t → motive (x ++ t))
    {s : GoString} (h : RunesIn p s) : motive s := by
  induction h with
  | nil => exact nil
  | asc hb hp ht ih => exact step (.asc hb) hp ht ih
  | rune hv h80 hp ht ih => exact step (.rune hv h80) hp ht ih

theorem Enc.vt {x t : GoString} {r : Nat} (h : Enc x r) (ht : VT t) : VT (x ++ t) := by
  cases h with
  | asc hb => exact VT.cons hb ht
  | rune hv h80 => exact VT.rune hv h80 ht

section
variable {x : GoString} {r : Nat} (h : Enc x r) (t : GoString) (off : Nat)
include h

theorem Enc.length_pos : 0 < x.length := by
  cases h with
  | asc hb => exact Nat.one_pos
  | rune hv h80 => have := encodeRune_length_ge2 h80; omega

/-- In front of an encoding the current rune is the rune encoded and its width the length of
    the encoding. -/
theorem ptAt_enc :
    ptAt (x ++ t) off = { rest := x ++ t, off := off, rn := r, w := x.length } := by
  cases h with
  | asc hb => simp [ptAt, decodeRune_asc t hb]
  | rune hv h80 => simp [ptAt, Utf8.decodeRune_encodeRune r hv h80 t]

theorem Enc.rn : (ptAt (x ++ t) off).rn = r := by rw [ptAt_enc h]

/-- reading a rune advances by the length of its encoding -/
theorem Enc.next : (ptAt (x ++ t) off).next = ptAt t (off + x.length) := by
  rw [ptAt_enc h]
  simp [Pt.next, ptAt]

theorem Enc.not_atEOF : atEOF (ptAt (x ++ t) off) = false := by
  rw [ptAt_enc h]
  have h0 : ¬ (x.length = 0) := Nat.ne_of_gt h.length_pos
  simp [atEOF, h0]

end

theorem ptAt_rn_rune {r : Nat} (t : GoString) (off : Nat) (hv : Utf8.validRune r = true)
    (h80 : 0x80 ≤ r) : (ptAt (Utf8.encodeRune r ++ t) off).rn = r := (Enc.rune hv h80).rn t off

/-- arriving at valid text logs nothing (`read` logs `invalid encoding` exactly when the
    rune decoded there is `(0xFFFD, 1)`; a well-formed U+FFFD has width 3). -/
theorem logRead_vt (rule : String) {s : GoString} (off : Nat) (errs : List PErr) (hs : VT s) :
    logRead rule (ptAt s off) errs = errs := by
  rcases RunesIn.uncons hs with rfl | ⟨x, r, t, rfl, h, _, _⟩
  · rfl
  · rw [ptAt_enc h]
    have hbad : ¬ (r = 65533 ∧ x.length = 1) := by
      cases h with
      | asc hb => omega
      | rune hv h80 => have := encodeRune_length_ge2 h80; omega
    simp [logRead, runeError, hbad]

theorem sliceFrom_ptAt (x rest : GoString) (off : Nat) :
    sliceFrom (ptAt (x ++ rest) off) (ptAt rest (off + x.length)) = x := by
  simp [sliceFrom, ptAt]

/-! ## 1. The judgement shapes

  Suffixes: `G` — any rune (the plain name is the ASCII-byte case); `E` — item values left open
  (`∃ vs`); prime, `two0` — the text associated the other way, a zero-width last item. -/

/-- `e` matches exactly `x` in front of `rest`, logging nothing. -/
def Eats (rule : String) (e : PExpr) (fr : Frame) (x rest : GoString) (off : Nat)
    (errs : List PErr) (fr' : Frame) (v : PVal) : Prop :=
  Sem E G rule e fr (ptAt (x ++ rest) off) errs (.res (ptAt rest (off + x.length)) errs fr' v true)

/-- `e` does not match at `s`, logging nothing (every consumer drops frame and value). -/
def Fails (rule : String) (e : PExpr) (fr : Frame) (s : GoString) (off : Nat)
    (errs : List PErr) : Prop :=
  ∃ fr' v, Sem E G rule e fr (ptAt s off) errs (.res (ptAt s off) errs fr' v false)

/-- the items `es` match exactly `x` in front of `rest`, one after the other -/
def EatsSeq (rule : String) (es : List PExpr) (fr : Frame) (x rest : GoString) (off : Nat)
    (errs : List PErr) (fr' : Frame) (vs : List PVal) : Prop :=
  SemSeq E G rule es fr (ptAt (x ++ rest) off) errs (.ok (ptAt rest (off + x.length)) errs fr' vs)

/-- an item of `es` does not match (`.seq` restores the position, so where is irrelevant) -/
def FailsSeq (rule : String) (es : List PExpr) (fr : Frame) (s : GoString) (off : Nat)
    (errs : List PErr) : Prop :=
  ∃ pt' fr', SemSeq E G rule es fr (ptAt s off) errs (.fail pt' errs fr')

/-- the iterations of `e*` match exactly `x` in front of `rest` and stop there -/
def EatsStar (rule : String) (e : PExpr) (x rest : GoString) (off : Nat)
    (errs : List PErr) (vs : List PVal) : Prop :=
  SemStar E G rule e (ptAt (x ++ rest) off) errs (.done (ptAt rest (off + x.length)) errs vs)

section
variable {rule : String} {fr fr' fr₁ fr₂ : Frame} {x a b rest s : GoString} {off : Nat}
  {errs : List PErr} {v av : PVal} {vs : List PVal} {e : PExpr} {es : List PExpr}

theorem ptAt_assoc (a b rest : GoString) (off : Nat) :
    ptAt ((a ++ b) ++ rest) off = ptAt (a ++ (b ++ rest)) off := by rw [List.append_assoc]

theorem ptAt_len (a b rest : GoString) (off : Nat) :
    ptAt rest (off + (a ++ b).length) = ptAt rest (off + a.length + b.length) := by
  rw [List.length_append, Nat.add_assoc]

theorem EatsSeq.nil : EatsSeq rule [] fr [] rest off errs fr [] := SemSeq.nil

theorem EatsSeq.cons (h1 : Eats rule e fr a (b ++ rest) off errs fr₁ v)
    (h2 : EatsSeq rule es fr₁ b rest (off + a.length) errs fr₂ vs) :
    EatsSeq rule (e :: es) fr (a ++ b) rest off errs fr₂ (v :: vs) := by
  unfold EatsSeq
  rw [ptAt_assoc, ptAt_len]
  exact SemSeq.cons h1 h2

/-- a one-element tail without the trailing `++ []` -/
theorem EatsSeq.one (h1 : Eats rule e fr a rest off errs fr₁ v) :
    EatsSeq rule [e] fr a rest off errs fr₁ [v] := by
  have := EatsSeq.cons (b := []) (rest := rest) (by simpa using h1) (EatsSeq.nil (fr := fr₁))
  simpa using this

/-- Built from the expected statement, so that offsets and frames are found by unification; the
    item values are left open, the code blocks read the frame only. -/
theorem EatsSeq.consE (h1 : Eats rule e fr a (b ++ rest) off errs fr₁ v)
    (h2 : ∃ vs, EatsSeq rule es fr₁ b rest (off + a.length) errs fr₂ vs) :
    ∃ vs, EatsSeq rule (e :: es) fr (a ++ b) rest off errs fr₂ vs :=
  h2.elim fun _ h => ⟨_, EatsSeq.cons h1 h⟩

theorem Eats.seq (h : EatsSeq rule es fr x rest off errs fr' vs) :
    Eats rule (.seq es) fr x rest off errs fr' (.list vs) := Sem.seq_ok h

theorem FailsSeq.here (h : Fails rule e fr s off errs) : FailsSeq rule (e :: es) fr s off errs := by
  obtain ⟨fr', v, h⟩ := h
  exact ⟨_, _, SemSeq.fail h⟩

theorem FailsSeq.later (h1 : Eats rule e fr a rest off errs fr₁ v)
    (h2 : FailsSeq rule es fr₁ rest (off + a.length) errs) :
    FailsSeq rule (e :: es) fr (a ++ rest) off errs := by
  obtain ⟨pt', fr', h2⟩ := h2
  exact ⟨pt', fr', SemSeq.cons h1 h2⟩

theorem Fails.seq (h : FailsSeq rule es fr s off errs) : Fails rule (.seq es) fr s off errs := by
  obtain ⟨pt', fr', h⟩ := h
  exact ⟨_, _, Sem.seq_fail h⟩

theorem Fails.seq_here (h : Fails rule e fr s off errs) : Fails rule (.seq (e :: es)) fr s off errs :=
  Fails.seq (FailsSeq.here h)

theorem Eats.labeled (l : String) (h : Eats rule e [] x rest off errs fr' v)
    (hl : l ≠ "" := by decide) :
    Eats rule (.labeled l e) fr x rest off errs ((l, v) :: fr) v := by
  have := Sem.labeled_ok (fr := fr) (l := l) h
  have hl' : (l != "") = true := by simpa using hl
  rw [if_pos hl'] at this
  exact this

theorem Fails.labeled {l : String} (h : Fails rule e [] s off errs) :
    Fails rule (.labeled l e) fr s off errs := by
  obtain ⟨fr', v, h⟩ := h
  exact ⟨_, _, Sem.labeled_fail h⟩

theorem Eats.action {name : String} (h : Eats rule e fr x rest off errs fr' v)
    (ha : E.action name fr' x = .ret av none) :
    Eats rule (.action name e) fr x rest off errs fr' av := by
  have := Sem.action_ret (name := name) (av := av) (err := none) h
    (by rw [sliceFrom_ptAt]; exact ha)
  exact this

theorem Eats.action_seq {name : String} (h : ∃ vs, EatsSeq rule es fr x rest off errs fr' vs)
    (ha : E.action name fr' x = .ret av none) :
    Eats rule (.action name (.seq es)) fr x rest off errs fr' av :=
  h.elim fun _ h => Eats.action (Eats.seq h) ha

theorem Fails.action {name : String} (h : Fails rule e fr s off errs) :
    Fails rule (.action name e) fr s off errs := by
  obtain ⟨fr', v, h⟩ := h
  exact ⟨_, _, Sem.action_fail h⟩

theorem Eats.ref {name : String} {r : Rule} (hl : lookupRule G name = some r)
    (h : Eats r.shown r.expr [] x rest off errs fr' v) :
    Eats rule (.ruleRef name) fr x rest off errs fr v :=
  Sem.ruleRef_res (lookupRule_pin_ne_empty hl) hl h

theorem Fails.ref {name : String} {r : Rule} (hl : lookupRule G name = some r)
    (h : Fails r.shown r.expr [] s off errs) :
    Fails rule (.ruleRef name) fr s off errs := by
  obtain ⟨fr', v, h⟩ := h
  exact ⟨_, _, Sem.ruleRef_res (lookupRule_pin_ne_empty hl) hl h⟩

theorem Eats.opt_some (h : Eats rule e [] x rest off errs fr' v) :
    Eats rule (.zeroOrOne e) fr x rest off errs fr v := Sem.opt_some h

theorem Eats.opt_none (h : Fails rule e [] rest off errs) :
    Eats rule (.zeroOrOne e) fr [] rest off errs fr .nil := by
  obtain ⟨fr', v, h⟩ := h
  exact Sem.opt_none h

theorem sem_choice_inv {as : List PExpr} {pt : Pt} {out : SemOut}
    (h : Sem E G rule (.choice as) fr pt errs out) : SemChoice E G rule as fr pt errs out := by
  cases h with
  | choice h => exact h

theorem Eats.choice_hit {as : List PExpr} (h : Eats rule e [] x rest off errs fr' v) :
    Eats rule (.choice (e :: as)) fr x rest off errs fr v := Sem.choice (SemChoice.hit h)

theorem Eats.choice_next {as : List PExpr} (h1 : Fails rule e [] (x ++ rest) off errs)
    (h2 : Eats rule (.choice as) fr x rest off errs fr' v) :
    Eats rule (.choice (e :: as)) fr x rest off errs fr' v := by
  obtain ⟨fr₁, v₁, h1⟩ := h1
  exact Sem.choice (SemChoice.next h1 (sem_choice_inv h2))

theorem Fails.choice_nil : Fails rule (.choice []) fr s off errs :=
  ⟨_, _, Sem.choice SemChoice.exhausted⟩

theorem Fails.choice_cons {as : List PExpr} (h1 : Fails rule e [] s off errs)
    (h2 : Fails rule (.choice as) fr s off errs) :
    Fails rule (.choice (e :: as)) fr s off errs := by
  obtain ⟨fr₁, v₁, h1⟩ := h1
  obtain ⟨fr₂, v₂, h2⟩ := h2
  exact ⟨_, _, Sem.choice (SemChoice.next h1 (sem_choice_inv h2))⟩

theorem Eats.andP (h : Eats rule e [] x rest off errs fr' v) :
    Eats rule (.andP e) fr [] (x ++ rest) off errs fr .nil := by
  have := Sem.andP_res (fr := fr) h
  simpa [Eats] using this

theorem Fails.notP (h : Eats rule e [] x rest off errs fr' v) :
    Fails rule (.notP e) fr (x ++ rest) off errs := ⟨_, _, Sem.notP_res (fr := fr) h⟩

theorem Eats.notP (h : Fails rule e [] s off errs) :
    Eats rule (.notP e) fr [] s off errs fr .nil := by
  obtain ⟨fr', v, h⟩ := h
  have := Sem.notP_res (fr := fr) h
  simpa [Eats] using this

theorem Fails.andP (h : Fails rule e [] s off errs) : Fails rule (.andP e) fr s off errs := by
  obtain ⟨fr', v, h⟩ := h
  exact ⟨_, _, Sem.andP_res (fr := fr) h⟩

theorem EatsStar.stop (h : Fails rule e [] rest off errs) : EatsStar rule e [] rest off errs [] := by
  obtain ⟨fr', v, h⟩ := h
  exact SemStar.stop h

theorem EatsStar.more (h1 : Eats rule e [] a (b ++ rest) off errs fr₁ v)
    (h2 : EatsStar rule e b rest (off + a.length) errs vs) :
    EatsStar rule e (a ++ b) rest off errs (v :: vs) := by
  unfold EatsStar
  rw [ptAt_assoc, ptAt_len]
  exact SemStar.more h1 h2

theorem Eats.star (h : EatsStar rule e x rest off errs vs) :
    Eats rule (.zeroOrMore e) fr x rest off errs fr (.list vs) := Sem.star_done h

theorem Eats.plus (h1 : Eats rule e [] a (b ++ rest) off errs fr₁ v)
    (h2 : EatsStar rule e b rest (off + a.length) errs vs) :
    Eats rule (.oneOrMore e) fr (a ++ b) rest off errs fr (.list (v :: vs)) := by
  unfold Eats
  rw [ptAt_assoc, ptAt_len]
  exact Sem.plus_done h1 h2

theorem Fails.plus (h : Fails rule e [] s off errs) : Fails rule (.oneOrMore e) fr s off errs := by
  obtain ⟨fr', v, h⟩ := h
  exact ⟨_, _, Sem.plus_none h⟩

theorem Eats.cast {x' rest' : GoString} (h : Eats rule e fr x rest off errs fr' v)
    (hx : x = x') (hr : rest = rest') : Eats rule e fr x' rest' off errs fr' v := by
  subst hx; subst hr; exact h

end

theorem EatsSeq.cast {rule : String} {es : List PExpr} {fr fr' : Frame} {x x' rest : GoString}
    {off : Nat} {errs : List PErr} {vs : List PVal}
    (h : EatsSeq rule es fr x rest off errs fr' vs) (hx : x = x') :
    EatsSeq rule es fr x' rest off errs fr' vs := by subst hx; exact h

theorem EatsSeq.two0 {rule : String} {e e₂ : PExpr} {fr fr₁ fr₂ : Frame} {a rest : GoString}
    {off : Nat} {errs : List PErr} {v v₂ : PVal}
    (h1 : Eats rule e fr a rest off errs fr₁ v)
    (h2 : Eats rule e₂ fr₁ [] rest (off + a.length) errs fr₂ v₂) :
    EatsSeq rule [e, e₂] fr a rest off errs fr₂ [v, v₂] :=
  (EatsSeq.cons (b := []) h1 (EatsSeq.one h2)).cast (by simp)

theorem FailsSeq.later' {rule : String} {e : PExpr} {es : List PExpr} {fr fr₁ : Frame}
    {a b rest : GoString} {off : Nat} {errs : List PErr} {v : PVal}
    (h1 : Eats rule e fr a (b ++ rest) off errs fr₁ v)
    (h2 : FailsSeq rule es fr₁ (b ++ rest) (off + a.length) errs) :
    FailsSeq rule (e :: es) fr ((a ++ b) ++ rest) off errs := by
  rw [List.append_assoc]; exact FailsSeq.later h1 h2

/-! ## 2. Literals -/

def runesOf (x : GoString) : List Nat := x.map (·.toNat)

theorem semLit_ok (rule : String) (x rest : GoString) (off : Nat) (errs : List PErr)
    (hx : Asc x) (hr : VT rest) :
    SemLit rule (runesOf x) (ptAt (x ++ rest) off) errs (ptAt rest (off + x.length)) errs true := by
  induction x generalizing off with
  | nil => exact SemLit.nil
  | cons b t ih =>
    have hb := Enc.asc hx.head
    refine SemLit.step (hb.rn (t ++ rest) off) ?_
    rw [show (b :: t) ++ rest = [b] ++ (t ++ rest) from rfl, hb.next,
      logRead_vt _ _ _ (hx.tail.appendV hr)]
    have e : off + (b :: t).length = off + [b].length + t.length := by simp; omega
    rw [e]
    exact ih _ hx.tail

theorem toNat_inj {a b : UInt8} (h : a.toNat = b.toNat) : a = b := UInt8.toNat_inj.1 h

theorem semLit_fail (rule : String) (x s : GoString) (off : Nat) (errs : List PErr)
    (hx : Asc x) (hs : VT s) (h : GoString.isPrefixOf x s = false) :
    ∃ pt', SemLit rule (runesOf x) (ptAt s off) errs pt' errs false := by
  induction x generalizing s off with
  | nil => simp [GoString.isPrefixOf] at h
  | cons a x ih =>
    rcases RunesIn.uncons hs with rfl | ⟨y, r, t, rfl, hy, _, ht⟩
    · refine ⟨_, SemLit.mismatch ?_⟩
      have := hx.head
      simp [ptAt, Utf8.decodeRune, Utf8.runeError]; omega
    · by_cases hra : r = a.toNat
      · -- the rune is the ASCII byte `a`: go on behind it
        cases hy with
        | rune hv h80 => have := hx.head; omega
        | @asc b hb =>
          cases toNat_inj hra
          simp [GoString.isPrefixOf] at h
          obtain ⟨pt', h'⟩ := ih t (off + [a].length) hx.tail ht h
          refine ⟨pt', SemLit.step ((Enc.asc hb).rn t off) ?_⟩
          rw [(Enc.asc hb).next, logRead_vt _ _ _ ht]
          exact h'
      · exact ⟨_, SemLit.mismatch (by rw [hy.rn]; exact hra)⟩

variable {rule : String} {fr : Frame} {rest s : GoString} {off : Nat} {errs : List PErr}

theorem Eats.lit {ws : List Nat} (x : GoString) (hw : runesOf x = ws) (hx : Asc x) (hr : VT rest) :
    Eats rule (.lit ws false) fr x rest off errs fr (.bytes x) := by
  subst hw
  have := Sem.lit_ok (env := E) (g := G) (fr := fr) (semLit_ok rule x rest off errs hx hr)
  rw [sliceFrom_ptAt] at this
  exact this

theorem Fails.lit {ws : List Nat} (x : GoString) (hw : runesOf x = ws) (hx : Asc x) (hs : VT s)
    (h : GoString.isPrefixOf x s = false) :
    Fails rule (.lit ws false) fr s off errs := by
  subst hw
  obtain ⟨pt', h'⟩ := semLit_fail rule x s off errs hx hs h
  exact ⟨_, _, Sem.lit_fail h'⟩

example (hr : VT rest) : Eats rule (.lit [110, 111, 116] false) fr [110,111,116] rest off errs fr (.bytes [110,111,116]) :=
  Eats.lit _ rfl (by decide) hr


/-! ## 3. Character classes; `.` -/

/-- membership in `[chars ranges]` -/
def inCls (chars ranges : List Nat) (n : Nat) : Bool :=
  chars.contains n || classMatches.inRanges n ranges

/-- the engine's class test: the listed characters and ranges first, then the Unicode classes -/
theorem classMatches_eq (env : Env) (chars ranges : List Nat) (classes : List String) (n : Nat) :
    classMatches env chars ranges classes n =
      if inCls chars ranges n = true then some true else classMatches.inClasses env n classes := by
  unfold classMatches inCls
  by_cases h1 : chars.contains n = true
  · rw [if_pos h1, h1]; rfl
  · rw [if_neg h1, Bool.eq_false_iff.2 h1, Bool.false_or]

theorem classMatches_plain (env : Env) (chars ranges : List Nat) (n : Nat) :
    classMatches env chars ranges [] n = some (inCls chars ranges n) := by
  rw [classMatches_eq]
  cases inCls chars ranges n <;> rfl

/-- the first byte of `s` satisfies `p` (false at end of input) -/
def headIn (p : Nat → Bool) (s : GoString) : Bool :=
  match s with
  | [] => false
  | b :: _ => p b.toNat

theorem headIn_imp {p q : Nat → Bool} (hpq : ∀ n, p n = true → q n = true)
    (h : headIn p s = true) : headIn q s = true := by
  cases s with
  | nil => cases h
  | cons b t => exact hpq _ h

/-- the contrapositive, for input that does not start in the larger class -/
theorem headIn_mono {p q : Nat → Bool} (hpq : ∀ n, p n = true → q n = true)
    (h : headIn q s = false) : headIn p s = false := by
  cases hp : headIn p s with
  | false => rfl
  | true => exact absurd ((headIn_imp hpq hp).symm.trans h) nofun

theorem headIn_disjoint {p q : Nat → Bool} (hpq : ∀ n, p n = true → q n = false)
    (h : headIn p s = true) : headIn q s = false := by
  cases s with
  | nil => rfl
  | cons b t => exact hpq _ h

theorem inCls_range {lo hi n : Nat} : inCls [] [lo, hi] n = true ↔ lo ≤ n ∧ n ≤ hi := by
  simp [inCls, classMatches.inRanges]

theorem not_prefix_of_ne {q b : UInt8} {x : GoString} (h : b ≠ q) (t : GoString) :
    GoString.isPrefixOf (q :: x) (b :: t) = false := by
  have : ¬ q = b := fun e => h e.symm
  simp [GoString.isPrefixOf, this]

theorem not_prefix_of_headIn {p : Nat → Bool} {c : UInt8} {x : GoString}
    (hc : p c.toNat = false) (h : headIn p s = true) : GoString.isPrefixOf (c :: x) s = false := by
  cases s with
  | nil => rfl
  | cons b t => exact not_prefix_of_ne (fun e => by subst e; exact absurd (hc.symm.trans h) nofun) t

theorem not_prefix_of_not_headIn {p : Nat → Bool} {c : UInt8} {x : GoString}
    (hc : p c.toNat = true) (h : headIn p s = false) : GoString.isPrefixOf (c :: x) s = false := by
  cases s with
  | nil => rfl
  | cons b t => exact not_prefix_of_ne (fun e => by subst e; exact absurd (h.symm.trans hc) nofun) t

section one_rune
variable {x : GoString} {r : Nat} {chars ranges : List Nat} {classes : List String}
  {p : Nat → Bool}

theorem Eats.anyG (h : Enc x r) (hr : VT rest) :
    Eats rule .any fr x rest off errs fr (.bytes x) := by
  have := Sem.any_ok (env := E) (g := G) (rule := rule) (fr := fr) (errs := errs)
    (h.not_atEOF rest off)
  rw [h.next, logRead_vt _ _ _ hr, sliceFrom_ptAt] at this
  exact this

theorem Eats.clsG (hcm : ∀ n, classMatches E chars ranges classes n = some (p n))
    (h : Enc x r) (hin : p r = true) (hr : VT rest) :
    Eats rule (.charClass chars ranges classes false false) fr x rest off errs fr (.bytes x) := by
  have := Sem.class_ok (env := E) (g := G) (rule := rule) (fr := fr) (errs := errs)
    (inverted := false) (h.not_atEOF rest off) (by rw [h.rn, hcm, hin]) (by decide)
  rw [h.next, logRead_vt _ _ _ hr, sliceFrom_ptAt] at this
  exact this

theorem Fails.clsG (hcm : ∀ n, classMatches E chars ranges classes n = some (p n))
    (h : s = [] ∨ ∃ x r t, s = x ++ t ∧ Enc x r ∧ p r = false) :
    Fails rule (.charClass chars ranges classes false false) fr s off errs := by
  rcases h with rfl | ⟨x, r, t, rfl, h, hp⟩
  · exact ⟨_, _, Sem.class_eof (atEOF_nil off)⟩
  · exact ⟨_, _, Sem.class_fail (hit := false) (h.not_atEOF t off) (by rw [h.rn, hcm, hp]) rfl⟩

end one_rune

theorem Eats.cls {chars ranges : List Nat} {b : UInt8} (hb : b.toNat < 128)
    (hin : inCls chars ranges b.toNat = true) (hr : VT rest) :
    Eats rule (.charClass chars ranges [] false false) fr [b] rest off errs fr (.bytes [b]) :=
  Eats.clsG (classMatches_plain E chars ranges) (.asc hb) hin hr

/-- all listed characters and range bounds of the class are ASCII (true of every class of the
    bexpr grammar except the JSON-pointer segment class, which also has Unicode classes) -/
def ClsAsc (chars ranges : List Nat) : Prop := (∀ c ∈ chars, c < 128) ∧ (∀ r ∈ ranges, r < 128)

instance (chars ranges : List Nat) : Decidable (ClsAsc chars ranges) := by
  unfold ClsAsc; infer_instance

theorem inRanges_lt (n : Nat) : ∀ (rs : List Nat), (∀ r ∈ rs, r < 128) →
    classMatches.inRanges n rs = true → n < 128
  | [], _, h => by simp [classMatches.inRanges] at h
  | [_], _, h => by simp [classMatches.inRanges] at h
  | lo :: hi :: rs, hb, h => by
    simp only [classMatches.inRanges, Bool.or_eq_true, Bool.and_eq_true, decide_eq_true_eq] at h
    rcases h with ⟨_, h2⟩ | h
    · have := hb hi (by simp); omega
    · exact inRanges_lt n rs (fun r hr => hb r (by simp [hr])) h

theorem inCls_lt {chars ranges : List Nat} (hc : ∀ c ∈ chars, c < 128) (hr : ∀ r ∈ ranges, r < 128)
    {n : Nat} (h : inCls chars ranges n = true) : n < 128 := by
  simp only [inCls, Bool.or_eq_true, List.contains_eq_mem, decide_eq_true_eq] at h
  rcases h with h | h
  · exact hc n h
  · exact inRanges_lt n ranges hr h

/-- `headIn` tests the first BYTE: a multi-byte rune has lead byte and value `≥ 0x80`, neither
    is in an ASCII-only class. -/
theorem Fails.cls {chars ranges : List Nat} (hca : ClsAsc chars ranges) (hs : VT s)
    (h : headIn (inCls chars ranges) s = false) :
    Fails rule (.charClass chars ranges [] false false) fr s off errs := by
  refine Fails.clsG (classMatches_plain E chars ranges) ?_
  rcases RunesIn.uncons hs with rfl | ⟨x, r, t, rfl, hx, _, _⟩
  · exact .inl rfl
  · refine .inr ⟨x, r, t, rfl, hx, ?_⟩
    cases hx with
    | asc hb => exact h
    | rune hv h80 =>
      cases hc : inCls chars ranges r with
      | false => rfl
      | true => have := inCls_lt hca.1 hca.2 hc; omega

theorem EatsStar.cls {chars ranges : List Nat} (hca : ClsAsc chars ranges) (x : GoString)
    (hx : Asc x) (hr : VT rest)
    (hin : ∀ b ∈ x, inCls chars ranges b.toNat = true)
    (hstop : headIn (inCls chars ranges) rest = false) :
    EatsStar rule (.charClass chars ranges [] false false) x rest off errs
      (x.map fun b => .bytes [b]) := by
  induction x generalizing off with
  | nil => exact EatsStar.stop (Fails.cls hca hr hstop)
  | cons b t ih =>
    have h1 : Eats rule (.charClass chars ranges [] false false) [] [b] (t ++ rest) off errs []
        (.bytes [b]) := Eats.cls hx.head (hin b (List.mem_cons_self ..)) (hx.tail.appendV hr)
    exact EatsStar.more h1 (ih hx.tail (fun c hc => hin c (List.mem_cons_of_mem _ hc)))


/-! ## 4. Code blocks

  The rows `look_X` / `sem_onX` (in the sections that follow) point at their entry by index; a
  `sem_onX` row evaluates the template match of that one code block. -/

theorem act_of_sem {name : String} {sem : ActionSem} (h : lookupSem pinSem name = sem)
    (fr : Frame) (t : GoString) : E.action name fr t = runActionSem sem fr t := by
  show runActionSem (lookupSem pinSem name) fr t = _
  rw [h]

theorem frame_get_head (l : String) (v : PVal) (fr : Frame) : Frame.get ((l, v) :: fr) l = v := by
  simp [Frame.get, List.find?]

theorem act_retLabel {name l : String} (h : lookupSem pinSem name = .retLabel l) (v : PVal)
    (fr : Frame) (t : GoString) : E.action name ((l, v) :: fr) t = .ret v none := by
  rw [act_of_sem h]
  exact congrArg (ActOut.ret · none) (frame_get_head ..)

/-! ## 5. Byte classes of the grammar; whitespace `_`; `EOF` -/

abbrev isWs : Nat → Bool := inCls [32, 9, 13, 10] []
abbrev isAlpha : Nat → Bool := inCls [] [97, 122, 65, 90]
abbrev isIdc : Nat → Bool := inCls [95, 47] [97, 122, 65, 90, 48, 57]
abbrev isDigit : Nat → Bool := inCls [] [48, 57]
abbrev isDigit19 : Nat → Bool := inCls [] [49, 57]

/-- all bytes of `x` satisfy `p` -/
def AllIn (p : Nat → Bool) (x : GoString) : Prop := ∀ b ∈ x, p b.toNat = true

instance (p : Nat → Bool) (x : GoString) : Decidable (AllIn p x) := by unfold AllIn; infer_instance

theorem AllIn.nil {p : Nat → Bool} : AllIn p [] := by intro b hb; cases hb
theorem AllIn.cons {p : Nat → Bool} {b : UInt8} {t : GoString} (hb : p b.toNat = true)
    (ht : AllIn p t) : AllIn p (b :: t) := by
  intro c hc
  rcases List.mem_cons.1 hc with rfl | h
  · exact hb
  · exact ht c h
theorem AllIn.head {p : Nat → Bool} {b : UInt8} {t : GoString} (h : AllIn p (b :: t)) :
    p b.toNat = true := h b (List.mem_cons_self ..)
theorem AllIn.tail {p : Nat → Bool} {b : UInt8} {t : GoString} (h : AllIn p (b :: t)) :
    AllIn p t := fun c hc => h c (List.mem_cons_of_mem _ hc)
theorem AllIn.append {p : Nat → Bool} {s t : GoString} (hs : AllIn p s) (ht : AllIn p t) :
    AllIn p (s ++ t) := by
  intro c hc
  rcases List.mem_append.1 hc with h | h
  · exact hs c h
  · exact ht c h

theorem AllIn.asc {p : Nat → Bool} (hp : ∀ n, p n = true → n < 128) {x : GoString}
    (h : AllIn p x) : Asc x := fun b hb => hp _ (h b hb)

theorem span_cls (p : Nat → Bool) (s : GoString) :
    ∃ a b, s = a ++ b ∧ AllIn p a ∧ headIn p b = false := by
  induction s with
  | nil => exact ⟨[], [], rfl, AllIn.nil, rfl⟩
  | cons c t ih =>
    by_cases hc : p c.toNat = true
    · obtain ⟨a, b, rfl, ha, hb⟩ := ih
      exact ⟨c :: a, b, rfl, AllIn.cons hc ha, hb⟩
    · exact ⟨[], c :: t, rfl, AllIn.nil, by simpa [headIn] using hc⟩

/-- a possibly empty run of blanks (`_?`) -/
def Blank (w : GoString) : Prop := AllIn isWs w
/-- a non-empty run of blanks (`_`) -/
def Blank1 (w : GoString) : Prop := w ≠ [] ∧ AllIn isWs w

instance (w : GoString) : Decidable (Blank w) := by unfold Blank; infer_instance
instance (w : GoString) : Decidable (Blank1 w) := by unfold Blank1; infer_instance

theorem isWs_lt {n : Nat} (h : isWs n = true) : n < 128 := inCls_lt (by decide) (by decide) h
theorem isAlpha_lt {n : Nat} (h : isAlpha n = true) : n < 128 := inCls_lt (by decide) (by decide) h
theorem isIdc_lt {n : Nat} (h : isIdc n = true) : n < 128 := inCls_lt (by decide) (by decide) h
theorem isDigit_lt {n : Nat} (h : isDigit n = true) : n < 128 := inCls_lt (by decide) (by decide) h
theorem isDigit19_lt {n : Nat} (h : isDigit19 n = true) : n < 128 :=
  inCls_lt (by decide) (by decide) h

theorem isWs_iff {n : Nat} : isWs n = true ↔ n = 32 ∨ n = 9 ∨ n = 13 ∨ n = 10 := by
  simp [inCls, classMatches.inRanges]

theorem not_of_isWs {p : Nat → Bool} (h32 : p 32 = false) (h9 : p 9 = false)
    (h13 : p 13 = false) (h10 : p 10 = false) {n : Nat} (h : isWs n = true) : p n = false := by
  rcases isWs_iff.1 h with rfl | rfl | rfl | rfl <;> assumption

theorem headIn_noWs {p : Nat → Bool} (h32 : p 32 = false) (h9 : p 9 = false)
    (h13 : p 13 = false) (h10 : p 10 = false) (h : headIn p s = true) : headIn isWs s = false := by
  cases s with
  | nil => rfl
  | cons b t =>
    cases hw : isWs b.toNat with
    | false => exact hw
    | true => exact absurd ((not_of_isWs h32 h9 h13 h10 hw).symm.trans h) nofun

theorem look_ws : lookupRule G "_" = some Pinned.Grammar.rule_35 := lookupRule_pin 35 rfl rfl
theorem look_EOF : lookupRule G "EOF" = some Pinned.Grammar.rule_36 := lookupRule_pin 36 rfl rfl

def bytesOf (x : GoString) : List PVal := x.map fun b => .bytes [b]

/-- the rule `_`: a non-empty run of blanks, maximal -/
theorem eats_ws {b : UInt8} {ws : GoString} (hws : AllIn isWs (b :: ws))
    (hstop : headIn isWs rest = false) (hr : VT rest) :
    Eats rule (.ruleRef "_") fr (b :: ws) rest off errs fr (.list (bytesOf (b :: ws))) := by
  have ha : Asc (b :: ws) := hws.asc @isWs_lt
  apply Eats.ref look_ws
  exact Eats.plus (a := [b]) (Eats.cls ha.head hws.head (ha.tail.appendV hr))
    (EatsStar.cls (by decide) ws ha.tail hr hws.tail hstop)

theorem eats_ws1 {w : GoString} (hw : Blank1 w) (hstop : headIn isWs rest = false)
    (hr : VT rest) :
    Eats rule (.ruleRef "_") fr w rest off errs fr (.list (bytesOf w)) := by
  obtain ⟨hne, hws⟩ := hw
  cases w with
  | nil => exact absurd rfl hne
  | cons b t => exact eats_ws hws hstop hr

theorem fails_ws (hs : VT s) (h : headIn isWs s = false) :
    Fails rule (.ruleRef "_") fr s off errs :=
  Fails.ref look_ws (Fails.plus (Fails.cls (by decide) hs h))

/-- `_?`: any run of blanks (possibly empty), maximal -/
theorem eats_optWs {ws : GoString} (hws : AllIn isWs ws)
    (hstop : headIn isWs rest = false) (hr : VT rest) :
    ∃ v, Eats rule (.zeroOrOne (.ruleRef "_")) fr ws rest off errs fr v := by
  cases ws with
  | nil => exact ⟨_, Eats.opt_none (fails_ws hr hstop)⟩
  | cons b t => exact ⟨_, Eats.opt_some (eats_ws hws hstop hr)⟩

theorem EatsSeq.optWsE {es : List PExpr} {fr₂ : Frame} {w b : GoString} (hw : AllIn isWs w)
    (hstop : headIn isWs (b ++ rest) = false) (hr : VT (b ++ rest))
    (h2 : ∃ vs, EatsSeq rule es fr b rest (off + w.length) errs fr₂ vs) :
    ∃ vs, EatsSeq rule (.zeroOrOne (.ruleRef "_") :: es) fr (w ++ b) rest off errs fr₂ vs :=
  (eats_optWs hw hstop hr).elim fun _ e => EatsSeq.consE e h2

theorem FailsSeq.optWs' {es : List PExpr} {w b : GoString} (hw : AllIn isWs w)
    (hstop : headIn isWs (b ++ rest) = false) (hr : VT (b ++ rest))
    (h2 : FailsSeq rule es fr (b ++ rest) (off + w.length) errs) :
    FailsSeq rule (.zeroOrOne (.ruleRef "_") :: es) fr ((w ++ b) ++ rest) off errs :=
  (eats_optWs hw hstop hr).elim fun _ e => FailsSeq.later' e h2

/-- `EOF <- !.` -/
theorem eats_EOF : Eats rule (.ruleRef "EOF") fr [] [] off errs fr .nil := by
  apply Eats.ref look_EOF
  exact Eats.notP ⟨_, _, Sem.any_eof (atEOF_nil off)⟩

theorem fails_EOF (hs : VT s) (hne : s ≠ []) :
    Fails rule (.ruleRef "EOF") fr s off errs := by
  rcases RunesIn.uncons hs with rfl | ⟨x, r, t, rfl, hx, _, ht⟩
  · exact absurd rfl hne
  · exact Fails.ref look_EOF (Fails.notP (Eats.anyG hx ht))

theorem sem_onIdentifier1 : lookupSem pinSem "onIdentifier1" = .textAll :=
  lookupSem_pin 36 (by decide +kernel)
theorem sem_onNumberLiteral2 : lookupSem pinSem "onNumberLiteral2" = .textAll :=
  lookupSem_pin 46 (by decide +kernel)
theorem sem_onStringLiteral2 : lookupSem pinSem "onStringLiteral2" = .unquoteText :=
  lookupSem_pin 48 (by decide +kernel)

/-! ## 6. `Identifier` -/

theorem look_Identifier : lookupRule G "Identifier" = some Pinned.Grammar.rule_25 :=
  lookupRule_pin 25 rfl rfl

/-- `Identifier <- [a-zA-Z] [a-zA-Z0-9_/]*` takes the maximal prefix and returns its text. -/
theorem eats_Identifier {b : UInt8} {x : GoString} (hb : isAlpha b.toNat = true)
    (hx : AllIn isIdc x) (hstop : headIn isIdc rest = false) (hr : VT rest) :
    Eats rule (.ruleRef "Identifier") fr (b :: x) rest off errs fr (.str (b :: x)) := by
  have hxa : Asc x := hx.asc @isIdc_lt
  apply Eats.ref look_Identifier
  apply Eats.action (av := .str (b :: x)) (ha := by rw [act_of_sem sem_onIdentifier1]; rfl)
  apply Eats.seq
  exact EatsSeq.cons (a := [b]) (Eats.cls (isAlpha_lt hb) hb (hxa.appendV hr))
    (EatsSeq.one (Eats.star (EatsStar.cls (by decide) x hxa hr hx hstop)))

theorem fails_Identifier (hs : VT s) (h : headIn isAlpha s = false) :
    Fails rule (.ruleRef "Identifier") fr s off errs :=
  Fails.ref look_Identifier (Fails.action (Fails.seq_here (Fails.cls (by decide) hs h)))


/-! ## 7. `NumberLiteral` -/

/-- what may follow a number: end of input, a blank, or `)` -/
def numFollow (rest : GoString) : Bool :=
  match rest with
  | [] => true
  | b :: _ => isWs b.toNat || b == 41

theorem look_NumberLiteral : lookupRule G "NumberLiteral" = some Pinned.Grammar.rule_29 :=
  lookupRule_pin 29 rfl rfl
theorem look_AfterNumbers : lookupRule G "AfterNumbers" = some Pinned.Grammar.rule_30 :=
  lookupRule_pin 30 rfl rfl
theorem look_IntegerOrFloat : lookupRule G "IntegerOrFloat" = some Pinned.Grammar.rule_31 :=
  lookupRule_pin 31 rfl rfl

theorem numFollow_cons {b : UInt8} {t : GoString} (hf : numFollow (b :: t) = true) :
    isWs b.toNat = true ∨ b = 41 := by
  simpa only [numFollow, Bool.or_eq_true, beq_iff_eq] using hf

/-- `AfterNumbers <- &(_ / EOF / ")")` -/
theorem eats_AfterNumbers (hr : VT rest) (hf : numFollow rest = true) :
    Eats rule (.ruleRef "AfterNumbers") fr [] rest off errs fr .nil := by
  cases rest with
  | nil =>
    exact Eats.ref look_AfterNumbers (Eats.andP (x := []) (rest := [])
      (Eats.choice_next (fails_ws VT.nil rfl) (Eats.choice_hit eats_EOF)))
  | cons b t =>
    apply Eats.ref look_AfterNumbers
    rcases numFollow_cons hf with hb | rfl
    · obtain ⟨ws, r', rfl, hws, hstop⟩ := span_cls isWs t
      have hws' : AllIn isWs (b :: ws) := AllIn.cons hb hws
      exact Eats.andP (x := b :: ws) (rest := r')
        (Eats.choice_hit (eats_ws hws' hstop (VT.right (hws'.asc @isWs_lt) hr)))
    · have h1 : Fails Pinned.Grammar.rule_30.shown (.ruleRef "_") [] ([41] ++ t) off errs :=
        fails_ws hr (by rfl)
      have h2 : Fails Pinned.Grammar.rule_30.shown (.ruleRef "EOF") [] ([41] ++ t) off errs :=
        fails_EOF hr (by simp)
      exact Eats.andP (x := [41]) (rest := t)
        (Eats.choice_next h1 (Eats.choice_next h2
          (Eats.choice_hit (Eats.lit [41] rfl (by decide) (VT.tail (by decide) hr)))))

/-- spelling of a number: sign, integer part (`0` or `[1-9][0-9]*`), fraction digits
    (`[]` = no fraction) -/
structure NumLit where
  neg : Bool
  int : GoString
  frac : GoString

def NumLit.WF (n : NumLit) : Prop :=
  (n.int = [48] ∨ ∃ d ds, n.int = d :: ds ∧ isDigit19 d.toNat = true ∧ AllIn isDigit ds) ∧
  AllIn isDigit n.frac

instance decExistsCons {α : Type} (l : List α) (P : α → List α → Prop)
    [∀ d ds, Decidable (P d ds)] : Decidable (∃ d ds, l = d :: ds ∧ P d ds) :=
  match l with
  | [] => isFalse fun ⟨_, _, h, _⟩ => by cases h
  | d :: ds => decidable_of_iff (P d ds)
      ⟨fun h => ⟨d, ds, rfl, h⟩, fun ⟨_, _, h, hp⟩ => by cases h; exact hp⟩

instance NumLit.decWF (n : NumLit) : Decidable n.WF := by unfold NumLit.WF; infer_instance

def NumLit.sign (n : NumLit) : GoString := if n.neg then [45] else []
def NumLit.fracText (n : NumLit) : GoString := if n.frac = [] then [] else 46 :: n.frac
def NumLit.text (n : NumLit) : GoString := n.sign ++ (n.int ++ n.fracText)

theorem headIn_digit_of_numFollow (hf : numFollow rest = true) : headIn isDigit rest = false := by
  cases rest with
  | nil => rfl
  | cons b t =>
    cases hd : isDigit b.toNat with
    | false => exact hd
    | true =>
      have := inCls_range.1 hd
      rcases numFollow_cons hf with h | rfl
      · have := isWs_iff.1 h; omega
      · exact absurd hd (by decide)

theorem isDigit_of_19 {n : Nat} (h : isDigit19 n = true) : isDigit n = true :=
  inCls_range.2 (by have := inCls_range.1 h; omega)

/-- the integer part of a number starts with a digit -/
theorem NumLit.int_head (n : NumLit) (h : n.WF) (t : GoString) :
    headIn isDigit (n.int ++ t) = true := by
  rcases h.1 with h0 | ⟨d, ds, hd, hd19, _⟩
  · rw [h0]; rfl
  · rw [hd]; exact isDigit_of_19 hd19

theorem eats_intPart {int : GoString}
    (h : int = [48] ∨ ∃ d ds, int = d :: ds ∧ isDigit19 d.toNat = true ∧ AllIn isDigit ds)
    (hstop : headIn isDigit rest = false) (hr : VT rest) :
    ∃ v, Eats rule (.choice [.lit [48] false,
      .seq [.charClass [] [49, 57] [] false false,
        .zeroOrMore (.charClass [] [48, 57] [] false false)]]) fr int rest off errs fr v := by
  rcases h with rfl | ⟨d, ds, rfl, hd, hds⟩
  · exact ⟨_, Eats.choice_hit (Eats.lit [48] rfl (by decide) hr)⟩
  · have hdsa : Asc ds := hds.asc @isDigit_lt
    have hdl := isDigit19_lt hd
    have hp : GoString.isPrefixOf [48] (d :: ds ++ rest) = false :=
      not_prefix_of_ne (fun e => absurd (inCls_range.1 (e ▸ hd)) (by decide)) _
    exact ⟨_, Eats.choice_next (Fails.lit [48] rfl (by decide)
      (VT.cons hdl (hdsa.appendV hr)) hp) (Eats.choice_hit (Eats.seq
        (EatsSeq.cons (a := [d]) (Eats.cls hdl hd (hdsa.appendV hr))
          (EatsSeq.one (Eats.star (EatsStar.cls (by decide) ds hdsa hr hds hstop))))))⟩

theorem eats_optFrac (n : NumLit) (hfrac : AllIn isDigit n.frac) (hf : numFollow rest = true)
    (hr : VT rest) :
    ∃ v, Eats rule (.zeroOrOne (.seq [.lit [46] false,
      .oneOrMore (.charClass [] [48, 57] [] false false)])) fr n.fracText rest off errs fr v := by
  unfold NumLit.fracText
  cases hfs : n.frac with
  | nil =>
    -- no fraction: a follow byte is not `.`
    have hdot : GoString.isPrefixOf [46] rest = false := by
      cases rest with
      | nil => rfl
      | cons b t =>
        refine not_prefix_of_ne (fun e => ?_) t
        rcases numFollow_cons (e ▸ hf) with h | h
        · exact absurd h (by decide)
        · exact absurd h (by decide)
    exact ⟨_, Eats.opt_none (Fails.seq_here (Fails.lit [46] rfl (by decide) hr hdot))⟩
  | cons f fs =>
    rw [hfs] at hfrac
    have hfa : Asc (f :: fs) := hfrac.asc @isDigit_lt
    exact ⟨_, Eats.opt_some (Eats.seq (EatsSeq.cons (a := [46])
      (Eats.lit [46] rfl (by decide) (hfa.appendV hr))
      (EatsSeq.one (Eats.plus (a := [f]) (Eats.cls hfa.head hfrac.head (hfa.tail.appendV hr))
        (EatsStar.cls (by decide) fs hfa.tail hr hfrac.tail (headIn_digit_of_numFollow hf))))))⟩

theorem eats_IntegerOrFloat (n : NumLit) (hn : n.WF) (hf : numFollow rest = true) (hr : VT rest) :
    ∃ v, Eats rule (.ruleRef "IntegerOrFloat") fr (n.int ++ n.fracText) rest off errs fr v := by
  obtain ⟨hint, hfrac⟩ := hn
  obtain ⟨v₂, h₂⟩ := eats_optFrac (rule := Pinned.Grammar.rule_31.shown) (fr := [])
    (off := off + n.int.length) (errs := errs) n hfrac hf hr
  -- the integer part stops at the `.` of the fraction, or at the follow byte
  have hstop : headIn isDigit (n.fracText ++ rest) = false := by
    unfold NumLit.fracText
    split
    · exact headIn_digit_of_numFollow hf
    · rfl
  have hv : VT (n.fracText ++ rest) := by
    unfold NumLit.fracText
    split
    · exact hr
    · exact (Asc.cons (by decide) (hfrac.asc @isDigit_lt)).appendV hr
  obtain ⟨v₁, h₁⟩ := eats_intPart (rule := Pinned.Grammar.rule_31.shown) (fr := []) (off := off)
    (errs := errs) hint hstop hv
  exact ⟨_, Eats.ref look_IntegerOrFloat (Eats.seq (EatsSeq.cons h₁ (EatsSeq.one h₂)))⟩

theorem NumLit.text_asc (n : NumLit) (hn : n.WF) : Asc n.text := by
  obtain ⟨hint, hfrac⟩ := hn
  have h1 : Asc n.sign := by unfold NumLit.sign; split <;> decide
  have h2 : Asc n.int := by
    rcases hint with h | ⟨d, ds, h, hd, hds⟩
    · rw [h]; decide
    · rw [h]; exact Asc.cons (isDigit19_lt hd) (hds.asc @isDigit_lt)
  have h3 : Asc n.fracText := by
    unfold NumLit.fracText
    split
    · exact Asc.nil
    · exact Asc.cons (by decide) (hfrac.asc @isDigit_lt)
  exact h1.append (h2.append h3)

theorem eats_NumberLiteral (n : NumLit) (hn : n.WF) (hf : numFollow rest = true) (hr : VT rest) :
    Eats rule (.ruleRef "NumberLiteral") fr n.text rest off errs fr (.str n.text) := by
  obtain ⟨v, hv⟩ := eats_IntegerOrFloat (rule := Pinned.Grammar.rule_29.shown) (fr := [])
    (off := off + n.sign.length) (errs := errs) n hn hf hr
  have hbody : Asc (n.int ++ n.fracText) := (n.text_asc hn).right
  have hsign : ∃ v, Eats Pinned.Grammar.rule_29.shown (.zeroOrOne (.lit [45] false)) [] n.sign
      (n.int ++ n.fracText ++ rest) off errs [] v := by
    unfold NumLit.sign
    split
    · exact ⟨_, Eats.opt_some (Eats.lit [45] rfl (by decide) (hbody.appendV hr))⟩
    · refine ⟨_, Eats.opt_none (Fails.lit [45] rfl (by decide) (hbody.appendV hr) ?_)⟩
      rw [List.append_assoc]
      exact not_prefix_of_headIn (p := isDigit) rfl (n.int_head hn _)
  obtain ⟨vs, hvs⟩ := hsign
  have h3 : Eats Pinned.Grammar.rule_29.shown (.andP (.ruleRef "AfterNumbers")) [] [] ([] ++ rest)
      (off + n.sign.length + (n.int ++ n.fracText).length) errs [] .nil :=
    Eats.andP (x := []) (eats_AfterNumbers hr hf)
  have hseq := EatsSeq.cons hvs (EatsSeq.two0 hv h3)
  have hseq' : EatsSeq Pinned.Grammar.rule_29.shown _ [] n.text rest off errs [] _ := hseq
  exact Eats.ref look_NumberLiteral (Eats.choice_hit (Eats.action (Eats.seq hseq')
    (by rw [act_of_sem sem_onNumberLiteral2]; rfl)))


/-! ## 8. `StringLiteral` -/

theorem look_StringLiteral : lookupRule G "StringLiteral" = some Pinned.Grammar.rule_32 :=
  lookupRule_pin 32 rfl rfl
theorem look_RawStringChar : lookupRule G "RawStringChar" = some Pinned.Grammar.rule_33 :=
  lookupRule_pin 33 rfl rfl
theorem look_DoubleStringChar : lookupRule G "DoubleStringChar" = some Pinned.Grammar.rule_34 :=
  lookupRule_pin 34 rfl rfl

theorem Eats.any {b : UInt8} (hb : b.toNat < 128) (hr : VT rest) :
    Eats rule .any fr [b] rest off errs fr (.bytes [b]) := Eats.anyG (.asc hb) hr

theorem Eats.any_rune {r : Nat} (hv : Utf8.validRune r = true) (h80 : 0x80 ≤ r) (hr : VT rest) :
    Eats rule .any fr (Utf8.encodeRune r) rest off errs fr (.bytes (Utf8.encodeRune r)) :=
  Eats.anyG (.rune hv h80) hr

/-- the bytes of a multi-byte encoding are not ASCII -/
theorem encodeRune_ge80 {r : Nat} (h80 : 0x80 ≤ r) (hv : Utf8.validRune r = true) :
    ∀ c ∈ Utf8.encodeRune r, 0x80 ≤ c.toNat := by
  intro c hc
  have hv' : r < 0xD800 ∨ (0xDFFF < r ∧ r ≤ 0x10FFFF) := by
    unfold Utf8.validRune Utf8.maxRune at hv
    simp only [Bool.or_eq_true, Bool.and_eq_true, decide_eq_true_eq] at hv
    exact hv
  -- a lead byte is `a + q` with `a` one of `0xC0`, `0xE0`, `0xF0` (only `0x80 ≤ a` is used), a
  -- continuation byte `0x80 + k % 64`; neither wraps
  have lead : ∀ a q, 0x80 ≤ a → a + q < 256 → 0x80 ≤ (a + q).toUInt8.toNat := fun a q ha h => by
    rw [Utf8.toNat_toUInt8_of_lt h]; omega
  have cont : ∀ k, 0x80 ≤ (0x80 + k % 64).toUInt8.toNat := fun k =>
    lead _ _ (Nat.le_refl _) (by omega)
  by_cases h2 : r ≤ 0x7FF
  · rw [Utf8.encodeRune_2 h80 h2] at hc
    simp only [List.mem_cons, List.not_mem_nil, or_false] at hc
    rcases hc with rfl | rfl
    · exact lead _ _ (by decide) (by omega)
    · exact cont _
  · by_cases h3 : r ≤ 0xFFFF
    · rw [Utf8.encodeRune_3 (by omega) h3 (by omega)] at hc
      simp only [List.mem_cons, List.not_mem_nil, or_false] at hc
      rcases hc with rfl | rfl | rfl
      · exact lead _ _ (by decide) (by omega)
      · exact cont _
      · exact cont _
    · rw [Utf8.encodeRune_4 (by omega) (by omega)] at hc
      simp only [List.mem_cons, List.not_mem_nil, or_false] at hc
      rcases hc with rfl | rfl | rfl | rfl
      · exact lead _ _ (by decide) (by omega)
      · exact cont _
      · exact cont _
      · exact cont _

/-- `XStringChar <- !'q' .` repeated over a body of valid text without the byte `q`, up to the
    closing `q`: ASCII bytes one by one, multi-byte runes whole -/
theorem eatsStar_until {name : String} {r : Rule} {q : UInt8} (hl : lookupRule G name = some r)
    (he : r.expr = .seq [.notP (.lit [q.toNat] false), .any])
    (hq : q.toNat < 128) (body : GoString) (hb : VT body) (hnq : ∀ c ∈ body, c ≠ q)
    (hr : VT rest) :
    ∃ vs, EatsStar rule (.ruleRef name) body (q :: rest) off errs vs := by
  have hqa : Asc [q] := Asc.cons hq Asc.nil
  refine RunesIn.induction_enc (motive := fun body => ∀ off, (∀ c ∈ body, c ≠ q) →
    ∃ vs, EatsStar rule (.ruleRef name) body (q :: rest) off errs vs) ?_ ?_ hb off hnq
  · intro off _
    refine ⟨_, EatsStar.stop (Fails.ref hl ?_)⟩
    rw [he]
    exact Fails.seq_here (Fails.notP (x := [q]) (Eats.lit [q] rfl hqa hr))
  · intro x ρ t hx _ ht ih off hnq
    have hrest : VT (t ++ q :: rest) := VT.append ht (VT.cons hq hr)
    -- no byte of the rune is `q`, so the closing quote is not seen here
    have hp : GoString.isPrefixOf [q] (x ++ (t ++ q :: rest)) = false := by
      cases x with
      | nil => exact absurd hx.length_pos (Nat.lt_irrefl 0)
      | cons c x' =>
        exact not_prefix_of_ne (hnq c (List.mem_append_left _ (List.mem_cons_self ..))) _
    have h1 : Eats r.shown (.notP (.lit [q.toNat] false)) [] [] (x ++ (t ++ q :: rest)) off errs []
        .nil := Eats.notP (Fails.lit [q] rfl hqa (hx.vt hrest) hp)
    have h2 : Eats r.shown .any [] x (t ++ q :: rest) (off + ([] : GoString).length) errs []
        (.bytes x) := Eats.anyG hx hrest
    have h12 : Eats rule (.ruleRef name) [] x (t ++ q :: rest) off errs []
        (.list [.nil, .bytes x]) := by
      apply Eats.ref hl
      rw [he]
      exact Eats.seq (EatsSeq.cons (a := []) h1 (EatsSeq.one h2))
    obtain ⟨vs, hvs⟩ := ih (off + x.length) fun d hd => hnq d (List.mem_append_right _ hd)
    exact ⟨_, EatsStar.more h12 hvs⟩

/-- `'q' XStringChar* 'q'` on a body of valid text without the byte `q` -/
theorem eatsSeq_quoted {name : String} {r : Rule} {q : UInt8} (hl : lookupRule G name = some r)
    (he : r.expr = .seq [.notP (.lit [q.toNat] false), .any])
    (hq : q.toNat < 128) (body : GoString) (hb : VT body) (hnq : ∀ c ∈ body, c ≠ q)
    (hr : VT rest) :
    ∃ vs, EatsSeq rule [.lit [q.toNat] false, .zeroOrMore (.ruleRef name), .lit [q.toNat] false] fr
      ([q] ++ (body ++ [q])) rest off errs fr vs := by
  have hqa : Asc [q] := Asc.cons hq Asc.nil
  obtain ⟨vs, hstar⟩ := eatsStar_until (rule := rule) (off := off + [q].length) (errs := errs)
    hl he hq body hb hnq hr
  exact ⟨_, EatsSeq.cons (Eats.lit [q] rfl hqa ((hb.append (VT.cons hq VT.nil)).append hr))
    (EatsSeq.cons (Eats.star hstar) (EatsSeq.one (Eats.lit [q] rfl hqa hr)))⟩

/-- A delimited literal: the body between two `q` (a backquote or a double quote) is valid
    UTF-8 text without the byte `q`; the token is handed to `strconv.Unquote`. -/
theorem eats_StringLiteral {q : UInt8} (hq : q = 0x60 ∨ q = 0x22) (body s' : GoString)
    (hb : VT body) (hnq : ∀ c ∈ body, c ≠ q)
    (hu : Strconv.unquote ([q] ++ (body ++ [q])) = some s') (hr : VT rest) :
    Eats rule (.ruleRef "StringLiteral") fr ([q] ++ (body ++ [q])) rest off errs fr (.str s') := by
  have hact : E.action "onStringLiteral2" [] ([q] ++ (body ++ [q])) = .ret (.str s') none := by
    rw [act_of_sem sem_onStringLiteral2]
    simp only [runActionSem, hu]
  rcases hq with rfl | rfl
  · obtain ⟨vs, hseq⟩ := eatsSeq_quoted (rule := Pinned.Grammar.rule_32.shown) (fr := [])
      (off := off) (errs := errs) look_RawStringChar rfl (by decide) body hb hnq hr
    exact Eats.ref look_StringLiteral (Eats.choice_hit (Eats.action
      (Eats.choice_hit (Eats.seq hseq)) hact))
  · obtain ⟨vs, hseq⟩ := eatsSeq_quoted (rule := Pinned.Grammar.rule_32.shown) (fr := [])
      (off := off) (errs := errs) look_DoubleStringChar rfl (by decide) body hb hnq hr
    -- the backquote alternative comes first and fails at the `"`
    have hall : VT ([0x22] ++ (body ++ [0x22]) ++ rest) :=
      (VT.cons (by decide) (hb.append (VT.cons (by decide) VT.nil))).append hr
    have hf : Fails Pinned.Grammar.rule_32.shown (.seq [.lit [96] false,
        .zeroOrMore (.ruleRef "RawStringChar"), .lit [96] false]) []
        ([0x22] ++ (body ++ [0x22]) ++ rest) off errs :=
      Fails.seq_here (Fails.lit [0x60] rfl (by decide) hall rfl)
    exact Eats.ref look_StringLiteral (Eats.choice_hit (Eats.action
      (Eats.choice_next hf (Eats.choice_hit (Eats.seq hseq))) hact))

/-- Backquoted literal: the bytes between the backquotes, verbatim — any valid UTF-8 text
    without backquote and `\r`. -/
theorem eats_StringLiteral_backtick (s' : GoString) (hs : VT s')
    (hnq : ∀ c ∈ s', c ≠ 0x60 ∧ c ≠ 0x0D) (hr : VT rest) :
    Eats rule (.ruleRef "StringLiteral") fr ([0x60] ++ (s' ++ [0x60])) rest off errs fr (.str s') :=
  eats_StringLiteral (.inl rfl) s' s' hs (fun c hc => (hnq c hc).1)
    (by simpa using Props.C16Lex.unquote_quote_backtick s' hnq) hr

/-- Double-quoted literal as written by the renderer `quoteX22` (`strconv.Quote` with `\x22`
    for `"`): denotes the original string, for EVERY byte string `s'` — valid UTF-8 or not,
    printable or not (printable non-ASCII runes are written raw, everything else as an ASCII
    escape, so the rendering is always valid text: `quoteX22_body`). -/
theorem eats_StringLiteral_quoteX22 (s' : GoString) (hr : VT rest) :
    Eats rule (.ruleRef "StringLiteral") fr (Strconv.quoteX22 s') rest off errs fr (.str s') := by
  obtain ⟨body, hbody, hnq, hb⟩ := quoteX22_body s'
  have hu := Props.C16Lex.unquote_quote_double_x22 s'
  rw [hbody] at hu ⊢
  exact eats_StringLiteral (.inr rfl) body s' hb hnq hu hr

end Bexpr.Proofs.RoundTrip
