/-
  Soundness of the grammar type checker (`Bexpr.Peg.Typing`) for the engine model
  (`Bexpr.Peg.Engine`), generic in the grammar, the action table and the declaration `Γ`.
-/
import Bexpr.Peg.Typing
import Proofs.Utf8Lemmas
import Proofs.Budget

namespace Bexpr.Proofs.TypingSound
open Bexpr Bexpr.Peg
open Bexpr.Proofs.Budget (body eval_succ read_cnt read_pt_eq seqLoop_cons choiceLoop_cons
  starLoop_succ lookupRule_some lookupRule_of_mem run_eq_runMax runMax initState initState_cnt outOf)

/-! ## Types -/

theorem hasTy_never (v : PVal) : hasTy v .never = false := rfl

theorem hasTy_any (v : PVal) : hasTy v .any = true := rfl

theorem hasTy_nil_inv {v : PVal} (h : hasTy v .nil = true) : v = .nil := by
  cases v with
  | nil => rfl
  | _ => cases h

theorem hasTy_expr_inv {v : PVal} (h : hasTy v .expr = true) :
    ∃ e, v = .expr e ∧ e.parserShaped = true := by
  cases v with
  | expr e => exact ⟨e, rfl, h⟩
  | _ => cases h

theorem hasTy_sel_inv {v : PVal} (h : hasTy v .sel = true) : ∃ s, v = .sel s := by
  cases v with
  | sel s => exact ⟨s, rfl⟩
  | _ => cases h

theorem hasTy_str_inv {v : PVal} (h : hasTy v .str = true) : ∃ s, v = .str s := by
  cases v with
  | str s => exact ⟨s, rfl⟩
  | _ => cases h

theorem hasTy_cop_inv {v : PVal} (h : hasTy v .cop = true) : ∃ s, v = .cop s := by
  cases v with
  | cop s => exact ⟨s, rfl⟩
  | _ => cases h

theorem hasTy_binding_inv {v : PVal} (h : hasTy v .binding = true) : ∃ s, v = .binding s := by
  cases v with
  | binding s => exact ⟨s, rfl⟩
  | _ => cases h

theorem hasTy_mval_inv {v : PVal} (h : hasTy v .mval = true) : ∃ s, v = .mval s := by
  cases v with
  | mval s => exact ⟨s, rfl⟩
  | _ => cases h

theorem hasTy_mopV_inv {v : PVal} (h : hasTy v .mopV = true) :
    ∃ o, v = .mop o ∧ o.takesValue = true := by
  cases v with
  | mop o => exact ⟨o, rfl, h⟩
  | _ => cases h

theorem hasTy_mopN_inv {v : PVal} (h : hasTy v .mopN = true) :
    ∃ o, v = .mop o ∧ o.takesValue = false := by
  cases v with
  | mop o => exact ⟨o, rfl, by simpa [hasTy] using h⟩
  | _ => cases h

theorem hasTy_list_any (vs : List PVal) : hasTy (.list vs) (.list .any) = true := by
  simp [hasTy]

theorem hasTy_list_of {vs : List PVal} {t : PTy} (h : ∀ x ∈ vs, hasTy x t = true) :
    hasTy (.list vs) (.list t) = true := by
  simp only [hasTy, List.all_eq_true]; exact h

theorem sub_sound : ∀ (t s : PTy) (v : PVal), sub s t = true → hasTy v s = true → hasTy v t = true := by
  intro t
  induction t with
  | any => intros; simp [hasTy]
  | opt t ih =>
    intro s v hs hv
    simp only [sub, Bool.or_eq_true, beq_iff_eq] at hs
    rcases hs with ((hs | hs) | hs) | hs
    · subst hs; rw [hasTy_nil_inv hv]; simp [hasTy]
    · subst hs; simp [hasTy] at hv
    · have := ih s v hs hv; simp [hasTy, this]
    · cases s <;> simp at hs
      rename_i s'
      simp only [hasTy, Bool.or_eq_true] at hv ⊢
      rcases hv with hv | hv
      · exact Or.inl hv
      · exact Or.inr (ih s' v hs hv)
  | list t ih =>
    intro s v hs hv
    simp only [sub, Bool.or_eq_true, beq_iff_eq] at hs
    rcases hs with hs | hs
    · subst hs; simp [hasTy] at hv
    · cases s <;> simp at hs
      rename_i s'
      cases v <;> simp [hasTy] at hv ⊢
      intro x hx; exact ih s' x hs (hv x hx)
  | _ =>
    intro s v hs hv
    simp only [sub, Bool.or_eq_true, beq_iff_eq] at hs
    rcases hs with hs | hs
    · subst hs; simp [hasTy] at hv
    · subst hs; exact hv

theorem join_left {s t : PTy} {v : PVal} (h : hasTy v s = true) : hasTy v (Peg.join s t) = true := by
  unfold Peg.join
  split
  · next hs => exact sub_sound _ _ _ hs h
  · split
    · exact h
    · exact hasTy_any v

theorem join_right {s t : PTy} {v : PVal} (h : hasTy v t = true) : hasTy v (Peg.join s t) = true := by
  unfold Peg.join
  split
  · exact h
  · split
    · next hs => exact sub_sound _ _ _ hs h
    · exact hasTy_any v

/-! ## Frames -/

/-- a frame has the label types `Δ` promises (unbound labels read as `nil` on both sides) -/
def FrameOk (fr : Frame) (Δ : LEnv) : Prop := ∀ l, hasTy (fr.get l) (Δ.get l) = true

theorem frameOk_nil : FrameOk [] [] := by
  intro l; simp [Frame.get, LEnv.get, hasTy]

theorem frameOk_set {fr : Frame} {Δ : LEnv} {v : PVal} {t : PTy} (l : String)
    (hv : hasTy v t = true) (h : FrameOk fr Δ) : FrameOk (fr.set l v) ((l, t) :: Δ) := by
  intro l'
  have := h l'
  simp only [Frame.get, Frame.set, LEnv.get, List.find?_cons] at this ⊢
  by_cases hl : (l == l') = true
  · simp [hl, hv]
  · simp only [hl]; exact this

theorem frameOk_label {fr : Frame} {Δ : LEnv} {l : String} {t : PTy} (h : FrameOk fr Δ)
    (hs : labelIs Δ l t = true) : hasTy (fr.get l) t = true :=
  sub_sound _ _ _ hs (h l)

/-! ## Actions -/

theorem asStrList_of {vs : List PVal} (h : ∀ x ∈ vs, hasTy x .str = true) :
    ∃ rs, asStrList vs = some rs := by
  induction vs with
  | nil => exact ⟨[], rfl⟩
  | cons x xs ih =>
    obtain ⟨s, rfl⟩ := hasTy_str_inv (h x (by simp))
    obtain ⟨rs, hrs⟩ := ih (fun y hy => h y (by simp [hy]))
    exact ⟨s :: rs, by simp [asStrList, hrs]⟩

theorem restStrings_of {v : PVal} (h : hasTy v (.opt (.list .str)) = true) :
    ∃ rs, restStrings v = some rs := by
  cases v <;> simp [hasTy] at h
  · exact ⟨[], rfl⟩
  · rename_i vs
    exact asStrList_of h

/-- the label (if any) holds a string, so Go's `x.(string)` succeeds -/
theorem getStr_of {fr : Frame} {Δ : LEnv} (hfr : FrameOk fr Δ) (l : Option String)
    (h : optLabelIs Δ l .str = true) :
    l = none ∨ ∃ l' s, l = some l' ∧ fr.get l' = .str s := by
  cases l with
  | none => exact Or.inl rfl
  | some l =>
    obtain ⟨s, hs⟩ := hasTy_str_inv (frameOk_label hfr h)
    exact Or.inr ⟨l, s, rfl, hs⟩

/-- `text` is the matched input, `w` the minimum width of a match. -/
theorem runActionSem_sound {sem : ActionSem} {Δ : LEnv} {w : Nat} {t : PTy} {fr : Frame}
    {text : GoString} (hty : actionTy sem Δ w = some t) (hfr : FrameOk fr Δ)
    (hw : w ≤ text.length) :
    ∃ v err, runActionSem sem fr text = .ret v err ∧ hasTy v t = true := by
  cases sem
  case mkMatch sel op val =>
    cases val <;>
      simp only [actionTy, Option.ite_none_right_eq_some, Option.some.injEq, Bool.and_eq_true]
        at hty <;>
      obtain ⟨hc, rfl⟩ := hty
    · obtain ⟨s, hs⟩ := hasTy_sel_inv (frameOk_label hfr hc.1)
      obtain ⟨o, ho, hot⟩ := hasTy_mopN_inv (frameOk_label hfr hc.2)
      exact ⟨_, none, by simp only [runActionSem, hs, ho]; rfl, by simp [hasTy, Expr.parserShaped, hot]⟩
    · obtain ⟨s, hs⟩ := hasTy_sel_inv (frameOk_label hfr hc.1.1)
      obtain ⟨o, ho, hot⟩ := hasTy_mopV_inv (frameOk_label hfr hc.1.2)
      obtain ⟨raw, hraw⟩ := hasTy_mval_inv (frameOk_label hfr hc.2)
      exact ⟨_, none, by simp only [runActionSem, hs, ho, hraw]; rfl,
        by simp [hasTy, Expr.parserShaped, hot]⟩
  -- `hty` becomes the guard of the action (what its Go type assertions need) and the value of `t`
  all_goals simp only [actionTy, Option.ite_none_right_eq_some, Option.some.injEq,
    Bool.and_eq_true, reduceCtorEq] at hty
  case retLabel l => subst hty; exact ⟨_, _, rfl, hfr l⟩
  case constMatchOp o =>
    subst hty
    refine ⟨_, _, rfl, ?_⟩
    cases h : o.takesValue <;> simp [hasTy, h]
  case constCollOp o => subst hty; exact ⟨_, _, rfl, rfl⟩
  case mkBinary isOr l r =>
    obtain ⟨hc, rfl⟩ := hty
    obtain ⟨a, ha, hpa⟩ := hasTy_expr_inv (frameOk_label hfr hc.1)
    obtain ⟨b, hb, hpb⟩ := hasTy_expr_inv (frameOk_label hfr hc.2)
    refine ⟨_, none, by simp only [runActionSem, ha, hb]; rfl, ?_⟩
    cases isOr <;> simp [hasTy, Expr.parserShaped, hpa, hpb]
  case notFold l =>
    obtain ⟨hc, rfl⟩ := hty
    obtain ⟨a, ha, hpa⟩ := hasTy_expr_inv (frameOk_label hfr hc)
    cases a <;> exact ⟨_, none, by simp only [runActionSem, ha]; rfl,
      by simpa [hasTy, Expr.parserShaped] using hpa⟩
  case mkColl op sel binding inner =>
    obtain ⟨hc, rfl⟩ := hty
    obtain ⟨o, ho⟩ := hasTy_cop_inv (frameOk_label hfr hc.1.1.1)
    obtain ⟨s, hs⟩ := hasTy_sel_inv (frameOk_label hfr hc.1.1.2)
    obtain ⟨b, hb⟩ := hasTy_binding_inv (frameOk_label hfr hc.1.2)
    obtain ⟨e, he, hpe⟩ := hasTy_expr_inv (frameOk_label hfr hc.2)
    exact ⟨_, none, by simp only [runActionSem, ho, hs, hb, he]; rfl,
      by simp [hasTy, Expr.parserShaped, hpe]⟩
  case mkBinding mode d i v =>
    obtain ⟨hc, rfl⟩ := hty
    rcases getStr_of hfr d hc.1.1 with rfl | ⟨ld, sd, rfl, hd⟩ <;>
    rcases getStr_of hfr i hc.1.2 with rfl | ⟨li, si, rfl, hi⟩ <;>
    rcases getStr_of hfr v hc.2 with rfl | ⟨lv, sv, rfl, hv⟩ <;>
    exact ⟨_, none, by simp only [runActionSem, *]; rfl, rfl⟩
  case selectorBexpr first rest =>
    obtain ⟨hc, rfl⟩ := hty
    obtain ⟨f, hf⟩ := hasTy_str_inv (frameOk_label hfr hc.1)
    obtain ⟨rs, hrs⟩ := restStrings_of (frameOk_label hfr hc.2)
    exact ⟨_, none, by simp only [runActionSem, hf, hrs]; rfl, rfl⟩
  case selectorPtr segs =>
    obtain ⟨hc, rfl⟩ := hty
    obtain ⟨rs, hrs⟩ := restStrings_of (frameOk_label hfr hc)
    exact ⟨_, none, by simp only [runActionSem, hrs]; rfl, rfl⟩
  case textTail =>
    obtain ⟨hc, rfl⟩ := hty
    cases text with
    | nil => simp at hw; omega
    | cons c cs => exact ⟨_, none, by simp only [runActionSem]; rfl, rfl⟩
  case textAll => subst hty; exact ⟨_, none, by simp only [runActionSem]; rfl, rfl⟩
  case valueFromSelector l =>
    obtain ⟨hc, rfl⟩ := hty
    obtain ⟨s, hs⟩ := hasTy_sel_inv (frameOk_label hfr hc)
    exact ⟨_, none, by simp only [runActionSem, hs]; rfl, rfl⟩
  case valueFromStr l =>
    obtain ⟨hc, rfl⟩ := hty
    obtain ⟨s, hs⟩ := hasTy_str_inv (frameOk_label hfr hc)
    exact ⟨_, none, by simp only [runActionSem, hs]; rfl, rfl⟩
  case unquoteText =>
    subst hty
    simp only [runActionSem]
    split <;> exact ⟨_, _, rfl, rfl⟩

theorem runPredSem_sound {sem : ActionSem} (h : isPredSem sem = true) (fr : Frame) :
    ∃ msg, runPredSem sem fr = .ret false (some msg) := by
  cases sem <;> simp [isPredSem] at h
  exact ⟨_, rfl⟩

/-! ## Positions -/

/-- the current rune and its width are those of the remaining input -/
def PtOk (pt : Pt) : Prop := (pt.rn, pt.w) = Utf8.decodeRune pt.rest

theorem PtOk.width {pt : Pt} (h : PtOk pt) :
    (pt.rn = Utf8.runeError ∧ pt.w = 0) ∨ (1 ≤ pt.w ∧ pt.w ≤ pt.rest.length) := by
  unfold PtOk at h
  rcases Utf8.decodeRune_width pt.rest with hd | hd <;> rw [← h] at hd
  · exact .inl (Prod.mk.inj hd)
  · exact .inr hd

theorem PtOk.w_le {pt : Pt} (h : PtOk pt) : pt.w ≤ pt.rest.length := by
  rcases h.width with h | h <;> omega

theorem PtOk.w_pos {pt : Pt} (h : PtOk pt) (hne : atEOF pt = false) : 1 ≤ pt.w := by
  rcases h.width with h | h
  · simp [atEOF, h.1, h.2, runeError, Utf8.runeError] at hne
  · exact h.1

theorem PtOk.w_pos_of_ascii {pt : Pt} (h : PtOk pt) (hlt : pt.rn < 128) : 1 ≤ pt.w := by
  rcases h.width with h | h
  · simp [h.1, Utf8.runeError] at hlt
  · exact h.1

/-- `q` lies `q.off - p.off` bytes after `p` in the same input -/
def Reach (p q : Pt) : Prop :=
  p.off ≤ q.off ∧ q.rest = p.rest.drop (q.off - p.off) ∧ q.off - p.off ≤ p.rest.length

theorem Reach.refl (p : Pt) : Reach p p := by simp [Reach]

theorem Reach.trans {p q r : Pt} (h1 : Reach p q) (h2 : Reach q r) : Reach p r := by
  obtain ⟨a1, b1, c1⟩ := h1
  obtain ⟨a2, b2, c2⟩ := h2
  refine ⟨by omega, ?_, ?_⟩
  · rw [b2, b1, List.drop_drop]; congr 1; omega
  · rw [b1, List.length_drop] at c2; omega

def NP (errs : List PErr) : Prop := ∀ e ∈ errs, ∀ msg, e.kind ≠ .panic msg

theorem NP.cons {errs : List PErr} {e : PErr} (h : NP errs) (he : ∀ msg, e.kind ≠ .panic msg) :
    NP (e :: errs) := by
  intro x hx msg
  rcases List.mem_cons.1 hx with rfl | hx
  · exact he msg
  · exact h x hx msg

theorem read_np (st : PState) (rule : String) (h : NP st.errs) : NP (st.read rule).errs := by
  simp only [PState.read]
  split
  · exact h.cons (by intro msg; simp)
  · exact h

theorem read_ptOk (st : PState) (rule : String) : PtOk (st.read rule).pt := by
  rw [read_pt_eq]; simp [PtOk]

theorem read_reach (st : PState) (rule : String) (h : PtOk st.pt) :
    Reach st.pt (st.read rule).pt := by
  rw [read_pt_eq]
  have := h.w_le
  refine ⟨by simp, ?_, ?_⟩ <;> simp <;> omega

/-! ## The invariant -/

/-- `F` is the fuel of the call, `s` a slack: with `s = 0` the fuel suffices (as in `run`), with
    `s > 0` nothing is assumed of it and `Post` allows `fuelOut`. -/
structure Pre (max F s : Nat) (st : PState) : Prop where
  pt : PtOk st.pt
  np : NP st.errs
  cnt : st.cnt ≤ max
  fuel : max + 2 ≤ F + st.cnt + s

/-- from `st` the engine got to `st'`, with at least `d` ticks -/
structure Adv (max d : Nat) (st st' : PState) : Prop where
  pt : PtOk st'.pt
  np : NP st'.errs
  reach : Reach st.pt st'.pt
  cnt : st.cnt + d ≤ st'.cnt
  le : st'.cnt ≤ max

/-- `t`, `Δ'`, `w`: type, frame and least width of a match; never `abort`; `fuelOut` only with slack. -/
def Post (max s d : Nat) (t : PTy) (Δ' : LEnv) (w : Nat) (st : PState) : PRes → Prop
  | .ok st' fr' v m => Adv max d st st' ∧
      (m = true → hasTy v t = true ∧ FrameOk fr' Δ' ∧ st.pt.off + w ≤ st'.pt.off)
  | .exceeded st' => NP st'.errs
  | .abort _ _ => False
  | .fuelOut => 0 < s

section
variable {max F s d d' d1 d2 w w2 : Nat} {st st1 st' : PState} {t t' : PTy} {Δ' : LEnv}
  {res : PRes} {fr : Frame} {v : PVal}

theorem Pre.adv (h : Pre max F s st) : Adv max 0 st st :=
  ⟨h.pt, h.np, Reach.refl _, Nat.le_refl _, h.cnt⟩

theorem Pre.next (h : Pre max F s st) (a : Adv max d st st') : Pre max F s st' :=
  ⟨a.pt, a.np, a.le, by have := h.fuel; have := a.cnt; omega⟩

theorem Pre.read (h : Pre max F s st) (rule : String) : Adv max 0 st (st.read rule) :=
  ⟨read_ptOk _ _, read_np _ _ h.np, read_reach _ _ h.pt, by rw [read_cnt]; omega,
    by rw [read_cnt]; exact h.cnt⟩

theorem Adv.mono (a : Adv max d st st') (hd : d' ≤ d) : Adv max d' st st' :=
  ⟨a.pt, a.np, a.reach, by have := a.cnt; omega, a.le⟩

theorem Adv.trans (a : Adv max d1 st st1) (b : Adv max d2 st1 st') : Adv max (d1 + d2) st st' :=
  ⟨b.pt, b.np, a.reach.trans b.reach, by have := a.cnt; have := b.cnt; omega, b.le⟩

theorem Adv.restore (a : Adv max d st st') (h : PtOk st.pt) : Adv max d st { st' with pt := st.pt } :=
  ⟨h, a.np, Reach.refl _, a.cnt, a.le⟩

theorem Adv.addErr (a : Adv max d st st') {off : Nat} {rule : String} {k : ErrKind}
    (hk : ∀ msg, k ≠ .panic msg) : Adv max d st (st'.addErr off rule k) :=
  ⟨a.pt, a.np.cons hk, a.reach, a.cnt, a.le⟩

theorem Post.shift (h : Post max s d2 t Δ' w2 st1 res) (a : Adv max d1 st st1)
    (hd : d ≤ d1 + d2) (hw : st.pt.off + w ≤ st1.pt.off + w2) : Post max s d t Δ' w st res := by
  cases res with
  | ok st' fr' v m =>
    refine ⟨(a.trans h.1).mono hd, fun hm => ?_⟩
    obtain ⟨b1, b2, b3⟩ := h.2 hm
    exact ⟨b1, b2, by omega⟩
  | _ => exact h

theorem Post.mono (h : Post max s d t Δ' w st res)
    (ht : ∀ v, hasTy v t = true → hasTy v t' = true) : Post max s d t' Δ' w st res := by
  cases res with
  | ok st' fr' v m => exact ⟨h.1, fun hm => ⟨ht _ (h.2 hm).1, (h.2 hm).2⟩⟩
  | _ => exact h

/-- `Post` of a result other than `ok` mentions neither the node nor the start state -/
theorem Post.bind {K : PState → Frame → PVal → Bool → PRes} {t1 : PTy} {Δ1 : LEnv} {w1 : Nat}
    (h : Post max s d1 t1 Δ1 w1 st res)
    (hK : ∀ st1 fr1 v1 m, Adv max d1 st st1 →
      (m = true → hasTy v1 t1 = true ∧ FrameOk fr1 Δ1 ∧ st.pt.off + w1 ≤ st1.pt.off) →
      Post max s d t Δ' w st (K st1 fr1 v1 m)) : Post max s d t Δ' w st (res.bind K) := by
  cases res with
  | ok st1 fr1 v1 m => exact hK st1 fr1 v1 m h.1 h.2
  | _ => exact h

theorem Pre.tick {st0 : PState} (h : Pre max (F + 1) s st0)
    (hc : ¬ (st0.cnt + 1 > max)) : Pre max F s { st0 with cnt := st0.cnt + 1 } :=
  ⟨h.pt, h.np, by simp only; omega, by have := h.fuel; simp only; omega⟩

theorem Pre.noMatch (h : Pre max F s st) : Post max s 0 t Δ' w st (.ok st fr v false) :=
  ⟨h.adv, fun hm => by simp at hm⟩

theorem Pre.readOne {Δ : LEnv} (h : Pre max F s st) (heof : atEOF st.pt = false)
    (hfr : FrameOk fr Δ) (rule : String) (b : GoString) :
    Post max s 0 .bytes Δ 1 st (.ok (st.read rule) fr (.bytes b) true) :=
  ⟨h.read rule, fun _ => ⟨rfl, hfr, by have := h.pt.w_pos heof; simp only [read_pt_eq]; omega⟩⟩

end

/-! ## The loops -/

/-- `d = 1`: every call of `parseExpr` ticks the counter (the loops have `d = 0`: they may make no
    call) -/
def FOk (C : TCtx) (max F s : Nat) (f : PExpr → Frame → PState → PRes) : Prop :=
  ∀ e fr st Δ t Δ', typeOfExpr C e Δ = some (t, Δ') → FrameOk fr Δ → Pre max F s st →
    Post max s 1 t Δ' (minWidth e) st (f e fr st)

theorem seqLoop_ok {C : TCtx} {max F s : Nat} {f : PExpr → Frame → PState → PRes}
    (hf : FOk C max F s f) :
    ∀ es fr st acc Δ t Δ', typeOfSeq C es Δ = some (t, Δ') → FrameOk fr Δ → Pre max F s st →
      Post max s 0 t Δ' (minWidthSeq es) st (seqLoop f es fr st acc) := by
  intro es
  induction es with
  | nil =>
    intro fr st acc Δ t Δ' hty hfr hpre
    simp only [typeOfSeq, Option.some.injEq, Prod.mk.injEq] at hty
    obtain ⟨rfl, rfl⟩ := hty
    exact ⟨hpre.adv, fun _ => ⟨hasTy_list_any _, hfr, Nat.le_refl _⟩⟩
  | cons e es ih =>
    intro fr st acc Δ t Δ' hty hfr hpre
    simp only [typeOfSeq] at hty
    split at hty
    next _ te Δ1 h1 =>
      split at hty <;> cases hty
      next _ ts h2 =>
      rw [seqLoop_cons]
      simp only [minWidthSeq]
      refine (hf e fr st Δ te Δ1 h1 hfr hpre).bind fun st1 fr1 v1 m a hm => ?_
      cases m with
      | true =>
        obtain ⟨b1, b2, b3⟩ := hm rfl
        -- a matched element is not of type `never`, so the sequence has the type of its tail
        have hne : (te == PTy.never) = false :=
          beq_false_of_ne fun hte => by rw [hte, hasTy_never] at b1; cases b1
        simp only [hne]
        exact (ih fr1 st1 (v1 :: acc) Δ1 ts Δ' h2 b2 (hpre.next a)).shift a (Nat.zero_le _)
          (by omega)
      | false => exact ⟨a.mono (Nat.zero_le _), fun hm => by simp at hm⟩
    · cases hty

theorem minWidthAlts_le_head (a : PExpr) (as : List PExpr) :
    minWidthAlts (a :: as) ≤ minWidth a := by
  cases as with
  | nil => simp [minWidthAlts]
  | cons b bs => simp only [minWidthAlts]; exact Nat.min_le_left _ _

theorem minWidthAlts_le_tail (a b : PExpr) (bs : List PExpr) :
    minWidthAlts (a :: b :: bs) ≤ minWidthAlts (b :: bs) := by
  simp only [minWidthAlts]; exact Nat.min_le_right _ _

theorem choiceLoop_ok {C : TCtx} {max F s : Nat} {f : PExpr → Frame → PState → PRes}
    (hf : FOk C max F s f) :
    ∀ alts fr st Δ t, typeOfAlts C alts = some t → FrameOk fr Δ → Pre max F s st →
      Post max s 0 t Δ (minWidthAlts alts) st (choiceLoop f alts fr st) := by
  intro alts
  induction alts with
  | nil =>
    intro fr st Δ t hty hfr hpre
    exact hpre.noMatch
  | cons a as ih =>
    intro fr st Δ t hty hfr hpre
    simp only [typeOfAlts] at hty
    split at hty
    next _ ta Δ1 h1 =>
      split at hty <;> cases hty
      next _ ts h2 =>
      rw [choiceLoop_cons]
      refine (hf a [] st [] ta Δ1 h1 frameOk_nil hpre).bind fun st1 fr1 v1 m a1 hm => ?_
      cases m with
      | true =>
        obtain ⟨b1, b2, b3⟩ := hm rfl
        have := minWidthAlts_le_head a as
        exact ⟨a1.mono (Nat.zero_le _), fun _ => ⟨join_left b1, hfr, by omega⟩⟩
      | false =>
        have := ih fr st1 Δ ts h2 hfr (hpre.next a1)
        have hsh : Post max s 0 ts Δ (minWidthAlts (a :: as)) st (choiceLoop f as fr st1) := by
          -- `minWidthAlts [a]` is not `≤ minWidthAlts []`; but then no alternative is left to match
          cases as with
          | nil => exact ⟨a1.mono (Nat.zero_le _), fun hm => by simp at hm⟩
          | cons b bs =>
            have hle := minWidthAlts_le_tail a b bs
            have hoff := a1.reach.1
            exact this.shift a1 (Nat.zero_le _) (by omega)
        exact hsh.mono (fun v hv => join_right hv)
    · cases hty

theorem starLoop_ok {max F s : Nat} {f : Frame → PState → PRes} {te : PTy} {Δi : LEnv} {wi : Nat}
    (hf : ∀ st, Pre max F s st → Post max s 1 te Δi wi st (f [] st)) :
    ∀ k fr st acc Δ, max + 2 ≤ k + st.cnt + s → FrameOk fr Δ → Pre max F s st →
      (∀ x ∈ acc, hasTy x te = true) →
      Post max s 0 (.list te) Δ 0 st (starLoop f k fr st acc) := by
  intro k
  induction k with
  | zero =>
    intro fr st acc Δ hk hfr hpre hacc
    have := hpre.cnt
    simp only [starLoop, Post]
    omega
  | succ k ih =>
    intro fr st acc Δ hk hfr hpre hacc
    rw [starLoop_succ]
    refine (hf st hpre).bind fun st1 fr1 v1 m a hm => ?_
    have hcnt := a.cnt
    have hoff := a.reach.1
    cases m with
    | true =>
      -- the iteration ticked the counter, so the bound `k` suffices for the remaining ones
      exact (ih fr st1 (v1 :: acc) Δ (by omega) hfr (hpre.next a)
        (List.forall_mem_cons.2 ⟨(hm rfl).1, hacc⟩)).shift a (Nat.zero_le _) (by omega)
    | false =>
      exact ⟨a.mono (Nat.zero_le _), fun _ =>
        ⟨hasTy_list_of fun x hx => hacc x (List.mem_reverse.1 hx), hfr, by omega⟩⟩

/-! ## Matchers -/

theorem litLoop_ok {max F s : Nat} (rule : String) :
    ∀ (val : List Nat) (st : PState), Pre max F s st →
      Adv max 0 st (litLoop rule val st).1 ∧
      ((litLoop rule val st).2 = true → val.all (· < 128) = true →
        st.pt.off + val.length ≤ (litLoop rule val st).1.pt.off) := by
  intro val
  induction val with
  | nil => intro st hp; exact ⟨hp.adv, fun _ _ => Nat.le_refl _⟩
  | cons want ws ih =>
    intro st hp
    simp only [litLoop]
    split
    · exact ⟨hp.adv, fun h => by simp at h⟩
    · next hrn =>
      have hrn' : st.pt.rn = want := by simpa using hrn
      obtain ⟨i1, i2⟩ := ih (st.read rule) (hp.next (hp.read rule))
      refine ⟨(hp.read rule).trans i1, fun hm hall => ?_⟩
      simp only [List.all_cons, Bool.and_eq_true, decide_eq_true_eq] at hall
      -- an ASCII rune that was matched is one byte wide
      have hw := hp.pt.w_pos_of_ascii (by omega)
      have := i2 hm hall.2
      simp only [read_pt_eq] at this
      simp only [List.length_cons]
      omega

theorem inClass_known {c : String} (h : knownClass c = true) (cur : Nat) :
    ∃ b, Unicode.inClass c cur = some b := by
  unfold knownClass Unicode.inClass at h
  unfold Unicode.inClass
  split
  · exact ⟨_, rfl⟩
  · split
    · exact ⟨_, rfl⟩
    · next h1 h2 => simp [h1, h2] at h

theorem inClasses_some (sems : List (String × ActionSem)) (cur : Nat) :
    ∀ classes : List String, classes.all knownClass = true →
      ∃ b, classMatches.inClasses (envOf sems) cur classes = some b := by
  intro classes
  induction classes with
  | nil => intro _; exact ⟨false, rfl⟩
  | cons c cs ih =>
    intro h
    simp only [List.all_cons, Bool.and_eq_true] at h
    obtain ⟨b, hb⟩ := inClass_known h.1 cur
    simp only [classMatches.inClasses, envOf, hb]
    cases b with
    | true => exact ⟨true, rfl⟩
    | false => exact ih h.2

theorem classMatches_some (sems : List (String × ActionSem)) (chars ranges : List Nat)
    (classes : List String) (cur : Nat) (h : classes.all knownClass = true) :
    ∃ b, classMatches (envOf sems) chars ranges classes cur = some b := by
  unfold classMatches
  split
  · exact ⟨true, rfl⟩
  · split
    · exact ⟨true, rfl⟩
    · exact inClasses_some sems cur classes h

theorem length_sliceFrom {p q : Pt} (h : Reach p q) : (sliceFrom p q).length = q.off - p.off := by
  simp only [sliceFrom, List.length_take]
  have := h.2.2
  omega

/-! ## The induction on fuel -/

def GOk (C : TCtx) (g : Grammar) : Prop :=
  ∀ name r tΓ, lookupRule g name = some r → lookupΓ C.Γ name = some tΓ →
    ∃ t Δ', typeOfExpr C r.expr [] = some (t, Δ') ∧ sub t tΓ = true

/-- the induction hypothesis on the fuel `F` -/
def EvalOk (C : TCtx) (g : Grammar) (max F s : Nat) : Prop :=
  ∀ rule, FOk C max F s (eval (envOf C.sems) g max F rule)

theorem evalOk_succ {C : TCtx} {g : Grammar} {max F s : Nat} (hg : GOk C g)
    (IH : EvalOk C g max F s) : EvalOk C g max (F + 1) s := by
  intro rule e fr st0 Δ t Δ' hty hfr hpre
  rw [eval_succ]
  split
  · exact hpre.np
  next hc =>
  have hp := hpre.tick hc
  refine Post.shift (d2 := 0) ?_ ⟨hp.pt, hp.np, Reach.refl _, Nat.le_refl _, hp.cnt⟩ (Nat.le_refl _)
    (Nat.le_refl _)
  -- from here on `st` is the ticked state, known through `hp` only
  generalize ({ st0 with cnt := st0.cnt + 1 } : PState) = st at hp ⊢
  have ihNil : ∀ rule e t Δ', typeOfExpr C e [] = some (t, Δ') →
      Post max s 1 t Δ' (minWidth e) st (eval (envOf C.sems) g max F rule e [] st) :=
    fun rule e t Δ' h => IH rule e [] st [] t Δ' h frameOk_nil hp
  cases e with
  | unsupported what => simp [typeOfExpr] at hty
  | any =>
    simp only [typeOfExpr, Option.some.injEq, Prod.mk.injEq] at hty
    obtain ⟨rfl, rfl⟩ := hty
    simp only [minWidth, body]
    split
    · exact hp.noMatch
    · next heof => exact hp.readOne (by simpa using heof) hfr rule _
  | charClass chars ranges classes ic inv =>
    simp only [typeOfExpr] at hty
    split at hty
    · cases hty
    next hic =>
    split at hty <;> cases hty
    next hcl =>
    obtain rfl : ic = false := by simpa using hic
    obtain ⟨b, hb⟩ := classMatches_some C.sems chars ranges classes st.pt.rn hcl
    simp only [minWidth, body, Bool.false_eq_true, if_false, hb]
    split
    · exact hp.noMatch
    next heof =>
    split
    · exact hp.readOne (by simpa using heof) hfr rule _
    · exact hp.noMatch
  | lit val ic =>
    simp only [typeOfExpr] at hty
    split at hty <;> cases hty
    next hic =>
    obtain rfl : ic = false := by simpa using hic
    simp only [body, Bool.false_eq_true, if_false]
    obtain ⟨i1, i2⟩ := litLoop_ok rule val st hp
    split
    · next st' heq =>
      rw [heq] at i1 i2
      refine ⟨i1, fun _ => ⟨rfl, hfr, ?_⟩⟩
      simp only [minWidth]
      split
      · next hall => exact i2 rfl (Bool.and_eq_true _ _ ▸ hall).2
      · have := i1.reach.1; omega
    · next st' heq =>
      rw [heq] at i1
      exact ⟨i1.restore hp.pt, fun hm => by simp at hm⟩
  | andCode name =>
    simp only [typeOfExpr] at hty
    split at hty <;> cases hty
    next hs =>
    obtain ⟨msg, hmsg⟩ := runPredSem_sound hs fr
    simp only [body, envOf, hmsg]
    exact ⟨hp.adv.addErr (by intro m; simp), fun hm => by simp at hm⟩
  | notCode name =>
    simp only [typeOfExpr] at hty
    split at hty <;> cases hty
    next hs =>
    obtain ⟨msg, hmsg⟩ := runPredSem_sound hs fr
    simp only [body, envOf, hmsg, minWidth]
    exact ⟨hp.adv.addErr (by intro m; simp),
      fun _ => ⟨rfl, hfr, by simp [PState.addErr]⟩⟩
  | andP inner | notP inner =>
    simp only [typeOfExpr] at hty
    split at hty <;> cases hty
    next _ p1 h1 =>
    simp only [minWidth]
    exact (ihNil rule inner p1.1 p1.2 h1).bind fun st1 fr1 v1 m a _ =>
      ⟨(a.restore hp.pt).mono (Nat.zero_le _), fun _ => ⟨rfl, hfr, by simp⟩⟩
  | labeled label inner =>
    simp only [typeOfExpr] at hty
    split at hty <;> cases hty
    next _ Δi h1 =>
    simp only [minWidth]
    refine (ihNil rule inner t Δi h1).bind fun st1 fr1 v1 m a hm => ?_
    cases m with
    | true =>
      obtain ⟨b1, b2, b3⟩ := hm rfl
      refine ⟨a.mono (Nat.zero_le _), fun _ => ⟨b1, ?_, b3⟩⟩
      split
      · exact frameOk_set label b1 hfr
      · exact hfr
    | false => exact ⟨a.mono (Nat.zero_le _), fun hm => by simp at hm⟩
  | zeroOrOne inner =>
    simp only [typeOfExpr] at hty
    split at hty <;> cases hty
    next _ ti Δi h1 =>
    simp only [minWidth]
    refine (ihNil rule inner ti Δi h1).bind fun st1 fr1 v1 m a hm => ?_
    have hoff := a.reach.1
    cases m with
    | true =>
      exact ⟨a.mono (Nat.zero_le _), fun _ => ⟨by simp [hasTy, (hm rfl).1], hfr, by omega⟩⟩
    | false =>
      exact ⟨a.mono (Nat.zero_le _), fun _ => ⟨rfl, hfr, by omega⟩⟩
  | zeroOrMore inner =>
    simp only [typeOfExpr] at hty
    split at hty <;> cases hty
    next _ ti Δi h1 =>
    simp only [minWidth]
    exact starLoop_ok (fun st' hp' => IH rule inner [] st' [] ti Δi h1 frameOk_nil hp')
      F fr st [] Δ hp.fuel hfr hp (by simp)
  | oneOrMore inner =>
    simp only [typeOfExpr] at hty
    split at hty <;> cases hty
    next _ ti Δi h1 =>
    simp only [minWidth]
    refine (ihNil rule inner ti Δi h1).bind fun st1 fr1 v1 m a hm => ?_
    cases m with
    | true =>
      obtain ⟨b1, b2, b3⟩ := hm rfl
      have hfuel := hp.fuel
      have hcnt := a.cnt
      exact (starLoop_ok (fun st' hp' => IH rule inner [] st' [] ti Δi h1 frameOk_nil hp')
        F fr st1 [v1] Δ (by omega) hfr (hp.next a)
        (List.forall_mem_cons.2 ⟨b1, fun x hx => by simp at hx⟩)).shift a (Nat.zero_le _)
        (by omega)
    | false => exact ⟨a.mono (Nat.zero_le _), fun hm => by simp at hm⟩
  | ruleRef name =>
    simp only [typeOfExpr] at hty
    split at hty
    · cases hty
    next hname =>
    split at hty
    · cases hty
    split at hty <;> cases hty
    next _ hΓ =>
    simp only [minWidth, body, hname, Bool.false_eq_true, if_false]
    cases hr : lookupRule g name with
    | none => exact ⟨hp.adv.addErr (by intro m; simp), fun hm => by simp at hm⟩
    | some r =>
      simp only
      obtain ⟨tb, Δb, hb, hsub⟩ := hg name r t hr hΓ
      refine (ihNil r.shown r.expr tb Δb hb).bind fun st1 fr1 v1 m a hm =>
        ⟨a.mono (Nat.zero_le _), fun h => ?_⟩
      have hoff := a.reach.1
      exact ⟨sub_sound _ _ _ hsub (hm h).1, hfr, by omega⟩
  | seq es =>
    simp only [typeOfExpr] at hty
    simp only [minWidth]
    refine (seqLoop_ok (IH rule) es fr st [] Δ t Δ' hty hfr hp).bind fun st1 fr1 v1 m a hm => ?_
    cases m with
    | true => exact ⟨a, hm⟩
    | false => exact ⟨a.restore hp.pt, fun hm => by simp at hm⟩
  | choice alts =>
    simp only [typeOfExpr] at hty
    split at hty <;> cases hty
    next _ h1 =>
    simp only [minWidth]
    exact choiceLoop_ok (IH rule) alts fr st Δ t h1 hfr hp
  | action name inner =>
    simp only [typeOfExpr] at hty
    split at hty
    next _ ti Δi h1 =>
      split at hty <;> cases hty
      next _ h2 =>
      simp only [minWidth]
      refine (IH rule inner fr st Δ ti Δ' h1 hfr hp).bind fun st1 fr1 v1 m a hm => ?_
      cases m with
      | true =>
        obtain ⟨b1, b2, b3⟩ := hm rfl
        -- the action sees the matched text, which is at least `minWidth inner` long
        obtain ⟨av, err, hact, hav⟩ := runActionSem_sound (fr := fr1)
          (text := sliceFrom st.pt st1.pt) h2 b2 (by rw [length_sliceFrom a.reach]; omega)
        simp only [cond_true, envOf, hact]
        cases err with
        | none => exact ⟨a.mono (Nat.zero_le _), fun _ => ⟨hav, b2, b3⟩⟩
        | some msg =>
          exact ⟨(a.mono (Nat.zero_le _)).addErr (by intro m; simp), fun _ => ⟨hav, b2, b3⟩⟩
      | false => exact ⟨a.mono (Nat.zero_le _), fun hm => by simp at hm⟩
    · cases hty

theorem evalOk {C : TCtx} {g : Grammar} (hg : GOk C g) (max s : Nat) :
    ∀ F, EvalOk C g max F s := by
  intro F
  induction F with
  | zero =>
    -- without fuel the answer is `fuelOut`, which `Pre.fuel` allows only with slack
    intro rule e fr st Δ t Δ' _ _ hpre
    have h1 := hpre.cnt
    have h2 := hpre.fuel
    simp only [eval, Post]
    omega
  | succ F ih => exact evalOk_succ hg ih

/-! ## From the checker to the hypothesis on the grammar -/

theorem typecheck_GOk {g : Grammar} {sems : List (String × ActionSem)} {Γ : List (String × PTy)}
    (h : typecheck g sems Γ = true) : GOk (ctxOf g sems Γ) g := by
  intro name r tΓ hr hΓ
  obtain ⟨hm, rfl⟩ := lookupRule_some hr
  simp only [typecheck, Bool.and_eq_true, List.all_eq_true] at h
  have hc := h.1.1 r hm
  simp only [checkRule, show lookupΓ (ctxOf g sems Γ).Γ r.name = some tΓ from hΓ] at hc
  split at hc
  · next t Δ' h1 => exact ⟨t, Δ', h1, hc⟩
  · cases hc

/-! ## Soundness -/

/-- Soundness, full invariant: for a grammar that type-checks, `parseExpr` does not abort, logs no
    panic entry, with slack `s = 0` does not run out of fuel, and a match yields a value of type `t`,
    a frame satisfying `Δ'` and consumes at least `minWidth e` bytes. -/
theorem eval_sound {g : Grammar} {sems : List (String × ActionSem)} {Γ : List (String × PTy)}
    (h : typecheck g sems Γ = true) (max F s : Nat) (rule : String) (e : PExpr) (fr : Frame)
    (st : PState) (Δ Δ' : LEnv) (t : PTy)
    (hty : typeOfExpr (ctxOf g sems Γ) e Δ = some (t, Δ')) (hfr : FrameOk fr Δ)
    (hpre : Pre max F s st) :
    Post max s 1 t Δ' (minWidth e) st (eval (envOf sems) g max F rule e fr st) :=
  evalOk (C := ctxOf g sems Γ) (typecheck_GOk h) max s F rule e fr st Δ t Δ' hty hfr hpre

/-- Soundness for arbitrary fuel, budget and rule, from any state with a consistent rune (`PtOk`)
    and no logged panic (`NP`): `eval` never aborts, and a match has the
    static type and the promised labels. -/
theorem eval_typed {g : Grammar} {sems : List (String × ActionSem)} {Γ : List (String × PTy)}
    (h : typecheck g sems Γ = true) (max fuel : Nat) (rule : String) (e : PExpr) (fr : Frame)
    (st : PState) (Δ Δ' : LEnv) (t : PTy)
    (hty : typeOfExpr (ctxOf g sems Γ) e Δ = some (t, Δ')) (hfr : FrameOk fr Δ)
    (hpt : PtOk st.pt) (hnp : NP st.errs) :
    (∀ st' msg, eval (envOf sems) g max fuel rule e fr st ≠ .abort st' msg) ∧
    (∀ st' fr' v, eval (envOf sems) g max fuel rule e fr st = .ok st' fr' v true →
      hasTy v t = true ∧ FrameOk fr' Δ' ∧ st.pt.off + minWidth e ≤ st'.pt.off) := by
  by_cases hc : st.cnt ≤ max
  · -- slack `max + 2`: nothing is assumed of the fuel
    have hpost := eval_sound h max fuel (max + 2) rule e fr st Δ Δ' t hty hfr
      ⟨hpt, hnp, hc, by omega⟩
    constructor
    · intro st' msg heq; rw [heq] at hpost; exact hpost
    · intro st' fr' v heq
      rw [heq] at hpost
      exact hpost.2 rfl
  · cases fuel with
    | zero => simp [eval]
    | succ F =>
      have : st.cnt + 1 > max := by omega
      simp [eval, this]

/-! ## The whole parse -/

theorem NP_reverse {errs : List PErr} (h : NP errs) : NP errs.reverse :=
  fun e he => h e (List.mem_reverse.1 he)

/-- The whole parse of a grammar that type-checks: no panic entry in the error list (neither
    a Go panic in an action or the engine, nor the model's fuel artefact), and an accepted parse
    yields a parser-shaped expression. -/
theorem run_sound {g : Grammar} {sems : List (String × ActionSem)} {Γ : List (String × PTy)}
    (h : typecheck g sems Γ = true) (maxE : Nat) (input : GoString) :
    NP (run (envOf sems) g maxE input).errs ∧
    ((run (envOf sems) g maxE input).accepted = true →
      ∃ e, (run (envOf sems) g maxE input).val = .expr e ∧ e.parserShaped = true) := by
  cases g with
  | nil => simp [typecheck] at h
  | cons r0 rs =>
    have hΓ0 : lookupΓ Γ r0.name = some .expr := by
      simp only [typecheck, Bool.and_eq_true, decide_eq_true_eq] at h
      exact h.2
    obtain ⟨start, hstart⟩ := lookupRule_of_mem (g := r0 :: rs) (r := r0) List.mem_cons_self
    obtain ⟨tb, Δb, hb, hsub⟩ := typecheck_GOk h r0.name start .expr hstart hΓ0
    rw [run_eq_runMax]
    simp only [runMax, hstart]
    have hpre : Pre (effectiveMax maxE) (effectiveMax maxE + 2) 0 (initState input) :=
      ⟨read_ptOk _ "", read_np _ "" (fun e he => nomatch he), by rw [initState_cnt]; omega,
        by rw [initState_cnt]; omega⟩
    have hpost := eval_sound h (effectiveMax maxE) (effectiveMax maxE + 2) 0 start.shown start.expr
      [] (initState input) [] Δb tb hb frameOk_nil hpre
    generalize eval _ _ _ _ _ start.expr _ _ = res at hpost ⊢
    cases res with
    | ok st1 fr1 v1 m =>
      obtain ⟨a, a6⟩ := hpost
      cases m with
      | true =>
        simp only [outOf]
        refine ⟨NP_reverse a.np, fun _ => ?_⟩
        exact hasTy_expr_inv (sub_sound _ _ _ hsub (a6 rfl).1)
      | false =>
        simp only [outOf]
        split
        · refine ⟨?_, fun hacc => by simp [ParseOut.accepted] at hacc⟩
          intro e he msg; simp at he; subst he; simp
        · next hne =>
          refine ⟨NP_reverse a.np, fun hacc => ?_⟩
          simp [ParseOut.accepted] at hacc
          simp [hacc] at hne
    | exceeded st1 =>
      simp only [outOf]
      refine ⟨NP_reverse (NP.cons hpost (by intro m; simp)), fun hacc => ?_⟩
      simp [ParseOut.accepted, PState.addErr] at hacc
    | abort st1 msg => exact hpost.elim
    | fuelOut => exact absurd hpost (by simp [Post])

end Bexpr.Proofs.TypingSound
