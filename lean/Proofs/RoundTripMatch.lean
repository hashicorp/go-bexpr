/-
  Proofs.RoundTripMatch — the print/parse round trip for values, operator rules (as token lists
  of blanks and keywords) and the three match forms  `S op V`,  `S is [not] empty`,  `V [not] in S`.

  The input is valid UTF-8 text (`VT`); quoted literals may have any valid UTF-8 body.
  RESTRICTIONS:
  * a DOUBLE-quoted value literal must have a non-empty body not starting with `/`
    (`ValSp.WF`): in the pinned grammar `Value` tries `Selector` first, which reads `"/a/b"` as a
    JSON pointer and `""` as the pointer with one empty element; the literal's `Raw` is then the
    re-joined path;
  * the first identifier of a match expression must not be the word `not`
    (`MatchSp.notKwOK` in `Proofs.RoundTripExpr`): `NotExpression` would take it for the operator.
-/
import Proofs.RoundTripSel
import Proofs.UnquoteLemmas

namespace Bexpr.Proofs.RoundTrip
open Bexpr Bexpr.Peg Bexpr.Driver
variable {rule : String} {fr : Frame} {rest s : GoString} {off : Nat} {errs : List PErr}

/-! ## 1. Failing `Selector`, `NumberLiteral` -/

theorem fails_Selector (hs : VT s) (h1 : headIn isAlpha s = false)
    (h2 : GoString.isPrefixOf [34] s = false) :
    Fails rule (.ruleRef "Selector") fr s off errs :=
  Fails.ref look_Selector
    (Fails.choice_cons (Fails.action (Fails.seq_here (Fails.labeled
      (fails_Identifier hs h1))))
    (Fails.choice_cons (Fails.action (Fails.seq (FailsSeq.here
      (Fails.lit [34] rfl (by decide) hs h2)))) Fails.choice_nil))

theorem fails_Selector_dq {c : UInt8} {t : GoString} (hb : VT (c :: t)) (hc : c ≠ 47)
    (hq : c ≠ 34) (hr : VT rest) :
    Fails rule (.ruleRef "Selector") fr ([34] ++ ((c :: t) ++ rest)) off errs := by
  have hbr := hb.append hr
  exact Fails.ref look_Selector
    (Fails.choice_cons (Fails.action (Fails.seq_here (Fails.labeled
      (fails_Identifier (VT.cons (by decide) hbr) rfl))))
    (Fails.choice_cons (Fails.action (Fails.seq (FailsSeq.later (Eats.lit [34] rfl (by decide) hbr)
      (FailsSeq.later (a := []) (Eats.labeled "ptrsegs"
        (Eats.star (EatsStar.stop (fails_JsonPointerSegment hbr (not_prefix_of_ne hc _)))))
      (FailsSeq.here (Fails.lit [34] rfl (by decide) hbr (not_prefix_of_ne hq _)))))))
      Fails.choice_nil))

/-- bytes that can start a number -/
def numStart (n : Nat) : Bool := n == 45 || isDigit n

theorem fails_IntegerOrFloat (hs : VT s) (h : headIn isDigit s = false) :
    Fails rule (.ruleRef "IntegerOrFloat") fr s off errs :=
  Fails.ref look_IntegerOrFloat (Fails.seq (FailsSeq.here
    (Fails.choice_cons
      (Fails.lit [48] rfl (by decide) hs (not_prefix_of_not_headIn (p := isDigit) rfl h))
      (Fails.choice_cons (Fails.seq_here (Fails.cls (by decide) hs
        (headIn_mono (fun _ => isDigit_of_19) h))) Fails.choice_nil))))

theorem fails_NumberLiteral (hs : VT s) (h : headIn numStart s = false) :
    Fails rule (.ruleRef "NumberLiteral") fr s off errs := by
  have hd : headIn isDigit s = false := headIn_mono (fun n hn => by simp [numStart, hn]) h
  have e1 : ∀ fr', Eats Pinned.Grammar.rule_29.shown (.zeroOrOne (.lit [45] false)) fr' [] s off
      errs fr' .nil := fun _ => Eats.opt_none
    (Fails.lit [45] rfl (by decide) hs (not_prefix_of_not_headIn (p := numStart) rfl h))
  have f : ∀ fr' es, FailsSeq Pinned.Grammar.rule_29.shown
      (.zeroOrOne (.lit [45] false) :: .ruleRef "IntegerOrFloat" :: es) fr' s off errs :=
    fun fr' es => FailsSeq.later (a := []) (e1 fr') (FailsSeq.here (fails_IntegerOrFloat hs hd))
  exact Fails.ref look_NumberLiteral
    (Fails.choice_cons (Fails.action (Fails.seq (f _ _)))
      (Fails.choice_cons (Fails.seq (f _ _)) Fails.choice_nil))

theorem NumLit.head_numStart (n : NumLit) (h : n.WF) :
    headIn numStart (n.text ++ rest) = true := by
  unfold NumLit.text NumLit.sign
  split
  · rfl
  · rw [List.nil_append, List.append_assoc]
    exact headIn_imp (fun n hn => by simp [numStart, hn]) (n.int_head h _)

theorem numStart_not_alpha {n : Nat} (h : numStart n = true) : isAlpha n = false := by
  have h' : n = 45 ∨ 48 ≤ n ∧ n ≤ 57 := by
    simpa [numStart, inCls, classMatches.inRanges] using h
  simp [inCls, classMatches.inRanges]; omega


/-! ## 2. `Value` -/

theorem sem_onValue2 : lookupSem pinSem "onValue2" = .valueFromSelector "selector" :=
  lookupSem_pin 43 (by decide +kernel)
theorem sem_onValue5 : lookupSem pinSem "onValue5" = .valueFromStr "n" :=
  lookupSem_pin 44 (by decide +kernel)
theorem sem_onValue8 : lookupSem pinSem "onValue8" = .valueFromStr "s" :=
  lookupSem_pin 45 (by decide +kernel)
theorem look_Value : lookupRule G "Value" = some Pinned.Grammar.rule_28 := lookupRule_pin 28 rfl rfl

inductive ValSp where
  /-- a bare word / selector: `foo`, `a.b`, `true` -/
  | sel (σ : SelSp)
  /-- a number -/
  | num (n : NumLit)
  /-- a quoted literal `q body q` denoting `val` -/
  | str (q : UInt8) (body val : GoString)

def ValSp.text : ValSp → GoString
  | .sel σ => σ.text
  | .num n => n.text
  | .str q body _ => [q] ++ (body ++ [q])

/-- the `Raw` string of the `MatchValue` -/
def ValSp.raw : ValSp → GoString
  | .sel σ => GoString.join [46] σ.path
  | .num n => n.text
  | .str _ _ val => val

/-- RESTRICTION (pinned grammar): a DOUBLE-quoted value whose body is empty or starts with `/`
    is read by `Value`'s first alternative `Selector` as a JSON pointer (its `Raw` is then the
    re-joined path, not the literal) — such spellings are excluded. -/
def ValSp.WF : ValSp → Prop
  | .sel σ => σ.WF
  | .num n => n.WF
  | .str q body val => (q = 0x60 ∨ q = 0x22) ∧ VT body ∧ (∀ c ∈ body, c ≠ q) ∧
      Strconv.unquote ([q] ++ (body ++ [q])) = some val ∧
      (q = 0x22 → ∃ c t, body = c :: t ∧ c ≠ 47)

instance ValSp.decWF (v : ValSp) : Decidable v.WF := by
  cases v <;> (unfold ValSp.WF; infer_instance)

/-- what must follow the value -/
def ValSp.follow : ValSp → GoString → Prop
  | .sel _, rest => stopsSel rest
  | .num _, rest => numFollow rest = true
  | .str .., _ => True

theorem ValSp.text_vt (v : ValSp) (h : v.WF) : VT v.text := by
  cases v with
  | sel σ => exact σ.text_vt h
  | num n => exact (n.text_asc h).vt
  | str q body val =>
    obtain ⟨hq, hb, _, _, _⟩ := h
    have hq' : q.toNat < 128 := by rcases hq with rfl | rfl <;> decide
    exact VT.cons hq' (hb.append (VT.cons hq' VT.nil))

theorem ValSp.not_selector (v : ValSp) (h : v.WF) (hns : ∀ σ, v ≠ .sel σ) (hr : VT rest) :
    Fails rule (.ruleRef "Selector") fr (v.text ++ rest) off errs := by
  have hall : VT (v.text ++ rest) := (v.text_vt h).append hr
  cases v with
  | sel σ => exact absurd rfl (hns σ)
  | num n =>
    have hn := n.head_numStart (rest := rest) h
    exact fails_Selector hall
      (headIn_disjoint (fun _ => numStart_not_alpha) hn)
      (not_prefix_of_headIn (p := numStart) rfl hn)
  | str q body val =>
    obtain ⟨hq, hb, hnq, hu, hdq⟩ := h
    rcases hq with rfl | rfl
    · exact fails_Selector hall rfl rfl
    · obtain ⟨c, t, rfl, hc⟩ := hdq rfl
      have := fails_Selector_dq (rule := rule) (fr := fr) (off := off)
        (errs := errs) (c := c) (t := t ++ [34]) (rest := rest)
        (by simpa using hb.append (VT.cons (b := 34) (by decide) VT.nil)) hc
        (hnq c (List.mem_cons_self ..)) hr
      simpa [ValSp.text] using this

theorem render_bexpr (path : List GoString) (hne : path ≠ []) :
    Selector.render { ty := .bexpr, path := path } = GoString.join [46] path := by
  cases path with
  | nil => exact absurd rfl hne
  | cons p ps => simp [Selector.render, GoString.ofString_dot]

theorem eats_Value (v : ValSp) (h : v.WF) (hf : v.follow rest) (hr : VT rest) :
    Eats rule (.ruleRef "Value") fr v.text rest off errs fr (.mval v.raw) := by
  have hall : VT (v.text ++ rest) := (v.text_vt h).append hr
  -- a number or quoted value is no selector, a quoted value no number
  have f1 : (∀ σ, v ≠ .sel σ) → Fails Pinned.Grammar.rule_28.shown
      (.action "onValue2" (.labeled "selector" (.ruleRef "Selector"))) [] (v.text ++ rest) off
      errs := fun hns => Fails.action (Fails.labeled (v.not_selector h hns hr))
  cases v with
  | sel σ =>
    refine Eats.ref look_Value (Eats.choice_hit (Eats.action
      (Eats.labeled "selector" (eats_Selector_bexpr σ h hf hr)) ?_))
    rw [act_of_sem sem_onValue2]
    simp only [runActionSem, frame_get_head]
    rw [render_bexpr _ (by simp [SelSp.path])]
    rfl
  | num n =>
    refine Eats.ref look_Value (Eats.choice_next (f1 nofun) (Eats.choice_hit
      (Eats.action (Eats.labeled "n" (eats_NumberLiteral n h hf hr)) ?_)))
    rw [act_of_sem sem_onValue5]
    simp only [runActionSem, frame_get_head]
    rfl
  | str q body val =>
    obtain ⟨hq, hb, hnq, hu, hdq⟩ := h
    have f2 : Fails Pinned.Grammar.rule_28.shown
        (.action "onValue5" (.labeled "n" (.ruleRef "NumberLiteral"))) []
        ([q] ++ (body ++ [q]) ++ rest) off errs := by
      refine Fails.action (Fails.labeled (fails_NumberLiteral hall ?_))
      rcases hq with rfl | rfl <;> rfl
    refine Eats.ref look_Value (Eats.choice_next (f1 nofun) (Eats.choice_next f2
      (Eats.choice_hit (Eats.action (Eats.labeled "s"
        (eats_StringLiteral hq body val hb hnq hu hr)) ?_))))
    rw [act_of_sem sem_onValue8]
    simp only [runActionSem, frame_get_head]
    rfl


/-! ## 3. Token sequences: blanks and keywords -/

/-- the three frame-neutral items operator rules are made of -/
inductive Tok where
  | ws                    -- `_`
  | optWs                 -- `_?`
  | kw (x : GoString)     -- a literal

def Tok.expr : Tok → PExpr
  | .ws => .ruleRef "_"
  | .optWs => .zeroOrOne (.ruleRef "_")
  | .kw x => .lit (runesOf x) false

def toksText : List (Tok × GoString) → GoString
  | [] => []
  | (_, w) :: ts => w ++ toksText ts

/-- the spelling `ts` (token, text) is well-formed in front of `rest`: blanks are blanks
    (non-empty where mandatory) and maximal, keywords are themselves -/
def ToksOK : List (Tok × GoString) → GoString → Prop
  | [], _ => True
  | (.ws, w) :: ts, rest => w ≠ [] ∧ AllIn isWs w ∧
      headIn isWs (toksText ts ++ rest) = false ∧ ToksOK ts rest
  | (.optWs, w) :: ts, rest => AllIn isWs w ∧
      headIn isWs (toksText ts ++ rest) = false ∧ ToksOK ts rest
  | (.kw x, w) :: ts, rest => w = x ∧ Asc x ∧ ToksOK ts rest

theorem toksText_asc : ∀ (ts : List (Tok × GoString)) (rest : GoString), ToksOK ts rest →
    Asc (toksText ts)
  | [], _, _ => Asc.nil
  | (.ws, w) :: ts, rest, h => (h.2.1.asc @isWs_lt).append (toksText_asc ts rest h.2.2.2)
  | (.optWs, w) :: ts, rest, h => (h.1.asc @isWs_lt).append (toksText_asc ts rest h.2.2)
  | (.kw x, w) :: ts, rest, h => by
      obtain ⟨rfl, hx, h'⟩ := h
      exact hx.append (toksText_asc ts rest h')

theorem eatsSeq_toks_then {es : List PExpr} {b : GoString} {fr' : Frame} {vs : List PVal}
    (hes : ∀ off, EatsSeq rule es fr b rest off errs fr' vs) (hb : VT (b ++ rest)) :
    ∀ (ts : List (Tok × GoString)) (off : Nat), ToksOK ts (b ++ rest) →
      ∃ vs', EatsSeq rule ((ts.map (·.1)).map Tok.expr ++ es) fr (toksText ts ++ b) rest off errs
        fr' vs'
  | [], off, _ => ⟨_, hes off⟩
  | (.ws, w) :: ts, off, h => by
    obtain ⟨hne, hw, hstop, h'⟩ := h
    obtain ⟨vs', ih⟩ := eatsSeq_toks_then hes hb ts (off + w.length) h'
    have hr := (toksText_asc ts _ h').appendV hb
    rw [← List.append_assoc] at hstop hr
    exact ⟨_, (EatsSeq.cons (eats_ws1 ⟨hne, hw⟩ hstop hr) ih).cast (List.append_assoc ..).symm⟩
  | (.optWs, w) :: ts, off, h => by
    obtain ⟨hw, hstop, h'⟩ := h
    obtain ⟨vs', ih⟩ := eatsSeq_toks_then hes hb ts (off + w.length) h'
    have hr := (toksText_asc ts _ h').appendV hb
    rw [← List.append_assoc] at hstop hr
    obtain ⟨v, hv⟩ := eats_optWs (rule := rule) (fr := fr) (off := off) (errs := errs) hw hstop hr
    exact ⟨_, (EatsSeq.cons hv ih).cast (List.append_assoc ..).symm⟩
  | (.kw x, w) :: ts, off, h => by
    obtain ⟨rfl, hx, h'⟩ := h
    obtain ⟨vs', ih⟩ := eatsSeq_toks_then hes hb ts (off + w.length) h'
    have hr := (toksText_asc ts _ h').appendV hb
    rw [← List.append_assoc] at hr
    exact ⟨_, (EatsSeq.cons (Eats.lit w rfl hx hr) ih).cast (List.append_assoc ..).symm⟩

theorem eatsSeq_toks (ts : List (Tok × GoString)) (off : Nat) (h : ToksOK ts rest) (hr : VT rest) :
    ∃ vs, EatsSeq rule ((ts.map (·.1)).map Tok.expr) fr (toksText ts) rest off errs fr vs := by
  have := eatsSeq_toks_then (rule := rule) (fr := fr) (errs := errs) (b := [])
    (fun _ => EatsSeq.nil) hr ts off h
  simpa using this

theorem failsSeq_toks_then {es : List PExpr} (hes : ∀ off, FailsSeq rule es fr s off errs)
    (hs : VT s) : ∀ (ts : List (Tok × GoString)) (off : Nat), ToksOK ts s →
      FailsSeq rule ((ts.map (·.1)).map Tok.expr ++ es) fr (toksText ts ++ s) off errs
  | [], off, _ => hes off
  | (.ws, w) :: ts, off, h => by
    obtain ⟨hne, hw, hstop, h'⟩ := h
    have hr := (toksText_asc ts _ h').appendV hs
    rw [toksText, List.append_assoc]
    exact FailsSeq.later (eats_ws1 ⟨hne, hw⟩ hstop hr) (failsSeq_toks_then hes hs ts _ h')
  | (.optWs, w) :: ts, off, h => by
    obtain ⟨hw, hstop, h'⟩ := h
    have hr := (toksText_asc ts _ h').appendV hs
    rw [toksText, List.append_assoc]
    obtain ⟨v, hv⟩ := eats_optWs (rule := rule) (fr := fr) (off := off) (errs := errs) hw hstop hr
    exact FailsSeq.later hv (failsSeq_toks_then hes hs ts _ h')
  | (.kw x, w) :: ts, off, h => by
    obtain ⟨rfl, hx, h'⟩ := h
    rw [toksText, List.append_assoc]
    exact FailsSeq.later (Eats.lit w rfl hx ((toksText_asc ts _ h').appendV hs))
      (failsSeq_toks_then hes hs ts _ h')

/-- The token list does not match at `s`.  In `wsNext` the blanks `w` may be empty: then the
    token `_` itself fails. -/
inductive ToksFail : List Tok → GoString → Prop
  | kwHere {x s ts} : Asc x → GoString.isPrefixOf x s = false → ToksFail (.kw x :: ts) s
  | kwNext {x r ts} : Asc x → ToksFail ts r → ToksFail (.kw x :: ts) (x ++ r)
  | wsNone {s ts} : headIn isWs s = false → ToksFail (.ws :: ts) s
  | wsNext {w r ts} : AllIn isWs w → headIn isWs r = false → ToksFail ts r →
      ToksFail (.ws :: ts) (w ++ r)
  | optWsNext {w r ts} : AllIn isWs w → headIn isWs r = false → ToksFail ts r →
      ToksFail (.optWs :: ts) (w ++ r)

theorem failsSeq_toks {ts : List Tok} {s : GoString} (h : ToksFail ts s) :
    ∀ (off : Nat) (es : List PExpr), VT s →
      FailsSeq rule (ts.map Tok.expr ++ es) fr s off errs := by
  induction h with
  | kwHere hx hp => exact fun off es hs => FailsSeq.here (Fails.lit _ rfl hx hs hp)
  | kwNext hx _ ih =>
    exact fun off es hs => FailsSeq.later (Eats.lit _ rfl hx (VT.right hx hs))
      (ih _ es (VT.right hx hs))
  | wsNone hstop => exact fun off es hs => FailsSeq.here (fails_ws hs hstop)
  | @wsNext w r ts hw hstop _ ih =>
    intro off es hs
    cases w with
    | nil => exact FailsSeq.here (fails_ws hs hstop)
    | cons b t =>
      have hr := VT.right (hw.asc @isWs_lt) hs
      exact FailsSeq.later (eats_ws hw hstop hr) (ih _ es hr)
  | optWsNext hw hstop _ ih =>
    intro off es hs
    have hr := VT.right (hw.asc @isWs_lt) hs
    obtain ⟨v, hv⟩ := eats_optWs (rule := rule) (fr := fr) (off := off) (errs := errs) hw hstop
      hr
    exact FailsSeq.later hv (ih _ es hr)

theorem isPrefixOf_append_false : ∀ {x y : GoString} (t : GoString),
    GoString.isPrefixOf x y = false → GoString.isPrefixOf y x = false →
    GoString.isPrefixOf x (y ++ t) = false
  | [], _, _, h, _ => nomatch h
  | _ :: _, [], _, _, h => nomatch h
  | a :: x, b :: y, t, h1, h2 => by
    have h1' : (a == b && GoString.isPrefixOf x y) = false := h1
    have h2' : (b == a && GoString.isPrefixOf y x) = false := h2
    show (a == b && GoString.isPrefixOf x (y ++ t)) = false
    cases hab : a == b with
    | false => rfl
    | true =>
      rw [hab, Bool.true_and] at h1'
      rw [eq_of_beq hab, beq_self_eq_true, Bool.true_and] at h2'
      exact (Bool.true_and _).trans (isPrefixOf_append_false t h1' h2')

/-- Two token lists part ways at a keyword: blanks in the same places, the same keywords, then
    two keywords neither of which begins the other. -/
def clash : List Tok → List Tok → Bool
  | .kw x :: a, .kw y :: b =>
    if x = y then clash a b
    else !GoString.isPrefixOf x y && !GoString.isPrefixOf y x && decide (Asc x)
  | .ws :: a, .ws :: b | .ws :: a, .optWs :: b | .optWs :: a, .ws :: b
  | .optWs :: a, .optWs :: b => clash a b
  | _, _ => false

theorem map_fst_eq_cons {ts : List (Tok × GoString)} {t : Tok} {b : List Tok}
    (h : ts.map (·.1) = t :: b) : ∃ w ts', ts = (t, w) :: ts' ∧ ts'.map (·.1) = b := by
  cases ts with
  | nil => cases h
  | cons p ts' =>
    obtain ⟨t', w⟩ := p
    cases (List.cons.inj h).1
    exact ⟨w, ts', rfl, (List.cons.inj h).2⟩

theorem toksFail_of_clash {toks toks' : List Tok} (hc : clash toks toks' = true) :
    ∀ ts : List (Tok × GoString), ts.map (·.1) = toks' → ToksOK ts rest →
      ToksFail toks (toksText ts ++ rest) := by
  fun_induction clash toks toks' with
  | case1 x a b ih =>
    intro ts hts hok
    obtain ⟨w, ts, rfl, hb⟩ := map_fst_eq_cons hts
    obtain ⟨rfl, hx, hok⟩ := hok
    rw [toksText, List.append_assoc]
    exact ToksFail.kwNext hx (ih hc ts hb hok)
  | case2 x a y b hxy =>
    intro ts hts hok
    obtain ⟨w, ts, rfl, hb⟩ := map_fst_eq_cons hts
    obtain ⟨rfl, -, -⟩ := hok
    rw [toksText, List.append_assoc]
    simp only [Bool.and_eq_true, Bool.not_eq_true', decide_eq_true_eq] at hc
    exact ToksFail.kwHere hc.2 (isPrefixOf_append_false _ hc.1.1 hc.1.2)
  | case3 a b ih =>
    intro ts hts hok
    obtain ⟨w, ts, rfl, hb⟩ := map_fst_eq_cons hts
    rw [toksText, List.append_assoc]
    exact ToksFail.wsNext hok.2.1 hok.2.2.1 (ih hc ts hb hok.2.2.2)
  | case4 a b ih =>
    intro ts hts hok
    obtain ⟨w, ts, rfl, hb⟩ := map_fst_eq_cons hts
    rw [toksText, List.append_assoc]
    exact ToksFail.wsNext hok.1 hok.2.1 (ih hc ts hb hok.2.2)
  | case5 a b ih =>
    intro ts hts hok
    obtain ⟨w, ts, rfl, hb⟩ := map_fst_eq_cons hts
    rw [toksText, List.append_assoc]
    exact ToksFail.optWsNext hok.2.1 hok.2.2.1 (ih hc ts hb hok.2.2.2)
  | case6 a b ih =>
    intro ts hts hok
    obtain ⟨w, ts, rfl, hb⟩ := map_fst_eq_cons hts
    rw [toksText, List.append_assoc]
    exact ToksFail.optWsNext hok.1 hok.2.1 (ih hc ts hb hok.2.2)
  | case7 => cases hc


/-! ## 4. Operator rules -/

def kEq : GoString := [61, 61]
def kNe : GoString := [33, 61]
def kContains : GoString := [99, 111, 110, 116, 97, 105, 110, 115]
def kMatches : GoString := [109, 97, 116, 99, 104, 101, 115]
def kNot : GoString := [110, 111, 116]
def kIs : GoString := [105, 115]
def kEmpty : GoString := [101, 109, 112, 116, 121]
def kIn : GoString := [105, 110]
def kAnd : GoString := [97, 110, 100]
def kOr : GoString := [111, 114]

/-- the ten rules of the form `Name <- tokens { return <MatchOperator>, nil }` -/
inductive OpRule where
  | equal | notEqual | isEmpty | isNotEmpty | in_ | notIn | contains | notContains | reMatch
  | reNotMatch
  deriving DecidableEq

def OpRule.name : OpRule → String
  | .equal => "MatchEqual"
  | .notEqual => "MatchNotEqual"
  | .isEmpty => "MatchIsEmpty"
  | .isNotEmpty => "MatchIsNotEmpty"
  | .in_ => "MatchIn"
  | .notIn => "MatchNotIn"
  | .contains => "MatchContains"
  | .notContains => "MatchNotContains"
  | .reMatch => "MatchMatches"
  | .reNotMatch => "MatchNotMatches"

def OpRule.toks : OpRule → List Tok
  | .equal => [.optWs, .kw kEq, .optWs]
  | .notEqual => [.optWs, .kw kNe, .optWs]
  | .isEmpty => [.ws, .kw kIs, .ws, .kw kEmpty]
  | .isNotEmpty => [.ws, .kw kIs, .ws, .kw kNot, .ws, .kw kEmpty]
  | .in_ => [.ws, .kw kIn, .ws]
  | .notIn => [.ws, .kw kNot, .ws, .kw kIn, .ws]
  | .contains => [.ws, .kw kContains, .ws]
  | .notContains => [.ws, .kw kNot, .ws, .kw kContains, .ws]
  | .reMatch => [.ws, .kw kMatches, .ws]
  | .reNotMatch => [.ws, .kw kNot, .ws, .kw kMatches, .ws]

/-- `contains` and `not contains` are `in` and `not in` with the operands exchanged -/
def OpRule.op : OpRule → MatchOp
  | .equal => .equal
  | .notEqual => .notEqual
  | .isEmpty => .isEmpty
  | .isNotEmpty => .isNotEmpty
  | .in_ | .contains => .in_
  | .notIn | .notContains => .notIn
  | .reMatch => .matches
  | .reNotMatch => .notMatches

-- the two lookups of the row `.equal` have names: `Proofs/C16EvalLemmas.lean` uses them
theorem look_MatchEqual : lookupRule G "MatchEqual" = some Pinned.Grammar.rule_13 :=
  lookupRule_pin 13 rfl rfl
theorem sem_onMatchEqual1 : lookupSem pinSem "onMatchEqual1" = .constMatchOp .equal :=
  lookupSem_pin 23 (by decide +kernel)

def OpRule.all : List OpRule :=
  [.equal, .notEqual, .isEmpty, .isNotEmpty, .in_, .notIn, .contains, .notContains, .reMatch,
    .reNotMatch]

theorem OpRule.mem_all (R : OpRule) : R ∈ OpRule.all := by cases R <;> decide

theorem OpRule.sem_table : ∀ R ∈ OpRule.all,
    (pinSem[23 + R.ctorIdx]?).map (·.2) = some (.constMatchOp R.op) := by decide +kernel

/-- the operator rules are rules 13 to 22 and their code blocks 23 to 32, in the order of `OpRule` -/
theorem OpRule.spec_row {R : OpRule} {r : Rule} {nm : String}
    (hr : G[13 + R.ctorIdx]? = some r) (hn : r.name = R.name)
    (he : r.expr = .action nm (.seq (R.toks.map Tok.expr)))
    (hm : (pinSem[23 + R.ctorIdx]?).map (·.1) = some nm) :
    ∃ r nm, lookupRule G R.name = some r ∧
      r.expr = .action nm (.seq (R.toks.map Tok.expr)) ∧ lookupSem pinSem nm = .constMatchOp R.op := by
  refine ⟨r, nm, lookupRule_pin _ hr hn, he, lookupSem_pin (23 + R.ctorIdx) ?_⟩
  have t := OpRule.sem_table R R.mem_all
  cases h : pinSem[23 + R.ctorIdx]? with
  | none => rw [h] at hm; cases hm
  | some p =>
    rw [h] at hm t
    exact congrArg some (Prod.ext (Option.some.inj hm) (Option.some.inj t))

theorem OpRule.spec : ∀ R : OpRule, ∃ r nm, lookupRule G R.name = some r ∧
    r.expr = .action nm (.seq (R.toks.map Tok.expr)) ∧ lookupSem pinSem nm = .constMatchOp R.op
  | .equal => spec_row rfl rfl rfl rfl
  | .notEqual => spec_row rfl rfl rfl rfl
  | .isEmpty => spec_row rfl rfl rfl rfl
  | .isNotEmpty => spec_row rfl rfl rfl rfl
  | .in_ => spec_row rfl rfl rfl rfl
  | .notIn => spec_row rfl rfl rfl rfl
  | .contains => spec_row rfl rfl rfl rfl
  | .notContains => spec_row rfl rfl rfl rfl
  | .reMatch => spec_row rfl rfl rfl rfl
  | .reNotMatch => spec_row rfl rfl rfl rfl

theorem eats_opRule (R : OpRule) (ts : List (Tok × GoString)) (hts : ts.map (·.1) = R.toks)
    (hok : ToksOK ts rest) (hr : VT rest) :
    Eats rule (.ruleRef R.name) fr (toksText ts) rest off errs fr (.mop R.op) := by
  obtain ⟨r, nm, hl, he, hsem⟩ := R.spec
  obtain ⟨vs, hvs⟩ := eatsSeq_toks (rule := r.shown) (fr := []) (errs := errs) ts off hok hr
  rw [hts] at hvs
  apply Eats.ref hl
  rw [he]
  exact Eats.action (Eats.seq hvs) (by rw [act_of_sem hsem]; rfl)

theorem fails_opRule (R : OpRule) (h : ToksFail R.toks s) (hs : VT s) :
    Fails rule (.ruleRef R.name) fr s off errs := by
  obtain ⟨r, nm, hl, he, -⟩ := R.spec
  apply Fails.ref hl
  rw [he]
  have := failsSeq_toks (rule := r.shown) (fr := []) (errs := errs) h off [] hs
  rw [List.append_nil] at this
  exact Fails.action (Fails.seq this)

abbrev opChoice (Rs : List OpRule) : PExpr := .choice (Rs.map fun R => .ruleRef R.name)

theorem fails_opChoice (hs : VT s) : ∀ Rs : List OpRule, (∀ R ∈ Rs, ToksFail R.toks s) →
    Fails rule (opChoice Rs) fr s off errs
  | [], _ => Fails.choice_nil
  | R :: Rs, h =>
    Fails.choice_cons (fails_opRule R (h R (List.mem_cons_self ..)) hs)
      (fails_opChoice hs Rs fun R' h' => h R' (List.mem_cons_of_mem _ h'))

theorem OpRule.clash_of_ne {R' R : OpRule} (h : R' ≠ R) : clash R'.toks R.toks = true :=
  (by decide +kernel : ∀ R' ∈ OpRule.all, ∀ R ∈ OpRule.all, R' ≠ R → clash R'.toks R.toks = true)
    R' R'.mem_all R R.mem_all h

/-- on a spelling of rule `R` the other operator rules fail … -/
theorem fails_opChoice_ne (R : OpRule) (ts : List (Tok × GoString))
    (hts : ts.map (·.1) = R.toks) (hok : ToksOK ts rest) (hs : VT (toksText ts ++ rest))
    (Rs : List OpRule) (h : R ∉ Rs) :
    Fails rule (opChoice Rs) fr (toksText ts ++ rest) off errs :=
  fails_opChoice hs Rs fun R' m =>
    toksFail_of_clash (OpRule.clash_of_ne fun (e : R' = R) => h (e ▸ m)) ts hts hok

/-- … and `R` itself matches it, returning its operator. -/
theorem eats_opChoice (R : OpRule) (ts : List (Tok × GoString)) (hts : ts.map (·.1) = R.toks)
    (hok : ToksOK ts rest) (hr : VT rest) {post : List OpRule} :
    ∀ pre : List OpRule, R ∉ pre →
      Eats rule (opChoice (pre ++ R :: post)) fr (toksText ts) rest off errs fr (.mop R.op)
  | [], _ => Eats.choice_hit (eats_opRule R ts hts hok hr)
  | R' :: pre, h =>
    Eats.choice_next
      (fails_opRule R' (toksFail_of_clash
          (OpRule.clash_of_ne fun (e : R' = R) => h (e ▸ List.mem_cons_self ..)) ts hts hok)
        ((toksText_asc ts rest hok).appendV hr))
      (eats_opChoice R ts hts hok hr pre fun m => h (List.mem_cons_of_mem _ m))


/-! ## 5. Spelled operators -/

inductive OpSp where
  | eq (w₁ w₂ : GoString)
  | ne (w₁ w₂ : GoString)
  | contains (w₁ w₂ : GoString)
  | notContains (w₁ wm w₂ : GoString)
  | reMatch (w₁ w₂ : GoString)
  | reNotMatch (w₁ wm w₂ : GoString)

def OpSp.spell : OpSp → List (Tok × GoString)
  | .eq w₁ w₂ => [(.optWs, w₁), (.kw kEq, kEq), (.optWs, w₂)]
  | .ne w₁ w₂ => [(.optWs, w₁), (.kw kNe, kNe), (.optWs, w₂)]
  | .contains w₁ w₂ => [(.ws, w₁), (.kw kContains, kContains), (.ws, w₂)]
  | .notContains w₁ wm w₂ =>
    [(.ws, w₁), (.kw kNot, kNot), (.ws, wm), (.kw kContains, kContains), (.ws, w₂)]
  | .reMatch w₁ w₂ => [(.ws, w₁), (.kw kMatches, kMatches), (.ws, w₂)]
  | .reNotMatch w₁ wm w₂ =>
    [(.ws, w₁), (.kw kNot, kNot), (.ws, wm), (.kw kMatches, kMatches), (.ws, w₂)]

def OpSp.text (o : OpSp) : GoString := toksText o.spell

def OpSp.op : OpSp → MatchOp
  | .eq .. => .equal
  | .ne .. => .notEqual
  | .contains .. => .in_
  | .notContains .. => .notIn
  | .reMatch .. => .matches
  | .reNotMatch .. => .notMatches

abbrev op6 : PExpr :=
  opChoice [.equal, .notEqual, .contains, .notContains, .reMatch, .reNotMatch]

theorem eats_op6 (o : OpSp) (hok : ToksOK o.spell rest) (hr : VT rest) :
    Eats rule op6 fr o.text rest off errs fr (.mop o.op) := by
  cases o with
  | eq w₁ w₂ => exact eats_opChoice .equal _ rfl hok hr [] (by decide)
  | ne w₁ w₂ => exact eats_opChoice .notEqual _ rfl hok hr [.equal] (by decide)
  | contains w₁ w₂ =>
    exact eats_opChoice .contains _ rfl hok hr [.equal, .notEqual] (by decide)
  | notContains w₁ wm w₂ =>
    exact eats_opChoice .notContains _ rfl hok hr [.equal, .notEqual, .contains] (by decide)
  | reMatch w₁ w₂ =>
    exact eats_opChoice .reMatch _ rfl hok hr [.equal, .notEqual, .contains, .notContains]
      (by decide)
  | reNotMatch w₁ wm w₂ =>
    exact eats_opChoice .reNotMatch _ rfl hok hr
      [.equal, .notEqual, .contains, .notContains, .reMatch] (by decide)

def OpSp.WF : OpSp → Prop
  | .eq w₁ w₂ => AllIn isWs w₁ ∧ AllIn isWs w₂
  | .ne w₁ w₂ => AllIn isWs w₁ ∧ AllIn isWs w₂
  | .contains w₁ w₂ => (w₁ ≠ [] ∧ AllIn isWs w₁) ∧ (w₂ ≠ [] ∧ AllIn isWs w₂)
  | .notContains w₁ wm w₂ =>
    (w₁ ≠ [] ∧ AllIn isWs w₁) ∧ (wm ≠ [] ∧ AllIn isWs wm) ∧ (w₂ ≠ [] ∧ AllIn isWs w₂)
  | .reMatch w₁ w₂ => (w₁ ≠ [] ∧ AllIn isWs w₁) ∧ (w₂ ≠ [] ∧ AllIn isWs w₂)
  | .reNotMatch w₁ wm w₂ =>
    (w₁ ≠ [] ∧ AllIn isWs w₁) ∧ (wm ≠ [] ∧ AllIn isWs wm) ∧ (w₂ ≠ [] ∧ AllIn isWs w₂)

instance OpSp.decWF (o : OpSp) : Decidable o.WF := by cases o <;> (unfold OpSp.WF; infer_instance)

theorem OpSp.toksOK (o : OpSp) (h : o.WF) (hstop : headIn isWs rest = false) :
    ToksOK o.spell rest := by
  cases o with
  | eq w₁ w₂ => exact ⟨h.1, rfl, rfl, by decide, h.2, hstop, trivial⟩
  | ne w₁ w₂ => exact ⟨h.1, rfl, rfl, by decide, h.2, hstop, trivial⟩
  | contains w₁ w₂ => exact ⟨h.1.1, h.1.2, rfl, rfl, by decide, h.2.1, h.2.2, hstop, trivial⟩
  | notContains w₁ wm w₂ =>
    exact ⟨h.1.1, h.1.2, rfl, rfl, by decide, h.2.1.1, h.2.1.2, rfl, rfl, by decide,
      h.2.2.1, h.2.2.2, hstop, trivial⟩
  | reMatch w₁ w₂ => exact ⟨h.1.1, h.1.2, rfl, rfl, by decide, h.2.1, h.2.2, hstop, trivial⟩
  | reNotMatch w₁ wm w₂ =>
    exact ⟨h.1.1, h.1.2, rfl, rfl, by decide, h.2.1.1, h.2.1.2, rfl, rfl, by decide,
      h.2.2.1, h.2.2.2, hstop, trivial⟩

/-! ### `is empty`, `is not empty` -/

inductive PostSp where
  | isEmpty (w₁ w₂ : GoString)
  | isNotEmpty (w₁ w₂ w₃ : GoString)

def PostSp.spell : PostSp → List (Tok × GoString)
  | .isEmpty w₁ w₂ => [(.ws, w₁), (.kw kIs, kIs), (.ws, w₂), (.kw kEmpty, kEmpty)]
  | .isNotEmpty w₁ w₂ w₃ =>
    [(.ws, w₁), (.kw kIs, kIs), (.ws, w₂), (.kw kNot, kNot), (.ws, w₃), (.kw kEmpty, kEmpty)]
def PostSp.text (p : PostSp) : GoString := toksText p.spell
def PostSp.op : PostSp → MatchOp
  | .isEmpty .. => .isEmpty
  | .isNotEmpty .. => .isNotEmpty
def PostSp.WF : PostSp → Prop
  | .isEmpty w₁ w₂ => (w₁ ≠ [] ∧ AllIn isWs w₁) ∧ (w₂ ≠ [] ∧ AllIn isWs w₂)
  | .isNotEmpty w₁ w₂ w₃ =>
    (w₁ ≠ [] ∧ AllIn isWs w₁) ∧ (w₂ ≠ [] ∧ AllIn isWs w₂) ∧ (w₃ ≠ [] ∧ AllIn isWs w₃)

instance PostSp.decWF (p : PostSp) : Decidable p.WF := by
  cases p <;> (unfold PostSp.WF; infer_instance)

theorem PostSp.toksOK (p : PostSp) (h : p.WF) : ToksOK p.spell rest := by
  cases p with
  | isEmpty w₁ w₂ =>
    exact ⟨h.1.1, h.1.2, rfl, rfl, by decide, h.2.1, h.2.2, rfl, rfl, by decide, trivial⟩
  | isNotEmpty w₁ w₂ w₃ =>
    exact ⟨h.1.1, h.1.2, rfl, rfl, by decide, h.2.1.1, h.2.1.2, rfl, rfl, by decide,
      h.2.2.1, h.2.2.2, rfl, rfl, by decide, trivial⟩

abbrev isChoice : PExpr := opChoice [.isEmpty, .isNotEmpty]

theorem eats_isChoice (p : PostSp) (h : p.WF) (hr : VT rest) :
    Eats rule isChoice fr p.text rest off errs fr (.mop p.op) := by
  cases p with
  | isEmpty w₁ w₂ => exact eats_opChoice .isEmpty _ rfl (PostSp.toksOK _ h) hr [] (by decide)
  | isNotEmpty w₁ w₂ w₃ =>
    exact eats_opChoice .isNotEmpty _ rfl (PostSp.toksOK _ h) hr [.isEmpty] (by decide)

theorem PostSp.fails_op6 (p : PostSp) (h : p.WF) (hs : VT (p.text ++ rest)) :
    Fails rule op6 fr (p.text ++ rest) off errs := by
  cases p with
  | isEmpty w₁ w₂ => exact fails_opChoice_ne .isEmpty _ rfl (PostSp.toksOK _ h) hs _ (by decide)
  | isNotEmpty w₁ w₂ w₃ =>
    exact fails_opChoice_ne .isNotEmpty _ rfl (PostSp.toksOK _ h) hs _ (by decide)

/-! ### `in`, `not in` -/

inductive InSp where
  | in_ (w₁ w₂ : GoString)
  | notIn (w₁ w₂ w₃ : GoString)

def InSp.spell : InSp → List (Tok × GoString)
  | .in_ w₁ w₂ => [(.ws, w₁), (.kw kIn, kIn), (.ws, w₂)]
  | .notIn w₁ w₂ w₃ => [(.ws, w₁), (.kw kNot, kNot), (.ws, w₂), (.kw kIn, kIn), (.ws, w₃)]
def InSp.text (p : InSp) : GoString := toksText p.spell
def InSp.op : InSp → MatchOp
  | .in_ .. => .in_
  | .notIn .. => .notIn
def InSp.WF : InSp → Prop
  | .in_ w₁ w₂ => (w₁ ≠ [] ∧ AllIn isWs w₁) ∧ (w₂ ≠ [] ∧ AllIn isWs w₂)
  | .notIn w₁ w₂ w₃ =>
    (w₁ ≠ [] ∧ AllIn isWs w₁) ∧ (w₂ ≠ [] ∧ AllIn isWs w₂) ∧ (w₃ ≠ [] ∧ AllIn isWs w₃)

instance InSp.decWF (i : InSp) : Decidable i.WF := by cases i <;> (unfold InSp.WF; infer_instance)

theorem InSp.toksOK (p : InSp) (h : p.WF) (hstop : headIn isWs rest = false) :
    ToksOK p.spell rest := by
  cases p with
  | in_ w₁ w₂ => exact ⟨h.1.1, h.1.2, rfl, rfl, by decide, h.2.1, h.2.2, hstop, trivial⟩
  | notIn w₁ w₂ w₃ =>
    exact ⟨h.1.1, h.1.2, rfl, rfl, by decide, h.2.1.1, h.2.1.2, rfl, rfl, by decide,
      h.2.2.1, h.2.2.2, hstop, trivial⟩

abbrev inChoice : PExpr := opChoice [.in_, .notIn]

theorem eats_inChoice (p : InSp) (h : p.WF) (hstop : headIn isWs rest = false) (hr : VT rest) :
    Eats rule inChoice fr p.text rest off errs fr (.mop p.op) := by
  cases p with
  | in_ w₁ w₂ => exact eats_opChoice .in_ _ rfl (InSp.toksOK _ h hstop) hr [] (by decide)
  | notIn w₁ w₂ w₃ =>
    exact eats_opChoice .notIn _ rfl (InSp.toksOK _ h hstop) hr [.in_] (by decide)

theorem InSp.fails_others (p : InSp) (h : p.WF) (hstop : headIn isWs rest = false)
    (hs : VT (p.text ++ rest)) (Rs : List OpRule) (hc : .in_ ∉ Rs ∧ .notIn ∉ Rs) :
    Fails rule (opChoice Rs) fr (p.text ++ rest) off errs := by
  cases p with
  | in_ w₁ w₂ => exact fails_opChoice_ne .in_ _ rfl (InSp.toksOK _ h hstop) hs Rs hc.1
  | notIn w₁ w₂ w₃ => exact fails_opChoice_ne .notIn _ rfl (InSp.toksOK _ h hstop) hs Rs hc.2


/-! ## 6. Selectors in either spelling; heads of texts -/

inductive SelX where
  | bexpr (σ : SelSp)
  | ptr (path : List GoString)

def SelX.text : SelX → GoString
  | .bexpr σ => σ.text
  | .ptr path => pointerText path

def SelX.sel : SelX → Selector
  | .bexpr σ => { ty := .bexpr, path := σ.path }
  | .ptr path => { ty := .jsonPointer, path := path }

open Bexpr.Props.C16Lex (ptrEscape) in
def SelX.WF : SelX → Prop
  | .bexpr σ => σ.WF
  | .ptr path => path ≠ [] ∧ ∀ p ∈ path, SegOK (ptrEscape p)

instance SelX.decWF (x : SelX) : Decidable x.WF := by cases x <;> (unfold SelX.WF; infer_instance)

def SelX.follow : SelX → GoString → Prop
  | .bexpr _, rest => stopsSel rest
  | .ptr _, _ => True

theorem SelX.text_vt (x : SelX) (h : x.WF) : VT x.text := by
  cases x with
  | bexpr σ => exact σ.text_vt h
  | ptr path => exact pointerText_vt path h.2

theorem eats_SelX (x : SelX) (h : x.WF) (hf : x.follow rest) (hr : VT rest) :
    Eats rule (.ruleRef "Selector") fr x.text rest off errs fr (.sel x.sel) := by
  cases x with
  | bexpr σ => exact eats_Selector_bexpr σ h hf hr
  | ptr path => exact eats_Selector_pointer path h.1 h.2 hr

/-- the first byte of a token: never a blank, never `(` -/
def tokStart (n : Nat) : Bool := isAlpha n || numStart n || n == 0x60 || n == 0x22

theorem headIn_append_left {p : Nat → Bool} {b : UInt8} {t u : GoString} :
    headIn p ((b :: t) ++ u) = p b.toNat := rfl

theorem SelSp.head (σ : SelSp) (h : σ.WF) : headIn tokStart (σ.text ++ rest) = true := by
  show tokStart σ.b.toNat = true
  simp [tokStart, h.1]

theorem SelX.head (x : SelX) (h : x.WF) : headIn tokStart (x.text ++ rest) = true := by
  cases x with
  | bexpr σ => exact σ.head h
  | ptr path => rfl

theorem NumLit.head (n : NumLit) (h : n.WF) : headIn tokStart (n.text ++ rest) = true :=
  headIn_imp (fun n hn => by simp [tokStart, hn]) (n.head_numStart h)

theorem ValSp.head (v : ValSp) (h : v.WF) : headIn tokStart (v.text ++ rest) = true := by
  cases v with
  | sel σ => exact σ.head h
  | num n => exact n.head h
  | str q body val =>
    rcases h.1 with rfl | rfl <;> rfl

theorem noWs_of_tokStart (h : headIn tokStart s = true) : headIn isWs s = false :=
  headIn_noWs rfl rfl rfl rfl h

theorem noParen_of_tokStart (h : headIn tokStart s = true) :
    GoString.isPrefixOf [40] s = false := not_prefix_of_headIn (p := tokStart) rfl h

/-! ## 7. What follows a blank; ends of the operator phrases -/

theorem isWs_not_selCont : ∀ n, isWs n = true → selCont n = false :=
  fun _ h => not_of_isWs rfl rfl rfl rfl h

theorem stopsSel_of_ws {b : UInt8} {t r : GoString} (h : AllIn isWs (b :: t)) :
    stopsSel ((b :: t) ++ r) := isWs_not_selCont _ h.head

theorem numFollow_of_ws {b : UInt8} {t r : GoString} (h : AllIn isWs (b :: t)) :
    numFollow ((b :: t) ++ r) = true := by
  show (isWs b.toNat || b == 41) = true
  rw [h.head]; rfl

/-- mandatory blanks end a selector and may follow a number -/
theorem stops_of_ws {w : GoString} (hw : Blank1 w) (r : GoString) :
    stopsSel (w ++ r) ∧ numFollow (w ++ r) = true := by
  obtain ⟨hne, hws⟩ := hw
  cases w with
  | nil => exact absurd rfl hne
  | cons b t => exact ⟨stopsSel_of_ws hws, numFollow_of_ws hws⟩

theorem toks_stops {t : Tok} {w : GoString} {ts : List (Tok × GoString)} (hw : Blank1 w)
    (r : GoString) :
    stopsSel (toksText ((t, w) :: ts) ++ r) ∧ numFollow (toksText ((t, w) :: ts) ++ r) = true := by
  rw [toksText, List.append_assoc]
  exact stops_of_ws hw _

theorem OpSp.stops (o : OpSp) (h : o.WF) (r : GoString) : stopsSel (o.text ++ r) := by
  cases o with
  | eq w₁ w₂ | ne w₁ w₂ =>
    cases w₁ with
    | nil => rfl
    | cons b t => exact stopsSel_of_ws (r := []) h.1
  | contains w₁ w₂ | notContains w₁ wm w₂ | reMatch w₁ w₂ | reNotMatch w₁ wm w₂ =>
    exact (toks_stops h.1 r).1

theorem PostSp.stops (p : PostSp) (h : p.WF) (r : GoString) : stopsSel (p.text ++ r) := by
  cases p with
  | isEmpty w₁ w₂ | isNotEmpty w₁ w₂ w₃ => exact (toks_stops h.1 r).1

theorem InSp.stops (p : InSp) (h : p.WF) (r : GoString) :
    stopsSel (p.text ++ r) ∧ numFollow (p.text ++ r) = true := by
  cases p with
  | in_ w₁ w₂ | notIn w₁ w₂ w₃ => exact toks_stops h.1 r

theorem SelX.follow_of_stops (x : SelX) (h : stopsSel rest) : x.follow rest := by
  cases x with
  | bexpr σ => exact h
  | ptr path => trivial

theorem ValSp.follow_of (v : ValSp) (h1 : stopsSel rest) (h2 : numFollow rest = true) :
    v.follow rest := by
  cases v with
  | sel σ => exact h1
  | num n => exact h2
  | str q body val => trivial

theorem OpSp.text_asc (o : OpSp) (h : o.WF) : Asc o.text :=
  toksText_asc _ [] (o.toksOK h rfl)
theorem PostSp.text_asc (p : PostSp) (h : p.WF) : Asc p.text :=
  toksText_asc _ [] (p.toksOK h)
theorem InSp.text_asc (p : InSp) (h : p.WF) : Asc p.text :=
  toksText_asc _ [] (p.toksOK h rfl)

/-! ## 8. The three match forms and `MatchExpression` -/

theorem sem_onMatchSelectorOpValue1 : lookupSem pinSem "onMatchSelectorOpValue1" =
    .mkMatch "selector" "operator" (some "value") :=
  lookupSem_pin 19 (by decide +kernel)
theorem sem_onMatchSelectorOp1 : lookupSem pinSem "onMatchSelectorOp1" =
    .mkMatch "selector" "operator" none :=
  lookupSem_pin 20 (by decide +kernel)
theorem sem_onMatchValueOpSelector2 : lookupSem pinSem "onMatchValueOpSelector2" =
    .mkMatch "selector" "operator" (some "value") :=
  lookupSem_pin 21 (by decide +kernel)
theorem look_MatchExpression : lookupRule G "MatchExpression" = some Pinned.Grammar.rule_9 :=
  lookupRule_pin 9 rfl rfl
theorem look_MatchSelectorOpValue :
    lookupRule G "MatchSelectorOpValue" = some Pinned.Grammar.rule_10 :=
  lookupRule_pin 10 rfl rfl
theorem look_MatchSelectorOp : lookupRule G "MatchSelectorOp" = some Pinned.Grammar.rule_11 :=
  lookupRule_pin 11 rfl rfl
theorem look_MatchValueOpSelector :
    lookupRule G "MatchValueOpSelector" = some Pinned.Grammar.rule_12 :=
  lookupRule_pin 12 rfl rfl

/-- a spelled match expression, in one of the three forms of the grammar -/
inductive MatchSp where
  | opValue (x : SelX) (o : OpSp) (v : ValSp)
  | post (x : SelX) (p : PostSp)
  | inSel (v : ValSp) (i : InSp) (x : SelX)

def MatchSp.text : MatchSp → GoString
  | .opValue x o v => x.text ++ (o.text ++ v.text)
  | .post x p => x.text ++ p.text
  | .inSel v i x => v.text ++ (i.text ++ x.text)

def MatchSp.ast : MatchSp → Expr
  | .opValue x o v => .match_ x.sel o.op (some v.raw)
  | .post x p => .match_ x.sel p.op none
  | .inSel v i x => .match_ x.sel i.op (some v.raw)

def MatchSp.WF : MatchSp → Prop
  | .opValue x o v => x.WF ∧ o.WF ∧ v.WF
  | .post x p => x.WF ∧ p.WF
  | .inSel v i x => v.WF ∧ i.WF ∧ x.WF

instance MatchSp.decWF (m : MatchSp) : Decidable m.WF := by
  cases m <;> (unfold MatchSp.WF; infer_instance)

/-- what must follow the match expression -/
def MatchSp.follow : MatchSp → GoString → Prop
  | .opValue _ _ v, rest => v.follow rest
  | .post .., _ => True
  | .inSel _ _ x, rest => x.follow rest

theorem MatchSp.text_vt (m : MatchSp) (h : m.WF) : VT m.text := by
  cases m with
  | opValue x o v => exact (x.text_vt h.1).append ((o.text_asc h.2.1).appendV (v.text_vt h.2.2))
  | post x p => exact (x.text_vt h.1).append (p.text_asc h.2).vt
  | inSel v i x => exact (v.text_vt h.1).append ((i.text_asc h.2.1).appendV (x.text_vt h.2.2))

theorem MatchSp.head (m : MatchSp) (h : m.WF) : headIn tokStart (m.text ++ rest) = true := by
  cases m with
  | opValue x o v =>
    show headIn tokStart (x.text ++ (o.text ++ v.text) ++ rest) = true
    rw [List.append_assoc]; exact x.head h.1
  | post x p =>
    show headIn tokStart (x.text ++ p.text ++ rest) = true
    rw [List.append_assoc]; exact x.head h.1
  | inSel v i x =>
    show headIn tokStart (v.text ++ (i.text ++ x.text) ++ rest) = true
    rw [List.append_assoc]; exact v.head h.1

/-- `selector op value` -/
theorem eats_MatchSelectorOpValue (x : SelX) (o : OpSp) (v : ValSp) (hx : x.WF) (ho : o.WF)
    (hv : v.WF) (hf : v.follow rest) (hr : VT rest) :
    Eats rule (.ruleRef "MatchSelectorOpValue") fr (x.text ++ (o.text ++ v.text)) rest off errs fr
      (.expr (.match_ x.sel o.op (some v.raw))) := by
  have hvr : VT (v.text ++ rest) := (v.text_vt hv).append hr
  refine Eats.ref look_MatchSelectorOpValue (Eats.action (Eats.seq
    (EatsSeq.cons (Eats.labeled "selector" (eats_SelX x hx
        (x.follow_of_stops (by rw [List.append_assoc]; exact o.stops ho _))
        (by rw [List.append_assoc]; exact (o.text_asc ho).appendV hvr)))
      (EatsSeq.cons (Eats.labeled "operator"
          (eats_op6 o (o.toksOK ho (noWs_of_tokStart (v.head hv))) hvr))
        (EatsSeq.one (Eats.labeled "value" (eats_Value v hv hf hr)))))) ?_)
  rw [act_of_sem sem_onMatchSelectorOpValue1]
  simp [runActionSem, Frame.get, List.find?]


/-- `selector is [not] empty` -/
theorem eats_MatchSelectorOp (x : SelX) (p : PostSp) (hx : x.WF) (hp : p.WF) (hr : VT rest) :
    Eats rule (.ruleRef "MatchSelectorOp") fr (x.text ++ p.text) rest off errs fr
      (.expr (.match_ x.sel p.op none)) := by
  refine Eats.ref look_MatchSelectorOp (Eats.action (Eats.seq
    (EatsSeq.cons (Eats.labeled "selector" (eats_SelX x hx
        (x.follow_of_stops (p.stops hp rest)) ((p.text_asc hp).appendV hr)))
      (EatsSeq.one (Eats.labeled "operator" (eats_isChoice p hp hr))))) ?_)
  rw [act_of_sem sem_onMatchSelectorOp1]
  simp [runActionSem, Frame.get, List.find?]

/-- `value [not] in selector` -/
theorem eats_MatchValueOpSelector (v : ValSp) (i : InSp) (x : SelX) (hv : v.WF) (hi : i.WF)
    (hx : x.WF) (hf : x.follow rest) (hr : VT rest) :
    Eats rule (.ruleRef "MatchValueOpSelector") fr (v.text ++ (i.text ++ x.text)) rest off errs fr
      (.expr (.match_ x.sel i.op (some v.raw))) := by
  have hxr : VT (x.text ++ rest) := (x.text_vt hx).append hr
  refine Eats.ref look_MatchValueOpSelector (Eats.choice_hit (Eats.action (Eats.seq
    (EatsSeq.cons (Eats.labeled "value" (eats_Value v hv
        (v.follow_of (by rw [List.append_assoc]; exact (i.stops hi _).1)
          (by rw [List.append_assoc]; exact (i.stops hi _).2))
        (by rw [List.append_assoc]; exact (i.text_asc hi).appendV hxr)))
      (EatsSeq.cons (Eats.labeled "operator"
          (eats_inChoice i hi (noWs_of_tokStart (x.head hx)) hxr))
        (EatsSeq.one (Eats.labeled "selector" (eats_SelX x hx hf hr))))))
    ?_))
  rw [act_of_sem sem_onMatchValueOpSelector2]
  simp [runActionSem, Frame.get, List.find?]

/-- `MatchExpression <- MatchSelectorOpValue / MatchSelectorOp / MatchValueOpSelector` -/
theorem eats_MatchExpression (m : MatchSp) (h : m.WF) (hf : m.follow rest) (hr : VT rest) :
    Eats rule (.ruleRef "MatchExpression") fr m.text rest off errs fr (.expr m.ast) := by
  cases m with
  | opValue x o v =>
    exact Eats.ref look_MatchExpression (Eats.choice_hit
      (eats_MatchSelectorOpValue x o v h.1 h.2.1 h.2.2 hf hr))
  | post x p =>
    obtain ⟨hx, hp⟩ := h
    have hpr : VT (p.text ++ rest) := (p.text_asc hp).appendV hr
    -- MatchSelectorOpValue: the selector matches, none of the six operators does
    have f1 : Fails Pinned.Grammar.rule_9.shown (.ruleRef "MatchSelectorOpValue") []
        (x.text ++ p.text ++ rest) off errs := by
      rw [List.append_assoc]
      exact Fails.ref look_MatchSelectorOpValue (Fails.action (Fails.seq
        (FailsSeq.later (Eats.labeled "selector"
          (eats_SelX x hx (x.follow_of_stops (p.stops hp rest)) hpr))
        (FailsSeq.here (Fails.labeled (p.fails_op6 hp hpr))))))
    exact Eats.ref look_MatchExpression (Eats.choice_next f1 (Eats.choice_hit
      (eats_MatchSelectorOp x p hx hp hr)))
  | inSel v i x =>
    obtain ⟨hv, hi, hx⟩ := h
    have htail : VT (i.text ++ (x.text ++ rest)) :=
      (i.text_asc hi).appendV ((x.text_vt hx).append hr)
    -- both selector-first forms fail: either `Selector` fails on the value, or it matches a
    -- bare word and the operator choice fails on `in` / `not in`
    have key : ∀ (rl : String) (Rs : List OpRule) (more : List PExpr),
        .in_ ∉ Rs ∧ .notIn ∉ Rs →
        FailsSeq rl (.labeled "selector" (.ruleRef "Selector") ::
          .labeled "operator" (opChoice Rs) :: more)
          [] (v.text ++ (i.text ++ (x.text ++ rest))) off errs := by
      intro rl Rs more hc
      by_cases hs : ∃ σ, v = .sel σ
      · obtain ⟨σ, rfl⟩ := hs
        exact FailsSeq.later (Eats.labeled "selector"
          (eats_Selector_bexpr σ hv (i.stops hi _).1 htail))
          (FailsSeq.here (Fails.labeled
            (i.fails_others hi (noWs_of_tokStart (x.head hx)) htail Rs hc)))
      · exact FailsSeq.here (Fails.labeled (v.not_selector hv
          (fun σ h => hs ⟨σ, h⟩) htail))
    have f1 : Fails Pinned.Grammar.rule_9.shown (.ruleRef "MatchSelectorOpValue") []
        (v.text ++ (i.text ++ x.text) ++ rest) off errs := by
      rw [List.append_assoc, List.append_assoc]
      exact Fails.ref look_MatchSelectorOpValue (Fails.action (Fails.seq
        (key _ [.equal, .notEqual, .contains, .notContains, .reMatch, .reNotMatch] _
          (by decide))))
    have f2 : Fails Pinned.Grammar.rule_9.shown (.ruleRef "MatchSelectorOp") []
        (v.text ++ (i.text ++ x.text) ++ rest) off errs := by
      rw [List.append_assoc, List.append_assoc]
      exact Fails.ref look_MatchSelectorOp (Fails.action (Fails.seq
        (key _ [.isEmpty, .isNotEmpty] _ (by decide))))
    exact Eats.ref look_MatchExpression (Eats.choice_next f1 (Eats.choice_next f2
      (Eats.choice_hit (eats_MatchValueOpSelector v i x hv hi hx hf hr))))

end Bexpr.Proofs.RoundTrip
