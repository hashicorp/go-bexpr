/-
  Proofs.Utf8Lemmas — `utf8.DecodeRune` and `utf8.EncodeRune` (model `Bexpr.Utf8`): on valid runes
  they are inverse to each other, on everything else `decodeRune` gives the error answer.
  Multi-byte sequences are treated through the payloads of their bytes.  Core Lean only.
-/
import Bexpr.Utf8

namespace Bexpr.Utf8
open Bexpr Bexpr.GoString

theorem toNat_toUInt8_of_lt {n : Nat} (h : n < 256) : n.toUInt8.toNat = n := by
  simp [Nat.toUInt8, UInt8.toNat_ofNat', Nat.mod_eq_of_lt h]

theorem inRange_iff (lo hi : Nat) (b : UInt8) :
    inRange lo hi b = true ↔ lo ≤ b.toNat ∧ b.toNat ≤ hi := by simp [inRange]

theorem isCont_iff (b : UInt8) : isCont b = true ↔ 0x80 ≤ b.toNat ∧ b.toNat ≤ 0xBF := by
  simp [isCont, inRange]

theorem acceptLo_le (p b : Nat) :
    acceptLo p ≤ b ↔ 0x80 ≤ b ∧ (p = 0xE0 → 0xA0 ≤ b) ∧ (p = 0xF0 → 0x90 ≤ b) := by
  unfold acceptLo
  split
  · omega
  · split <;> omega

theorem le_acceptHi (p b : Nat) :
    b ≤ acceptHi p ↔ b ≤ 0xBF ∧ (p = 0xED → b ≤ 0x9F) ∧ (p = 0xF4 → b ≤ 0x8F) := by
  unfold acceptHi
  split
  · omega
  · split <;> omega

theorem validRune_iff {r : Nat} :
    validRune r = true ↔ r < 0xD800 ∨ (0xDFFF < r ∧ r ≤ 0x10FFFF) := by
  unfold validRune maxRune
  simp only [Bool.or_eq_true, Bool.and_eq_true, decide_eq_true_eq]

theorem encodeRune_1 {r : Nat} (h : r ≤ 0x7F) : encodeRune r = [r.toUInt8] := by
  simp [encodeRune, h]

theorem encodeRune_2 {r : Nat} (h1 : 0x80 ≤ r) (h2 : r ≤ 0x7FF) :
    encodeRune r = [(0xC0 + r / 64).toUInt8, (0x80 + r % 64).toUInt8] := by
  unfold encodeRune
  rw [if_neg (by omega), if_pos h2]

theorem encodeRune_3 {r : Nat} (h1 : 0x800 ≤ r) (h2 : r ≤ 0xFFFF) (h3 : r < 0xD800 ∨ 0xDFFF < r) :
    encodeRune r =
      [(0xE0 + r / 4096).toUInt8, (0x80 + r / 64 % 64).toUInt8, (0x80 + r % 64).toUInt8] := by
  unfold encodeRune maxRune
  rw [if_neg (by omega), if_neg (by omega), if_neg (by simp; omega), if_pos h2]

theorem encodeRune_4 {r : Nat} (h1 : 0x10000 ≤ r) (h2 : r ≤ 0x10FFFF) :
    encodeRune r =
      [(0xF0 + r / 262144).toUInt8, (0x80 + r / 4096 % 64).toUInt8,
       (0x80 + r / 64 % 64).toUInt8, (0x80 + r % 64).toUInt8] := by
  unfold encodeRune maxRune
  rw [if_neg (by omega), if_neg (by omega), if_neg (by simp; omega), if_neg (by omega)]

theorem encodeRune_invalid {r : Nat} (h : validRune r = false) :
    encodeRune r = [0xEF, 0xBF, 0xBD] := by
  have h' : ¬ (r < 0xD800 ∨ (0xDFFF < r ∧ r ≤ 0x10FFFF)) := by
    rw [← validRune_iff, h]; exact Bool.false_ne_true
  unfold encodeRune maxRune
  rw [if_neg (by omega), if_neg (by omega), if_pos (by simp; omega)]

/-! ### Multi-byte sequences by their payloads

A lead byte is `lo + a` and a continuation byte `0x80 + x`, with `a`, `x` below a power of two `m`
that divides `lo`: the payload is the byte modulo `m`.  In terms of payloads the rune of a sequence is
a number in base 64, and Go's accept ranges for the second byte (`acceptLo`, `acceptHi`) say exactly
that it is neither overlong, nor a surrogate, nor above `MaxRune` (`seq2_iff`, `seq3_iff`,
`seq4_iff`). -/

theorem add_mod_payload (lo : Nat) {m d : Nat} (hd : d < m) (hm : lo % m = 0 := by decide) :
    (lo + d) % m = d := by
  rw [Nat.add_mod, hm, Nat.zero_add, Nat.mod_mod, Nat.mod_eq_of_lt hd]

theorem byte_payload (lo : Nat) {m b : Nat} (h : lo ≤ b) (h' : b < lo + m)
    (hm : lo % m = 0 := by decide) : lo + b % m = b := by
  obtain ⟨d, rfl⟩ := Nat.exists_eq_add_of_le h
  rw [add_mod_payload lo (by omega) hm]

theorem seq2_iff {a x r : Nat} (ha : a < 32) (hx : x < 64) :
    (2 ≤ a ∧ r = a * 64 + x) ↔ (0x80 ≤ r ∧ r ≤ 0x7FF ∧ r / 64 = a ∧ r % 64 = x) := by
  omega

theorem seq3_iff {a x y r : Nat} (ha : a < 16) (hx : x < 64) (hy : y < 64) :
    (acceptLo (0xE0 + a) ≤ 0x80 + x ∧ 0x80 + x ≤ acceptHi (0xE0 + a) ∧
      r = a * 4096 + x * 64 + y) ↔
    (0x800 ≤ r ∧ r ≤ 0xFFFF ∧ (r < 0xD800 ∨ 0xDFFF < r) ∧
      r / 4096 = a ∧ r / 64 % 64 = x ∧ r % 64 = y) := by
  rw [acceptLo_le, le_acceptHi]
  omega

theorem seq4_iff {a x y z r : Nat} (ha : a < 5) (hx : x < 64) (hy : y < 64) (hz : z < 64) :
    (acceptLo (0xF0 + a) ≤ 0x80 + x ∧ 0x80 + x ≤ acceptHi (0xF0 + a) ∧
      r = a * 262144 + x * 4096 + y * 64 + z) ↔
    (0x10000 ≤ r ∧ r ≤ 0x10FFFF ∧
      r / 262144 = a ∧ r / 4096 % 64 = x ∧ r / 64 % 64 = y ∧ r % 64 = z) := by
  rw [acceptLo_le, le_acceptHi]
  omega

/-! ### `decodeRune` on well-formed input -/

theorem decodeRune_1 {b0 : UInt8} (t : GoString) (h : b0.toNat < 0x80) :
    decodeRune (b0 :: t) = (b0.toNat, 1) := by
  simp only [decodeRune]
  rw [if_pos h]

theorem decodeRune_seq2 {a x : Nat} (ha : a < 32) (ha2 : 2 ≤ a) (hx : x < 64) (t : GoString) :
    decodeRune ((0xC0 + a).toUInt8 :: (0x80 + x).toUInt8 :: t) = (a * 64 + x, 2) := by
  have t0 := toNat_toUInt8_of_lt (n := 0xC0 + a) (by omega)
  have t1 := toNat_toUInt8_of_lt (n := 0x80 + x) (by omega)
  simp only [decodeRune, inRange, contBits, t0, t1]
  rw [if_neg (by omega), if_neg (by omega), if_pos (by omega),
    if_pos (by simp only [Bool.and_eq_true, decide_eq_true_eq]; omega),
    add_mod_payload 0xC0 ha, add_mod_payload 0x80 hx]

theorem decodeRune_seq3 {a x y : Nat} (ha : a < 16) (hx : x < 64) (hy : y < 64)
    (q1 : acceptLo (0xE0 + a) ≤ 0x80 + x) (q2 : 0x80 + x ≤ acceptHi (0xE0 + a)) (t : GoString) :
    decodeRune ((0xE0 + a).toUInt8 :: (0x80 + x).toUInt8 :: (0x80 + y).toUInt8 :: t) =
      (a * 4096 + x * 64 + y, 3) := by
  have t0 := toNat_toUInt8_of_lt (n := 0xE0 + a) (by omega)
  have t1 := toNat_toUInt8_of_lt (n := 0x80 + x) (by omega)
  have t2 := toNat_toUInt8_of_lt (n := 0x80 + y) (by omega)
  simp only [decodeRune, inRange, isCont, contBits, t0, t1, t2]
  rw [if_neg (by omega), if_neg (by omega), if_neg (by omega), if_pos (by omega),
    if_pos (by simp only [Bool.and_eq_true, decide_eq_true_eq]; omega),
    add_mod_payload 0xE0 ha, add_mod_payload 0x80 hx, add_mod_payload 0x80 hy]

theorem decodeRune_seq4 {a x y z : Nat} (ha : a < 5) (hx : x < 64) (hy : y < 64) (hz : z < 64)
    (q1 : acceptLo (0xF0 + a) ≤ 0x80 + x) (q2 : 0x80 + x ≤ acceptHi (0xF0 + a)) (t : GoString) :
    decodeRune ((0xF0 + a).toUInt8 :: (0x80 + x).toUInt8 :: (0x80 + y).toUInt8 ::
        (0x80 + z).toUInt8 :: t) =
      (a * 262144 + x * 4096 + y * 64 + z, 4) := by
  have t0 := toNat_toUInt8_of_lt (n := 0xF0 + a) (by omega)
  have t1 := toNat_toUInt8_of_lt (n := 0x80 + x) (by omega)
  have t2 := toNat_toUInt8_of_lt (n := 0x80 + y) (by omega)
  have t3 := toNat_toUInt8_of_lt (n := 0x80 + z) (by omega)
  simp only [decodeRune, inRange, isCont, contBits, t0, t1, t2, t3]
  rw [if_neg (by omega), if_neg (by omega), if_neg (by omega), if_neg (by omega),
    if_pos (by omega), if_pos (by simp only [Bool.and_eq_true, decide_eq_true_eq]; omega),
    add_mod_payload 0xF0 (Nat.lt_trans ha (by decide)), add_mod_payload 0x80 hx,
    add_mod_payload 0x80 hy, add_mod_payload 0x80 hz]

/-- What `decodeRune` returns on a non-empty input: either the error answer
`(RuneError, 1)`, or a valid rune of width `w` whose encoding is the first `w` bytes; width 1
only for an ASCII rune (so a well-formed U+FFFD, of width 3, is told from the error answer). -/
theorem decodeRune_cases (b : UInt8) (t : GoString) :
    decodeRune (b :: t) = (runeError, 1) ∨
    ∃ r w, decodeRune (b :: t) = (r, w) ∧ validRune r = true ∧ 1 ≤ w ∧ w ≤ (b :: t).length ∧
      encodeRune r = (b :: t).take w ∧ (w = 1 → r < 0x80) := by
  -- the error answers are `rfl` once the lead byte's class and the input's length are known;
  -- otherwise the bytes are their payloads' bytes (`byte_payload`), the payloads the rune's digits
  have hm : ∀ n : Nat, n % 64 < 64 := fun n => Nat.mod_lt _ (by decide)
  by_cases h1 : b.toNat < 0x80
  · refine .inr ⟨b.toNat, 1, decodeRune_1 t h1, validRune_iff.mpr (.inl (by omega)), by omega,
      by simp, ?_, fun _ => h1⟩
    rw [encodeRune_1 (by omega)]
    simp
  unfold decodeRune
  simp only
  rw [if_neg h1]
  by_cases h2 : b.toNat < 0xC2
  · rw [if_pos h2]
    exact .inl rfl
  rw [if_neg h2]
  by_cases h3 : b.toNat < 0xE0
  · rw [if_pos h3]
    rcases t with _ | ⟨b1, t⟩
    · exact .inl rfl
    simp only [contBits]
    by_cases hr : inRange 0x80 0xBF b1 = true
    · rw [if_pos hr]
      rw [inRange_iff] at hr
      have e0 := byte_payload 0xC0 (m := 32) (by omega) h3
      have e1 := byte_payload 0x80 (m := 64) hr.1 (Nat.lt_succ_of_le hr.2)
      have ha : 2 ≤ b.toNat % 32 := by omega
      obtain ⟨g1, g2, d0, d1⟩ := (seq2_iff (Nat.mod_lt _ (by decide)) (hm _)).mp ⟨ha, rfl⟩
      refine .inr ⟨_, 2, rfl, validRune_iff.mpr (.inl (Nat.lt_of_le_of_lt g2 (by decide))),
        by decide, by simp, ?_, fun h => absurd h (by decide)⟩
      rw [encodeRune_2 g1 g2, d0, d1, e0, e1]
      simp
    · rw [if_neg hr]
      exact .inl rfl
  rw [if_neg h3]
  by_cases h4 : b.toNat < 0xF0
  · rw [if_pos h4]
    rcases t with _ | ⟨b1, _ | ⟨b2, t⟩⟩
    · exact .inl rfl
    · exact .inl rfl
    simp only [contBits]
    by_cases hr : (inRange (acceptLo b.toNat) (acceptHi b.toNat) b1 && isCont b2) = true
    · rw [if_pos hr]
      rw [Bool.and_eq_true, inRange_iff, isCont_iff] at hr
      have e0 := byte_payload 0xE0 (m := 16) (Nat.le_of_not_lt h3) h4
      have e1 := byte_payload 0x80 (m := 64) ((acceptLo_le ..).mp hr.1.1).1
        (Nat.lt_succ_of_le ((le_acceptHi ..).mp hr.1.2).1)
      have e2 := byte_payload 0x80 (m := 64) hr.2.1 (Nat.lt_succ_of_le hr.2.2)
      obtain ⟨g1, g2, g3, d0, d1, d2⟩ :=
        (seq3_iff (Nat.mod_lt _ (by decide)) (hm _) (hm _)).mp
          ⟨by rw [e0, e1]; exact hr.1.1, by rw [e0, e1]; exact hr.1.2, rfl⟩
      refine .inr ⟨_, 3, rfl,
        validRune_iff.mpr (g3.imp_right fun h => ⟨h, Nat.le_trans g2 (by decide)⟩), by decide,
        by simp, ?_, fun h => absurd h (by decide)⟩
      rw [encodeRune_3 g1 g2 g3, d0, d1, d2, e0, e1, e2]
      simp
    · rw [if_neg hr]
      exact .inl rfl
  rw [if_neg h4]
  by_cases h5 : b.toNat < 0xF5
  · rw [if_pos h5]
    rcases t with _ | ⟨b1, _ | ⟨b2, _ | ⟨b3, t⟩⟩⟩
    · exact .inl rfl
    · exact .inl rfl
    · exact .inl rfl
    simp only
    unfold contBits
    by_cases hr :
        (inRange (acceptLo b.toNat) (acceptHi b.toNat) b1 && isCont b2 && isCont b3) = true
    · rw [if_pos hr]
      rw [Bool.and_eq_true, Bool.and_eq_true, inRange_iff, isCont_iff, isCont_iff] at hr
      have e0 := byte_payload 0xF0 (m := 8) (Nat.le_of_not_lt h4) (by omega)
      have e1 := byte_payload 0x80 (m := 64) ((acceptLo_le ..).mp hr.1.1.1).1
        (Nat.lt_succ_of_le ((le_acceptHi ..).mp hr.1.1.2).1)
      have e2 := byte_payload 0x80 (m := 64) hr.1.2.1 (Nat.lt_succ_of_le hr.1.2.2)
      have e3 := byte_payload 0x80 (m := 64) hr.2.1 (Nat.lt_succ_of_le hr.2.2)
      have ha : b.toNat % 8 < 5 := by omega
      obtain ⟨g1, g2, d0, d1, d2, d3⟩ :=
        (seq4_iff ha (hm _) (hm _) (hm _)).mp
          ⟨by rw [e0, e1]; exact hr.1.1.1, by rw [e0, e1]; exact hr.1.1.2, rfl⟩
      refine .inr ⟨_, 4, rfl, validRune_iff.mpr (.inr ⟨Nat.lt_of_lt_of_le (by decide) g1, g2⟩),
        by decide, by simp, ?_, fun h => absurd h (by decide)⟩
      rw [encodeRune_4 g1 g2, d0, d1, d2, d3, e0, e1, e2, e3]
      simp
    · rw [if_neg hr]
      exact .inl rfl
  · rw [if_neg h5]
    exact .inl rfl

/-- The answer is `(RuneError, 0)` or the width is at least 1; it is never more than the input has
bytes. -/
theorem decodeRune_width (s : GoString) :
    decodeRune s = (runeError, 0) ∨ 1 ≤ (decodeRune s).2 ∧ (decodeRune s).2 ≤ s.length := by
  cases s with
  | nil => exact .inl rfl
  | cons b t =>
    rcases decodeRune_cases b t with h | ⟨_, _, h, _, h1, h2, _⟩ <;> rw [h]
    · exact .inr ⟨Nat.le_refl 1, Nat.succ_le_succ (Nat.zero_le _)⟩
    · exact .inr ⟨h1, h2⟩

theorem decodeRune_encodeRune (r : Nat) (hv : validRune r = true) (h80 : 0x80 ≤ r)
    (rest : GoString) :
    decodeRune (encodeRune r ++ rest) = (r, (encodeRune r).length) := by
  rw [validRune_iff] at hv
  have hm : ∀ n : Nat, n % 64 < 64 := fun n => Nat.mod_lt _ (by decide)
  by_cases h2 : r ≤ 0x7FF
  · have ha : r / 64 < 32 := Nat.div_lt_of_lt_mul (by omega)
    obtain ⟨ha2, e⟩ := (seq2_iff ha (hm r)).mpr ⟨h80, h2, rfl, rfl⟩
    rw [encodeRune_2 h80 h2, List.cons_append, List.cons_append,
      decodeRune_seq2 ha ha2 (hm r), ← e]
    rfl
  · by_cases h3 : r ≤ 0xFFFF
    · have ha : r / 4096 < 16 := Nat.div_lt_of_lt_mul (by omega)
      obtain ⟨q1, q2, e⟩ :=
        (seq3_iff ha (hm _) (hm r)).mpr ⟨by omega, h3, by omega, rfl, rfl, rfl⟩
      rw [encodeRune_3 (by omega) h3 (by omega), List.cons_append, List.cons_append,
        List.cons_append, decodeRune_seq3 ha (hm _) (hm r) q1 q2, ← e]
      rfl
    · have ha : r / 262144 < 5 := Nat.div_lt_of_lt_mul (by omega)
      obtain ⟨q1, q2, e⟩ :=
        (seq4_iff ha (hm _) (hm _) (hm r)).mpr ⟨by omega, by omega, rfl, rfl, rfl, rfl⟩
      rw [encodeRune_4 (by omega) (by omega), List.cons_append, List.cons_append,
        List.cons_append, List.cons_append, decodeRune_seq4 ha (hm _) (hm _) (hm r) q1 q2, ← e]
      rfl

theorem decodeRune_encodeRune_valid (r : Nat) (hv : validRune r = true) (rest : GoString) :
    decodeRune (encodeRune r ++ rest) = (r, (encodeRune r).length) := by
  by_cases h80 : 0x80 ≤ r
  · exact decodeRune_encodeRune r hv h80 rest
  · have hr : r.toUInt8.toNat = r := toNat_toUInt8_of_lt (by omega)
    rw [encodeRune_1 (by omega), List.cons_append, decodeRune_1 _ (by omega), hr]
    rfl

theorem encodeRune_multibyte {r : Nat} (h80 : 0x80 ≤ r) :
    ∃ c d t, encodeRune r = c :: d :: t ∧ ∀ x ∈ c :: d :: t, 0x80 ≤ x.toNat := by
  -- every byte is `k + x` with `0x80 ≤ k` and `k + x < 256`
  have ge : ∀ {k x : Nat}, 0x80 ≤ k → k + x < 256 → 0x80 ≤ (k + x).toUInt8.toNat := by
    intro k x hk h
    rw [toNat_toUInt8_of_lt h]
    omega
  by_cases hv : validRune r = true
  · rw [validRune_iff] at hv
    by_cases h2 : r ≤ 0x7FF
    · refine ⟨_, _, _, encodeRune_2 h80 h2, ?_⟩
      simp only [List.forall_mem_cons, List.not_mem_nil, false_imp_iff, implies_true, and_true]
      exact ⟨ge (by omega) (by omega), ge (by omega) (by omega)⟩
    · by_cases h3 : r ≤ 0xFFFF
      · refine ⟨_, _, _, encodeRune_3 (by omega) h3 (by omega), ?_⟩
        simp only [List.forall_mem_cons, List.not_mem_nil, false_imp_iff, implies_true, and_true]
        exact ⟨ge (by omega) (by omega), ge (by omega) (by omega), ge (by omega) (by omega)⟩
      · refine ⟨_, _, _, encodeRune_4 (by omega) (by omega), ?_⟩
        simp only [List.forall_mem_cons, List.not_mem_nil, false_imp_iff, implies_true, and_true]
        exact ⟨ge (by omega) (by omega), ge (by omega) (by omega), ge (by omega) (by omega),
          ge (by omega) (by omega)⟩
  · exact ⟨_, _, _, encodeRune_invalid (by simpa using hv), by decide⟩

end Bexpr.Utf8
