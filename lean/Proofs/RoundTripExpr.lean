/-
  Proofs.RoundTripExpr — the print/parse round trip for `not`, `and`, `or`, parentheses,
  quantifiers and the top-level rule `Input`.

  A rendering is a value of `Sp l` (concrete syntax with all blanks, keywords and parentheses
  explicit; `l` is the grammar level Or / And / Not); `Sp.text` is the text, `Sp.ast` the tree
  that was rendered, `Sp.val = norm ∘ Sp.ast` the tree the parser must return (`not not e`
  folded).  `Input`'s first alternative `( … ) EOF` matches when the whole expression is one
  parenthesised group and otherwise fails after re-parsing that group.
-/
import Proofs.RoundTripColl

namespace Bexpr.Proofs.RoundTrip
open Bexpr Bexpr.Peg Bexpr.Driver
variable {rule : String} {fr : Frame} {rest s : GoString} {off : Nat} {errs : List PErr}

/-! ## 1. Code blocks and rules of the connectives and of `Input` -/

theorem sem_onInput2 : lookupSem pinSem "onInput2" = .retLabel "expr" :=
  lookupSem_pin 0 (by decide +kernel)
theorem sem_onInput17 : lookupSem pinSem "onInput17" = .retLabel "expr" :=
  lookupSem_pin 1 (by decide +kernel)
theorem sem_onOrExpression2 : lookupSem pinSem "onOrExpression2" = .mkBinary true "left" "right" :=
  lookupSem_pin 2 (by decide +kernel)
theorem sem_onOrExpression11 : lookupSem pinSem "onOrExpression11" = .retLabel "expr" :=
  lookupSem_pin 3 (by decide +kernel)
theorem sem_onOrExpression14 : lookupSem pinSem "onOrExpression14" = .retLabel "expr" :=
  lookupSem_pin 4 (by decide +kernel)
theorem sem_onAndExpression2 :
    lookupSem pinSem "onAndExpression2" = .mkBinary false "left" "right" :=
  lookupSem_pin 5 (by decide +kernel)
theorem sem_onAndExpression11 : lookupSem pinSem "onAndExpression11" = .retLabel "expr" :=
  lookupSem_pin 6 (by decide +kernel)
theorem sem_onNotExpression2 : lookupSem pinSem "onNotExpression2" = .notFold "expr" :=
  lookupSem_pin 7 (by decide +kernel)
theorem sem_onNotExpression8 : lookupSem pinSem "onNotExpression8" = .retLabel "expr" :=
  lookupSem_pin 8 (by decide +kernel)
theorem sem_onParenthesizedExpression2 :
    lookupSem pinSem "onParenthesizedExpression2" = .retLabel "expr" :=
  lookupSem_pin 16 (by decide +kernel)
theorem sem_onParenthesizedExpression12 :
    lookupSem pinSem "onParenthesizedExpression12" = .retLabel "expr" :=
  lookupSem_pin 17 (by decide +kernel)

theorem look_Input : lookupRule G "Input" = some Pinned.Grammar.rule_0 := lookupRule_pin 0 rfl rfl
theorem look_OrExpression : lookupRule G "OrExpression" = some Pinned.Grammar.rule_1 :=
  lookupRule_pin 1 rfl rfl

/-- the folding done by the `NotExpression` code block: `not not e` is `e` -/
def notFold : Expr → Expr
  | .not e => e
  | e => .not e

theorem act_notFold {name l : String} (h : lookupSem pinSem name = .notFold l) (e : Expr)
    (fr : Frame) (t : GoString) :
    E.action name ((l, .expr e) :: fr) t = .ret (.expr (notFold e)) none := by
  rw [act_of_sem h]
  simp only [runActionSem, frame_get_head]
  cases e <;> rfl

/-! ## 2. Concrete syntax of connectives -/

inductive Lvl where
  | or | and | not
  deriving DecidableEq

def ruleName : Lvl → String
  | .or => "OrExpression"
  | .and => "AndExpression"
  | .not => "NotExpression"

/-- A rendering of an expression tree, level by level as the grammar nests them: an `Sp .or`
    is a chain `a or a or …` (right nested), an `Sp .and` a chain `n and n and …`, an `Sp .not`
    is `not n`, a parenthesised `Sp .or`, or a match expression; a quantifier is an `Sp .or` of its
    own.  All blanks are explicit. -/
inductive Sp : Lvl → Type where
  | orOp (l : Sp .and) (w₁ w₂ : GoString) (r : Sp .or) : Sp .or
  | orUp (a : Sp .and) : Sp .or
  | andOp (l : Sp .not) (w₁ w₂ : GoString) (r : Sp .and) : Sp .and
  | andUp (n : Sp .not) : Sp .and
  | notOp (w : GoString) (n : Sp .not) : Sp .not
  | paren (w₁ : GoString) (e : Sp .or) (w₂ : GoString) : Sp .not
  | leaf (m : MatchSp) : Sp .not
  /-- `any/all w₁ S w₂ as w₃ bindings w₄ { w₅ body w₆ }` -/
  | coll (op : CollOp) (w₁ : GoString) (x : SelX) (w₂ w₃ : GoString) (bind : BindSp)
      (w₄ w₅ : GoString) (body : Sp .or) (w₆ : GoString) : Sp .or

def Sp.text : {l : Lvl} → Sp l → GoString
  | _, .orOp l w₁ w₂ r => l.text ++ (w₁ ++ (kOr ++ (w₂ ++ r.text)))
  | _, .orUp a => a.text
  | _, .andOp l w₁ w₂ r => l.text ++ (w₁ ++ (kAnd ++ (w₂ ++ r.text)))
  | _, .andUp n => n.text
  | _, .notOp w n => kNot ++ (w ++ n.text)
  | _, .paren w₁ e w₂ => [40] ++ (w₁ ++ (e.text ++ (w₂ ++ [41])))
  | _, .leaf m => m.text
  | _, .coll op w₁ x w₂ w₃ bind w₄ w₅ body w₆ =>
    (opText op ++ w₁) ++ (x.text ++ (w₂ ++ (kAs ++ (w₃ ++ (bind.text ++ (w₄ ++ ([123] ++
      (w₅ ++ (body.text ++ (w₆ ++ [125]))))))))))

/-- the tree the parser returns -/
def Sp.val : {l : Lvl} → Sp l → Expr
  | _, .orOp l _ _ r => .or l.val r.val
  | _, .orUp a => a.val
  | _, .andOp l _ _ r => .and l.val r.val
  | _, .andUp n => n.val
  | _, .notOp _ n => notFold n.val
  | _, .paren _ e _ => e.val
  | _, .leaf m => m.ast
  | _, .coll op _ x _ _ bind _ _ body _ => .coll op x.sel bind.binding body.val

/-- the tree that was rendered (every `not` kept) -/
def Sp.ast : {l : Lvl} → Sp l → Expr
  | _, .orOp l _ _ r => .or l.ast r.ast
  | _, .orUp a => a.ast
  | _, .andOp l _ _ r => .and l.ast r.ast
  | _, .andUp n => n.ast
  | _, .notOp _ n => .not n.ast
  | _, .paren _ e _ => e.ast
  | _, .leaf m => m.ast
  | _, .coll op _ x _ _ bind _ _ body _ => .coll op x.sel bind.binding body.ast

/-- the leading bexpr selector of a match expression, if its text starts with one -/
def MatchSp.lead : MatchSp → Option SelSp
  | .opValue (.bexpr σ) _ _ => some σ
  | .post (.bexpr σ) _ => some σ
  | .inSel (.sel σ) _ _ => some σ
  | _ => none

/-- RESTRICTION: the first identifier of a match expression is not the word `not` -/
def MatchSp.notKwOK (m : MatchSp) : Prop := ∀ σ, m.lead = some σ → σ.b :: σ.x ≠ kNot


/-- the match expression ends in a number (which must be followed by a blank, `)` or the end
    of input: the grammar's `AfterNumbers`) -/
def MatchSp.endsNum : MatchSp → Bool
  | .opValue _ _ (.num _) => true
  | _ => false

/-- the rendering ends in a number -/
def Sp.endsNum : {l : Lvl} → Sp l → Bool
  | _, .orOp _ _ _ r => r.endsNum
  | _, .orUp a => a.endsNum
  | _, .andOp _ _ _ r => r.endsNum
  | _, .andUp n => n.endsNum
  | _, .notOp _ n => n.endsNum
  | _, .paren .. => false
  | _, .leaf m => m.endsNum
  | _, .coll .. => false

def Sp.WF : {l : Lvl} → Sp l → Prop
  | _, .orOp l w₁ w₂ r => l.WF ∧ Blank1 w₁ ∧ Blank1 w₂ ∧ r.WF
  | _, .orUp a => a.WF
  | _, .andOp l w₁ w₂ r => l.WF ∧ Blank1 w₁ ∧ Blank1 w₂ ∧ r.WF
  | _, .andUp n => n.WF
  | _, .notOp w n => Blank1 w ∧ n.WF
  | _, .paren w₁ e w₂ => Blank w₁ ∧ e.WF ∧ Blank w₂
  | _, .leaf m => m.WF ∧ m.notKwOK
  | _, .coll _ w₁ x w₂ w₃ bind w₄ w₅ body w₆ =>
    Blank1 w₁ ∧ x.WF ∧ x.kwOK ∧ Blank1 w₂ ∧ Blank1 w₃ ∧ bind.WF ∧ Blank w₄ ∧ Blank w₅ ∧
      body.WF ∧ Blank w₆ ∧ (body.endsNum = true → w₆ ≠ [])

theorem Sp.text_vt {l : Lvl} (c : Sp l) (h : c.WF) : VT c.text := by
  induction c with
  | orOp l w₁ w₂ r ihl ihr =>
    exact (ihl h.1).append ((h.2.1.2.asc @isWs_lt).appendV (Asc.appendV (s := kOr) (by decide)
      ((h.2.2.1.2.asc @isWs_lt).appendV (ihr h.2.2.2))))
  | orUp a ih => exact ih h
  | andOp l w₁ w₂ r ihl ihr =>
    exact (ihl h.1).append ((h.2.1.2.asc @isWs_lt).appendV (Asc.appendV (s := kAnd) (by decide)
      ((h.2.2.1.2.asc @isWs_lt).appendV (ihr h.2.2.2))))
  | andUp n ih => exact ih h
  | notOp w n ih =>
    exact Asc.appendV (s := kNot) (by decide) ((h.1.2.asc @isWs_lt).appendV (ih h.2))
  | paren w₁ e w₂ ih =>
    exact VT.cons (b := 40) (by decide) ((h.1.asc @isWs_lt).appendV ((ih h.2.1).append
      ((h.2.2.asc @isWs_lt).appendV (VT.cons (b := 41) (by decide) VT.nil))))
  | leaf m => exact m.text_vt h.1
  | coll op w₁ x w₂ w₃ bind w₄ w₅ body w₆ ih =>
    obtain ⟨h1, hx, _, h2, h3, hb, h4, h5, hbody, h6, _⟩ := h
    have hop : Asc (opText op) := by cases op <;> decide
    exact (hop.append (h1.2.asc @isWs_lt)).appendV ((x.text_vt hx).append
      ((h2.2.asc @isWs_lt).appendV (Asc.appendV (s := kAs) (by decide)
        ((h3.2.asc @isWs_lt).appendV ((bind.text_asc hb).appendV ((h4.asc @isWs_lt).appendV
          (VT.cons (b := 123) (by decide) ((h5.asc @isWs_lt).appendV ((ih hbody).append
            ((h6.asc @isWs_lt).appendV (VT.cons (b := 125) (by decide) VT.nil)))))))))))

/-- first byte of an expression: a token start, `(`, never a blank -/
def spStart (n : Nat) : Bool := tokStart n || n == 40

theorem Sp.head {l : Lvl} (c : Sp l) (rest : GoString) (h : c.WF) :
    headIn spStart (c.text ++ rest) = true := by
  induction c generalizing rest with
  | orOp l w₁ w₂ r ihl _ =>
    show headIn spStart (l.text ++ _ ++ rest) = true
    rw [List.append_assoc]; exact ihl _ h.1
  | orUp a ih => exact ih rest h
  | andOp l w₁ w₂ r ihl _ =>
    show headIn spStart (l.text ++ _ ++ rest) = true
    rw [List.append_assoc]; exact ihl _ h.1
  | andUp n ih => exact ih rest h
  | notOp w n => rfl
  | paren w₁ e w₂ => rfl
  | leaf m =>
    exact headIn_imp (fun n hn => by simp [spStart, hn]) (m.head (rest := rest) h.1)
  | coll op => cases op <;> rfl

theorem noWs_of_spStart (h : headIn spStart s = true) : headIn isWs s = false :=
  headIn_noWs rfl rfl rfl rfl h


/-! ## 3. Contexts: what may follow an expression of each level -/

/-- `rest` does not go on with mandatory blanks and the keyword `kw` -/
abbrev NoKw (kw rest : GoString) : Prop := ToksFail [.ws, .kw kw] rest

/-- `Ctx l needNum rest`: `rest` may follow an expression of level `l` (`needNum`: one that
    ends in a number) -/
structure Ctx (l : Lvl) (needNum : Bool) (rest : GoString) : Prop where
  stops : stopsSel rest
  num : needNum = true → numFollow rest = true
  noAnd : l ≠ .not → NoKw kAnd rest
  noOr : l = .or → NoKw kOr rest

theorem Ctx.toAnd {nn : Bool} (h : Ctx .or nn rest) : Ctx .and nn rest :=
  ⟨h.stops, h.num, fun _ => h.noAnd (by decide), fun h' => by cases h'⟩
theorem Ctx.toNot {nn : Bool} (h : Ctx .and nn rest) : Ctx .not nn rest :=
  ⟨h.stops, h.num, fun h' => absurd rfl h', fun h' => by cases h'⟩

/-- blanks, then the end of input or `)` : fine after any expression -/
theorem ctx_sep (l : Lvl) (nn : Bool) {w r : GoString} (hw : Blank w)
    (hr : r = [] ∨ ∃ t, r = 41 :: t) : Ctx l nn (w ++ r) := by
  have hstop : headIn isWs r = false := by rcases hr with rfl | ⟨t, rfl⟩ <;> rfl
  have hand : GoString.isPrefixOf kAnd r = false := by rcases hr with rfl | ⟨t, rfl⟩ <;> rfl
  have hor : GoString.isPrefixOf kOr r = false := by rcases hr with rfl | ⟨t, rfl⟩ <;> rfl
  refine ⟨?_, fun _ => ?_, fun _ => ToksFail.wsNext hw hstop (ToksFail.kwHere (by decide) hand),
    fun _ => ToksFail.wsNext hw hstop (ToksFail.kwHere (by decide) hor)⟩
  · cases w with
    | nil => rcases hr with rfl | ⟨t, rfl⟩ <;> rfl
    | cons b t => exact stopsSel_of_ws hw
  · cases w with
    | nil => rcases hr with rfl | ⟨t, rfl⟩ <;> rfl
    | cons b t => exact numFollow_of_ws hw

theorem ctx_and (nn : Bool) {w r : GoString} (hw : Blank1 w) : Ctx .not nn (w ++ (kAnd ++ r)) :=
  ⟨(stops_of_ws hw _).1, fun _ => (stops_of_ws hw _).2, fun h => absurd rfl h, fun h => by cases h⟩

/-- mandatory blanks then `or`: fine after an `AndExpression` -/
theorem ctx_or (nn : Bool) {w r : GoString} (hw : Blank1 w) : Ctx .and nn (w ++ (kOr ++ r)) :=
  ⟨(stops_of_ws hw _).1, fun _ => (stops_of_ws hw _).2,
    fun _ => ToksFail.wsNext hw.2 rfl (ToksFail.kwHere (by decide) rfl), fun h => by cases h⟩

/-- the body of a quantifier is followed by optional blanks and `}` -/
theorem ctx_brace (nn : Bool) {w r : GoString} (hw : Blank w) (hnum : nn = true → w ≠ []) :
    Ctx .or nn (w ++ ([125] ++ r)) := by
  refine ⟨?_, fun h => (stops_of_ws ⟨hnum h, hw⟩ _).2,
    fun _ => ToksFail.wsNext hw rfl (ToksFail.kwHere (by decide) rfl),
    fun _ => ToksFail.wsNext hw rfl (ToksFail.kwHere (by decide) rfl)⟩
  cases w with
  | nil => rfl
  | cons b t => exact stopsSel_of_ws hw

theorem MatchSp.follow_of (m : MatchSp) (h1 : stopsSel rest)
    (h2 : m.endsNum = true → numFollow rest = true) : m.follow rest := by
  cases m with
  | opValue x o v =>
    cases v with
    | sel σ => exact h1
    | num n => exact h2 rfl
    | str q body val => trivial
  | post x p => trivial
  | inSel v i x => exact x.follow_of_stops h1

/-! ## 4. A match expression is not taken for `not …` -/

theorem MatchSp.lead_cases (m : MatchSp) (h : m.WF) (rest : GoString) :
    (∃ σ tail, m.lead = some σ ∧ σ.WF ∧ m.text ++ rest = (σ.b :: σ.x) ++ tail ∧
      headIn isIdc tail = false) ∨ headIn isAlpha (m.text ++ rest) = false := by
  cases m with
  | opValue x o v =>
    cases x with
    | bexpr σ =>
      refine .inl ⟨σ, partsText σ.parts ++ ((o.text ++ v.text) ++ rest), rfl, h.1, ?_,
        partsText_stop _ (by rw [List.append_assoc]; exact o.stops h.2.1 _)⟩
      simp only [MatchSp.text, SelX.text, SelSp.text, List.append_assoc]
    | ptr path => exact .inr rfl
  | post x p =>
    cases x with
    | bexpr σ =>
      refine .inl ⟨σ, partsText σ.parts ++ (p.text ++ rest), rfl, h.1, ?_,
        partsText_stop _ (p.stops h.2 _)⟩
      simp only [MatchSp.text, SelX.text, SelSp.text, List.append_assoc]
    | ptr path => exact .inr rfl
  | inSel v i x =>
    cases v with
    | sel σ =>
      refine .inl ⟨σ, partsText σ.parts ++ ((i.text ++ x.text) ++ rest), rfl, h.1, ?_,
        partsText_stop _ (by rw [List.append_assoc]; exact (i.stops h.2.1 _).1)⟩
      simp only [MatchSp.text, ValSp.text, SelSp.text, List.append_assoc]
    | num n =>
      right
      show headIn isAlpha (n.text ++ _ ++ rest) = false
      rw [List.append_assoc]
      exact headIn_disjoint (fun _ => numStart_not_alpha) (n.head_numStart h.1)
    | str q body val =>
      right
      rcases h.1.1 with rfl | rfl <;> rfl

/-- `"not" _ …` fails on a match expression whose first identifier is not `not` -/
theorem fails_notKw (m : MatchSp) (h : m.WF) (hk : m.notKwOK) (hr : VT rest)
    (es : List PExpr) :
    FailsSeq rule (.lit (runesOf kNot) false :: .ruleRef "_" :: es) fr (m.text ++ rest) off
      errs := by
  have hall : VT (m.text ++ rest) := (m.text_vt h).append hr
  rcases m.lead_cases h rest with ⟨σ, tail, hl, hσ, e, htail⟩ | hna
  · rcases ident_kw kNot _ (hk σ hl) (by decide) (σ.head_idc hσ) htail with hp | ⟨r, er, hws⟩
    · rw [e] at hall ⊢
      exact FailsSeq.here (Fails.lit kNot rfl (by decide) hall hp)
    · rw [e, er] at hall ⊢
      have hr' := VT.right (s := kNot) (by decide) hall
      exact FailsSeq.later (Eats.lit kNot rfl (by decide) hr')
        (FailsSeq.here (fails_ws hr' hws))
  · exact FailsSeq.here (Fails.lit kNot rfl (by decide) hall
      (not_prefix_of_not_headIn (p := isAlpha) rfl hna))

/-! ## 5. The round trip, level by level -/

/-- the round-trip statement for one rendering -/
def RT {l : Lvl} (c : Sp l) : Prop :=
  ∀ (rest : GoString), Ctx l c.endsNum rest → VT rest → ∀ (rule : String) (fr : Frame) (off : Nat)
    (errs : List PErr),
    Eats rule (.ruleRef (ruleName l)) fr c.text rest off errs fr (.expr c.val)

abbrev parenItems : List PExpr := [.lit [40] false, .zeroOrOne (.ruleRef "_"),
  .labeled "expr" (.ruleRef "OrExpression"), .zeroOrOne (.ruleRef "_"), .lit [41] false]

/-- The items `"(" _? expr:OrExpression _? ")"` followed by more items, which in `Input`'s first
    alternative may fail. -/
theorem paren_items (rule : String) {a b : GoString} {e : Sp .or} (ha : Blank a) (he : e.WF)
    (hb : Blank b) (ih : RT e) {y r : GoString} (hy : VT y) (hr : VT r) (off : Nat)
    (errs : List PErr) :
    (∀ es fr₂, (∃ vs, EatsSeq rule es [("expr", .expr e.val)] y r
        (off + ([40] : GoString).length + a.length + e.text.length + b.length +
          ([41] : GoString).length) errs fr₂ vs) →
      ∃ vs, EatsSeq rule (parenItems ++ es) [] ([40] ++ (a ++ (e.text ++ (b ++ ([41] ++ y))))) r
        off errs fr₂ vs) ∧
    (∀ es, FailsSeq rule es [("expr", .expr e.val)] (y ++ r)
        (off + ([40] : GoString).length + a.length + e.text.length + b.length +
          ([41] : GoString).length) errs →
      FailsSeq rule (parenItems ++ es) [] (([40] ++ (a ++ (e.text ++ (b ++ ([41] ++ y))))) ++ r)
        off errs) := by
  have hyr : VT (y ++ r) := hy.append hr
  have h41 : VT (([41] ++ y) ++ r) := VT.cons (by decide) hyr
  have hb41 : VT ((b ++ ([41] ++ y)) ++ r) := by
    rw [List.append_assoc]; exact (hb.asc @isWs_lt).appendV h41
  have he41 : VT ((e.text ++ (b ++ ([41] ++ y))) ++ r) := by
    rw [List.append_assoc]; exact (e.text_vt he).append hb41
  have ha41 : VT ((a ++ (e.text ++ (b ++ ([41] ++ y)))) ++ r) := by
    rw [List.append_assoc]; exact (ha.asc @isWs_lt).appendV he41
  have he0 : headIn isWs ((e.text ++ (b ++ ([41] ++ y))) ++ r) = false := by
    rw [List.append_assoc]; exact noWs_of_spStart (e.head _ he)
  have hctx : Ctx .or e.endsNum ((b ++ ([41] ++ y)) ++ r) := by
    rw [List.append_assoc]; exact ctx_sep .or _ hb (.inr ⟨y ++ r, rfl⟩)
  exact ⟨fun es fr₂ h => EatsSeq.consE (Eats.lit [40] rfl (by decide) ha41)
      (EatsSeq.optWsE ha he0 he41
      (EatsSeq.consE (Eats.labeled "expr" (ih _ hctx hb41 rule [] _ errs))
      (EatsSeq.optWsE hb rfl h41 (EatsSeq.consE (Eats.lit [41] rfl (by decide) hyr) h)))),
    fun es h => FailsSeq.later' (Eats.lit [40] rfl (by decide) ha41)
      (FailsSeq.optWs' ha he0 he41
      (FailsSeq.later' (Eats.labeled "expr" (ih _ hctx hb41 rule [] _ errs))
      (FailsSeq.optWs' hb rfl h41 (FailsSeq.later' (Eats.lit [41] rfl (by decide) hyr) h))))⟩

/-- `NotExpression` on a text that does not go on as `not _ …`: its second alternative
    `expr:ParenthesizedExpression` -/
theorem rt_notUp {x : GoString} {v : PVal}
    (hf : FailsSeq Pinned.Grammar.rule_3.shown [.lit (runesOf kNot) false, .ruleRef "_",
      .labeled "expr" (.ruleRef "NotExpression")] [] (x ++ rest) off errs)
    (hp : Eats Pinned.Grammar.rule_3.shown (.ruleRef "ParenthesizedExpression") [] x rest off errs
      [] v) :
    Eats rule (.ruleRef "NotExpression") fr x rest off errs fr v :=
  Eats.ref look_NotExpression (Eats.choice_next (Fails.action (Fails.seq hf))
    (Eats.choice_hit
      (Eats.action (Eats.labeled "expr" hp)
        (act_retLabel sem_onNotExpression8 ..))))

theorem rt_leaf (m : MatchSp) (h : m.WF) (hk : m.notKwOK) : RT (.leaf m) := by
  intro rest hc hr rule fr off errs
  exact rt_notUp (fails_notKw m h hk hr _) (Eats.ref look_ParenthesizedExpression
    (Eats.choice_next
      (Fails.action (Fails.seq_here (Fails.lit [40] rfl (by decide) ((m.text_vt h).append hr)
        (noParen_of_tokStart (m.head h)))))
      (Eats.choice_hit (Eats.action
        (Eats.labeled "expr" (eats_MatchExpression m h (m.follow_of hc.stops hc.num) hr))
        (act_retLabel sem_onParenthesizedExpression12 ..)))))

theorem rt_paren (w₁ : GoString) (e : Sp .or) (w₂ : GoString) (h1 : Blank w₁) (he : e.WF)
    (h2 : Blank w₂) (ih : RT e) : RT (.paren w₁ e w₂) := by
  intro rest hc hr rule fr off errs
  have hall : VT ((Sp.paren w₁ e w₂).text ++ rest) :=
    ((Sp.paren w₁ e w₂).text_vt ⟨h1, he, h2⟩).append hr
  exact rt_notUp (FailsSeq.here (Fails.lit kNot rfl (by decide) hall rfl))
    (Eats.ref look_ParenthesizedExpression (Eats.choice_hit (Eats.action_seq
      ((paren_items Pinned.Grammar.rule_8.shown h1 he h2 ih VT.nil hr off errs).1 [] _
        ⟨_, EatsSeq.nil⟩)
      (act_retLabel sem_onParenthesizedExpression2 ..))))

theorem rt_notOp (w : GoString) (n : Sp .not) (hw : Blank1 w) (hn : n.WF) (ih : RT n) :
    RT (.notOp w n) := by
  intro rest hc hr rule fr off errs
  have hna := n.text_vt hn
  exact Eats.ref look_NotExpression (Eats.choice_hit (Eats.action_seq
    (EatsSeq.consE (Eats.lit kNot rfl (by decide) (((hw.2.asc @isWs_lt).appendV hna).append hr))
    (EatsSeq.consE (eats_ws1 hw (noWs_of_spStart (n.head _ hn)) (hna.append hr))
      ⟨_, EatsSeq.one (Eats.labeled "expr" (ih rest hc hr _ [] _ errs))⟩))
    (act_notFold sem_onNotExpression2 ..)))


theorem act_mkBinary {name : String} {isOr : Bool}
    (h : lookupSem pinSem name = .mkBinary isOr "left" "right") (a b : Expr) (t : GoString) :
    E.action name [("right", .expr b), ("left", .expr a)] t =
      .ret (.expr (if isOr then .or a b else .and a b)) none := by
  rw [act_of_sem h]
  simp [runActionSem, Frame.get, List.find?]

/-- the shared shape of `AndExpression` / `OrExpression`:
    `left:Lower _ "kw" _ right:Same {binary} / expr:Lower {expr}` -/
theorem rt_up {lo hi : String} {r : Rule} {kw : GoString} {act2 act11 : String}
    {more : List PExpr}
    (hl : lookupRule G hi = some r)
    (he : r.expr = .choice (.action act2 (.seq [.labeled "left" (.ruleRef lo), .ruleRef "_",
        .lit (runesOf kw) false, .ruleRef "_", .labeled "right" (.ruleRef hi)]) ::
      .action act11 (.labeled "expr" (.ruleRef lo)) :: more))
    (hact : lookupSem pinSem act11 = .retLabel "expr")
    {x rest : GoString} {v : PVal} (hno : NoKw kw rest) (hr : VT rest)
    (ih : ∀ (rule : String) (fr : Frame) (off : Nat) (errs : List PErr),
      Eats rule (.ruleRef lo) fr x rest off errs fr v)
    (rule : String) (fr : Frame) (off : Nat) (errs : List PErr) :
    Eats rule (.ruleRef hi) fr x rest off errs fr v := by
  apply Eats.ref hl
  rw [he]
  -- the keyword does not follow: alternative 1 fails after `left:Lower`
  exact Eats.choice_next (Fails.action (Fails.seq (FailsSeq.later
      (Eats.labeled "left" (ih r.shown [] off errs))
      (failsSeq_toks hno _ [.ruleRef "_", .labeled "right" (.ruleRef hi)] hr))))
    (Eats.choice_hit (Eats.action
      (Eats.labeled "expr" (ih r.shown [] off errs)) (act_retLabel hact ..)))

theorem rt_op {lo hi : String} {r : Rule} {kw : GoString} {act2 : String} {isOr : Bool}
    {more : List PExpr}
    (hl : lookupRule G hi = some r)
    (he : r.expr = .choice (.action act2 (.seq [.labeled "left" (.ruleRef lo), .ruleRef "_",
        .lit (runesOf kw) false, .ruleRef "_", .labeled "right" (.ruleRef hi)]) :: more))
    (hact : lookupSem pinSem act2 = .mkBinary isOr "left" "right") (hkw : Asc kw)
    {xl xr w₁ w₂ rest : GoString} {a b : Expr} (h1 : Blank1 w₁) (h2 : Blank1 w₂)
    (hkw1 : headIn isWs (kw ++ (w₂ ++ xr) ++ rest) = false)
    (hxr : headIn isWs (xr ++ rest) = false) (hxra : VT xr) (hr : VT rest)
    (ihl : VT ((w₁ ++ (kw ++ (w₂ ++ xr))) ++ rest) → ∀ (rule : String) (fr : Frame) (off : Nat)
      (errs : List PErr),
      Eats rule (.ruleRef lo) fr xl ((w₁ ++ (kw ++ (w₂ ++ xr))) ++ rest) off errs fr (.expr a))
    (ihr : ∀ (rule : String) (fr : Frame) (off : Nat) (errs : List PErr),
      Eats rule (.ruleRef hi) fr xr rest off errs fr (.expr b))
    (rule : String) (fr : Frame) (off : Nat) (errs : List PErr) :
    Eats rule (.ruleRef hi) fr (xl ++ (w₁ ++ (kw ++ (w₂ ++ xr)))) rest off errs fr
      (.expr (if isOr then .or a b else .and a b)) := by
  apply Eats.ref hl
  rw [he]
  have hw2a : Asc w₂ := h2.2.asc @isWs_lt
  have hkwa := hkw.appendV (hw2a.appendV hxra)
  exact Eats.choice_hit (Eats.action_seq
    (EatsSeq.consE (Eats.labeled "left"
      (ihl (((h1.2.asc @isWs_lt).appendV hkwa).append hr) r.shown [] off errs))
    (EatsSeq.consE (eats_ws1 h1 hkw1 (hkwa.append hr))
    (EatsSeq.consE (Eats.lit kw rfl hkw ((hw2a.appendV hxra).append hr))
    (EatsSeq.consE (eats_ws1 h2 hxr (hxra.append hr))
      ⟨_, EatsSeq.one (Eats.labeled "right" (ihr r.shown [] _ errs))⟩))))
    (act_mkBinary hact ..))

theorem expr_AndExpression : Pinned.Grammar.rule_2.expr =
    .choice (.action "onAndExpression2" (.seq [.labeled "left" (.ruleRef "NotExpression"),
        .ruleRef "_", .lit (runesOf kAnd) false, .ruleRef "_",
        .labeled "right" (.ruleRef "AndExpression")]) ::
      .action "onAndExpression11" (.labeled "expr" (.ruleRef "NotExpression")) :: []) := rfl

theorem expr_OrExpression : Pinned.Grammar.rule_1.expr =
    .choice (.action "onOrExpression2" (.seq [.labeled "left" (.ruleRef "AndExpression"),
        .ruleRef "_", .lit (runesOf kOr) false, .ruleRef "_",
        .labeled "right" (.ruleRef "OrExpression")]) ::
      .action "onOrExpression11" (.labeled "expr" (.ruleRef "AndExpression")) ::
      [.action "onOrExpression14" (.labeled "expr" (.ruleRef "CollectionExpression"))]) := rfl

theorem rt_andUp (n : Sp .not) (ih : RT n) : RT (.andUp n) := by
  intro rest hc hr rule fr off errs
  exact rt_up look_AndExpression expr_AndExpression sem_onAndExpression11
    (hc.noAnd (by decide)) hr (ih rest hc.toNot hr) rule fr off errs

theorem rt_orUp (a : Sp .and) (ih : RT a) : RT (.orUp a) := by
  intro rest hc hr rule fr off errs
  exact rt_up look_OrExpression expr_OrExpression sem_onOrExpression11
    (hc.noOr rfl) hr (ih rest hc.toAnd hr) rule fr off errs

theorem rt_andOp (l : Sp .not) (w₁ w₂ : GoString) (r : Sp .and) (h1 : Blank1 w₁)
    (h2 : Blank1 w₂) (hrw : r.WF) (ihl : RT l) (ihr : RT r) : RT (.andOp l w₁ w₂ r) := by
  intro rest hc hr rule fr off errs
  exact rt_op (isOr := false) look_AndExpression expr_AndExpression
    sem_onAndExpression2 (by decide) h1 h2 rfl (noWs_of_spStart (r.head _ hrw)) (r.text_vt hrw) hr
    (ihl _ (by rw [List.append_assoc, List.append_assoc]; exact ctx_and _ h1))
    (ihr rest hc hr) rule fr off errs

theorem rt_orOp (l : Sp .and) (w₁ w₂ : GoString) (r : Sp .or) (h1 : Blank1 w₁)
    (h2 : Blank1 w₂) (hrw : r.WF) (ihl : RT l) (ihr : RT r) : RT (.orOp l w₁ w₂ r) := by
  intro rest hc hr rule fr off errs
  exact rt_op (isOr := true) look_OrExpression expr_OrExpression
    sem_onOrExpression2 (by decide) h1 h2 rfl (noWs_of_spStart (r.head _ hrw)) (r.text_vt hrw) hr
    (ihl _ (by rw [List.append_assoc, List.append_assoc]; exact ctx_or _ h1))
    (ihr rest hc hr) rule fr off errs

/-- the identifier `any` resp. `all`, read as a selector -/
def opSel : CollOp → SelSp
  | .any => ⟨97, [110, 121], []⟩
  | .all => ⟨97, [108, 108], []⟩

theorem opSel_WF (op : CollOp) : (opSel op).WF := by
  cases op <;> exact ⟨by decide, by decide, fun p hp => by cases hp⟩

theorem opSel_text (op : CollOp) : (opSel op).text = opText op := by cases op <;> rfl

theorem expr_CollectionExpression : Pinned.Grammar.rule_4.expr =
    .action "onCollectionExpression1" (.seq [.labeled "op" collOpChoice,
      .labeled "selector" (.ruleRef "Selector"), .ruleRef "_", .lit (runesOf kAs) false,
      .ruleRef "_", .labeled "binding" (.ruleRef "CollectionIdentifiers"),
      .zeroOrOne (.ruleRef "_"), .lit [123] false, .zeroOrOne (.ruleRef "_"),
      .labeled "expr" (.ruleRef "OrExpression"), .zeroOrOne (.ruleRef "_"),
      .lit [125] false]) := rfl

theorem rt_coll (op : CollOp) (w₁ : GoString) (x : SelX) (w₂ w₃ : GoString) (bind : BindSp)
    (w₄ w₅ : GoString) (body : Sp .or) (w₆ : GoString)
    (h : (Sp.coll op w₁ x w₂ w₃ bind w₄ w₅ body w₆).WF) (ih : body.WF → RT body) :
    RT (.coll op w₁ x w₂ w₃ bind w₄ w₅ body w₆) := by
  intro rest hc hr rule fr off errs
  obtain ⟨h1, hx, hk, h2, h3, hb, h4, h5, hbody, h6, hnum⟩ := h
  -- the text from each item on (right nested) is valid
  have c11 := (h6.asc @isWs_lt).appendV (VT.cons (b := 125) (by decide) VT.nil)
  have c10 := (body.text_vt hbody).append c11
  have c9 := (h5.asc @isWs_lt).appendV c10
  have c8 := VT.cons (b := 123) (by decide) c9
  have c7 := (h4.asc @isWs_lt).appendV c8
  have c6 := (bind.text_asc hb).appendV c7
  have c5 := (h3.2.asc @isWs_lt).appendV c6
  have c4 := Asc.appendV (s := kAs) (by decide) c5
  have c3 := (h2.2.asc @isWs_lt).appendV c4
  have c2 := (x.text_vt hx).append c3
  have hx0 : headIn isWs ((x.text ++ (w₂ ++ (kAs ++ (w₃ ++ (bind.text ++ (w₄ ++ ([123] ++ (w₅ ++
      (body.text ++ (w₆ ++ [125])))))))))) ++ rest) = false := by
    rw [List.append_assoc]; exact noWs_of_tokStart (x.head hx)
  have hx1 : stopsSel ((w₂ ++ (kAs ++ (w₃ ++ (bind.text ++ (w₄ ++ ([123] ++ (w₅ ++
      (body.text ++ (w₆ ++ [125]))))))))) ++ rest) := by
    rw [List.append_assoc]; exact (stops_of_ws h2 _).1
  apply Eats.ref look_OrExpression
  rw [expr_OrExpression]
  generalize Pinned.Grammar.rule_1.shown = R1
  -- alternatives 1 and 2: the text is no `AndExpression`
  have hAnd : ∀ fr', Fails R1 (.ruleRef "AndExpression") fr'
      ((Sp.coll op w₁ x w₂ w₃ bind w₄ w₅ body w₆).text ++ rest) off errs := by
    intro fr'
    have e : (Sp.coll op w₁ x w₂ w₃ bind w₄ w₅ body w₆).text ++ rest =
        (opSel op).text ++ (w₁ ++ ((x.text ++ (w₂ ++ (kAs ++ (w₃ ++ (bind.text ++ (w₄ ++
          ([123] ++ (w₅ ++ (body.text ++ (w₆ ++ [125])))))))))) ++ rest)) := by
      rw [opSel_text, ← List.append_assoc, ← List.append_assoc]; rfl
    rw [e]
    exact fails_AndExpression_kw (opSel op) (opSel_WF op) h1 hx0
      (by rw [List.append_assoc]; exact x.kwFree hx hk _ hx1)
      (c2.append hr) (by cases op <;> rfl) R1 fr' off errs
  -- alternative 3: the quantifier
  have eC : Eats R1 (.ruleRef "CollectionExpression") []
      (Sp.coll op w₁ x w₂ w₃ bind w₄ w₅ body w₆).text rest off errs []
      (.expr (.coll op x.sel bind.binding body.val)) := by
    apply Eats.ref look_CollectionExpression
    rw [expr_CollectionExpression]
    refine Eats.action_seq (fr' := [("expr", .expr body.val), ("binding", .binding bind.binding),
        ("selector", .sel x.sel), ("op", .cop op)])
      (EatsSeq.consE (Eats.labeled "op" (eats_collOp op h1 hx0 (c2.append hr)))
      (EatsSeq.consE (Eats.labeled "selector"
        (eats_SelX x hx (x.follow_of_stops hx1) (c3.append hr)))
      (EatsSeq.consE (eats_ws1 h2 rfl (c4.append hr))
      (EatsSeq.consE (Eats.lit kAs rfl (by decide) (c5.append hr))
      (EatsSeq.consE (eats_ws1 h3 (by rw [List.append_assoc]; exact bind.head hb) (c6.append hr))
      (EatsSeq.consE (Eats.labeled "binding"
        ((eats_CollectionIdentifiers bind hb h4 (c9.append hr)).cast rfl
          (by simp only [List.append_assoc])))
      (EatsSeq.optWsE h4 rfl (c8.append hr)
      (EatsSeq.consE (Eats.lit [123] rfl (by decide) (c9.append hr))
      (EatsSeq.optWsE h5 (by rw [List.append_assoc]; exact noWs_of_spStart (body.head _ hbody))
        (c10.append hr)
      (EatsSeq.consE (Eats.labeled "expr"
        (ih hbody ((w₆ ++ [125]) ++ rest) (by rw [List.append_assoc]; exact ctx_brace _ h6 hnum)
          (c11.append hr) _ [] _ errs))
      (EatsSeq.optWsE h6 rfl (VT.cons (by decide) hr)
        ⟨_, EatsSeq.one (Eats.lit [125] rfl (by decide) hr)⟩))))))))))) ?_
    rw [act_of_sem sem_onCollectionExpression1]
    simp [runActionSem, Frame.get, List.find?]
  exact Eats.choice_next (Fails.action (Fails.seq_here (Fails.labeled (hAnd _))))
    (Eats.choice_next (Fails.action (Fails.labeled (hAnd _))) (Eats.choice_hit
      (Eats.action (Eats.labeled "expr" eC)
        (act_retLabel sem_onOrExpression14 ..))))

/-- **Round trip at every level.**  For every well-formed rendering `c` of level `l`, followed
    by a context `rest` admissible for that level, the rule of that level consumes exactly
    `c.text` and returns the tree `c.val`, logging nothing. -/
theorem eats_Sp {l : Lvl} (c : Sp l) (h : c.WF) : RT c := by
  induction c with
  | orOp l w₁ w₂ r ihl ihr =>
    exact rt_orOp l w₁ w₂ r h.2.1 h.2.2.1 h.2.2.2 (ihl h.1) (ihr h.2.2.2)
  | orUp a ih => exact rt_orUp a (ih h)
  | andOp l w₁ w₂ r ihl ihr =>
    exact rt_andOp l w₁ w₂ r h.2.1 h.2.2.1 h.2.2.2 (ihl h.1) (ihr h.2.2.2)
  | andUp n ih => exact rt_andUp n (ih h)
  | notOp w n ih => exact rt_notOp w n h.1 h.2 (ih h.2)
  | paren w₁ e w₂ ih => exact rt_paren w₁ e w₂ h.1 h.2.1 h.2.2 (ih h.2.1)
  | leaf m => exact rt_leaf m h.1 h.2
  | coll op w₁ x w₂ w₃ bind w₄ w₅ body w₆ ih =>
    exact rt_coll op w₁ x w₂ w₃ bind w₄ w₅ body w₆ h ih

/-! ## 6. The start rule `Input` -/

/-- text that goes on after a parenthesised group: blanks, then a byte that is no blank -/
def Tail1 (t : GoString) : Prop :=
  ∃ w k ks, t = w ++ k :: ks ∧ Blank w ∧ isWs k.toNat = false

theorem Tail1.append {t : GoString} (h : Tail1 t) (x : GoString) : Tail1 (t ++ x) := by
  obtain ⟨w, k, ks, rfl, hw, hk⟩ := h
  exact ⟨w, k, ks ++ x, by rw [List.append_assoc]; rfl, hw, hk⟩

/-- `x` (a rendering of the tree `v`, in front of `rest`) does not start with `(`, or it starts
    with a parenthesised group `( a e b )` which is all of `x` (then `v` is the tree of `e`) or is
    followed by a `Tail1` -/
def LeadParen (x : GoString) (v : Expr) (rest : GoString) : Prop :=
  GoString.isPrefixOf [40] (x ++ rest) = false ∨
  ∃ (a : GoString) (e : Sp .or) (b t : GoString),
    x = [40] ++ (a ++ (e.text ++ (b ++ ([41] ++ t)))) ∧ Blank a ∧ e.WF ∧ Blank b ∧
    (t = [] ∧ v = e.val ∨ Tail1 t)

/-- the leading group of a left operand is the leading group of the whole, followed by a tail -/
theorem LeadParen.binary {x w y rest : GoString} {v v' : Expr} {k : UInt8} {ks : GoString}
    (h : LeadParen x v ((w ++ ((k :: ks) ++ y)) ++ rest)) (hw : Blank1 w)
    (hk : isWs k.toNat = false) : LeadParen (x ++ (w ++ ((k :: ks) ++ y))) v' rest := by
  rcases h with hno | ⟨a, e, b, t, rfl, ha, he, hb, htl⟩
  · exact .inl (by rw [List.append_assoc]; exact hno)
  · refine .inr ⟨a, e, b, t ++ (w ++ ((k :: ks) ++ y)), by simp only [List.append_assoc], ha, he,
      hb, .inr ?_⟩
    rcases htl with ⟨rfl, _⟩ | htl
    · exact ⟨w, k, ks ++ y, rfl, hw.2, hk⟩
    · exact htl.append _

theorem Sp.leadParen {l : Lvl} (c : Sp l) (h : c.WF) (rest : GoString) :
    LeadParen c.text c.val rest := by
  induction c generalizing rest with
  | orOp l w₁ w₂ r ihl _ => exact (ihl h.1 _).binary (k := 111) (ks := [114]) h.2.1 rfl
  | orUp a ih => exact ih h rest
  | andOp l w₁ w₂ r ihl _ => exact (ihl h.1 _).binary (k := 97) (ks := [110, 100]) h.2.1 rfl
  | andUp n ih => exact ih h rest
  | notOp => exact .inl rfl
  | paren w₁ e w₂ => exact .inr ⟨w₁, e, w₂, [], rfl, h.1, h.2.1, h.2.2, .inl ⟨rfl, rfl⟩⟩
  | leaf m => exact .inl (noParen_of_tokStart (m.head h.1))
  | coll op => cases op <;> exact .inl rfl


/-- a whole input: leading blanks, an expression, trailing blanks -/
structure Top where
  w₀ : GoString
  c : Sp .or
  w₁ : GoString

def Top.text (t : Top) : GoString := t.w₀ ++ (t.c.text ++ t.w₁)
def Top.WF (t : Top) : Prop := Blank t.w₀ ∧ t.c.WF ∧ Blank t.w₁
def Top.val (t : Top) : Expr := t.c.val
def Top.ast (t : Top) : Expr := t.c.ast

theorem Top.text_vt (t : Top) (h : t.WF) : VT t.text :=
  (h.1.asc @isWs_lt).appendV ((t.c.text_vt h.2.1).append (h.2.2.asc @isWs_lt).vt)

abbrev inputAlt1 : PExpr := .action "onInput2" (.seq [.zeroOrOne (.ruleRef "_"), .lit [40] false,
  .zeroOrOne (.ruleRef "_"), .labeled "expr" (.ruleRef "OrExpression"),
  .zeroOrOne (.ruleRef "_"), .lit [41] false, .zeroOrOne (.ruleRef "_"), .ruleRef "EOF"])
abbrev inputAlt2 : PExpr := .action "onInput17" (.seq [.zeroOrOne (.ruleRef "_"),
  .labeled "expr" (.ruleRef "OrExpression"), .zeroOrOne (.ruleRef "_"), .ruleRef "EOF"])

/-- second alternative of `Input`: `_? expr:OrExpression _? EOF` -/
theorem input_alt2 (t : Top) (h : t.WF) (rule : String) (off : Nat) (errs : List PErr) :
    Eats rule inputAlt2 [] t.text [] off errs [("expr", .expr t.val)] (.expr t.val) := by
  obtain ⟨h0, hc, h1⟩ := h
  have h1a : Asc t.w₁ := h1.asc @isWs_lt
  have hca := t.c.text_vt hc
  obtain ⟨v1, e1⟩ := eats_optWs (rule := rule) (fr := []) (off := off) (errs := errs) h0
    (rest := (t.c.text ++ t.w₁) ++ [])
    (by rw [List.append_assoc]; exact noWs_of_spStart (t.c.head _ hc))
    ((hca.append h1a.vt).append VT.nil)
  have e2 := Eats.labeled (rule := rule) (fr := []) "expr"
    (eats_Sp t.c hc (t.w₁ ++ []) (ctx_sep .or _ h1 (.inl rfl)) (h1a.appendV VT.nil) rule []
      (off + t.w₀.length) errs)
  obtain ⟨v3, e3⟩ := eats_optWs (rule := rule) (fr := [("expr", .expr t.c.val)])
    (off := off + t.w₀.length + t.c.text.length) (errs := errs) h1 (rest := []) rfl VT.nil
  have hseq := EatsSeq.cons e1 (EatsSeq.cons e2 (EatsSeq.two0 e3 eats_EOF))
  exact Eats.action (Eats.seq hseq) (act_retLabel sem_onInput17 ..)

/-- first alternative of `Input`: `_? "(" _? expr:OrExpression _? ")" _? EOF` either fails
    (logging nothing) or yields the same tree -/
theorem input_alt1 (t : Top) (h : t.WF) (rule : String) (off : Nat) (errs : List PErr) :
    Fails rule inputAlt1 [] (t.text ++ []) off errs ∨
      ∃ fr', Eats rule inputAlt1 [] t.text [] off errs fr' (.expr t.val) := by
  obtain ⟨h0, hc, h1⟩ := h
  have h1a : Asc t.w₁ := h1.asc @isWs_lt
  have hcw : VT (t.c.text ++ t.w₁) := (t.c.text_vt hc).append h1a.vt
  have hall : VT ((t.c.text ++ t.w₁) ++ []) := hcw.append VT.nil
  obtain ⟨v1, e1⟩ := eats_optWs (rule := rule) (fr := []) (off := off) (errs := errs) h0
    (by rw [List.append_assoc]; exact noWs_of_spStart (t.c.head _ hc)) hall
  rcases t.c.leadParen hc (t.w₁ ++ []) with hp | ⟨a, e, b, tl, htext, ha, he, hb, htl⟩
  · exact .inl (Fails.action (Fails.seq (FailsSeq.later' e1 (FailsSeq.here
      (Fails.lit [40] rfl (by decide) hall (by rw [List.append_assoc]; exact hp))))))
  have heq : t.c.text ++ t.w₁ = [40] ++ (a ++ (e.text ++ (b ++ ([41] ++ (tl ++ t.w₁))))) := by
    rw [htext]; simp only [List.append_assoc]
  rw [heq] at hcw e1
  have hy : VT (tl ++ t.w₁) :=
    VT.tail (by decide) (VT.right (hb.asc @isWs_lt) (VT.drop (e.text_vt he)
      (VT.right (ha.asc @isWs_lt) (VT.tail (by decide) hcw))))
  obtain ⟨hE, hF⟩ := paren_items rule ha he hb (eats_Sp e he) hy VT.nil (off + t.w₀.length) errs
  rcases htl with ⟨rfl, hval⟩ | htl
  · -- the whole expression is the parenthesised group: alternative 1 matches
    obtain ⟨v7, e7⟩ := eats_optWs (rule := rule) (fr := [("expr", .expr e.val)])
      (off := off + t.w₀.length + ([40] : GoString).length + a.length + e.text.length +
        b.length + ([41] : GoString).length) (errs := errs) h1 (rest := []) rfl VT.nil
    refine .inr ⟨[("expr", .expr e.val)], ?_⟩
    rw [Top.val, hval, Top.text, heq]
    exact Eats.action_seq (EatsSeq.consE e1 (hE _ _ ⟨_, EatsSeq.two0 e7 eats_EOF⟩))
      (act_retLabel sem_onInput2 ..)
  · -- something follows the closing parenthesis: `EOF` fails, alternative 1 fails
    obtain ⟨w, k, ks, hwk, hw, hk⟩ := htl.append t.w₁
    rw [hwk] at hy hF e1
    have hks : VT ((k :: ks) ++ []) := (VT.right (hw.asc @isWs_lt) hy).append VT.nil
    left
    rw [Top.text, List.append_assoc, heq, hwk]
    exact Fails.action (Fails.seq (FailsSeq.later e1 (hF _ (FailsSeq.optWs' hw
      (headIn_append_left.trans hk) hks (FailsSeq.here (fails_EOF hks (List.cons_ne_nil _ _)))))))

theorem expr_Input : Pinned.Grammar.rule_0.expr = .choice [inputAlt1, inputAlt2] := rfl

theorem eats_Input (t : Top) (h : t.WF) (rule : String) (off : Nat) (errs : List PErr) :
    ∃ fr', Eats rule Pinned.Grammar.rule_0.expr [] t.text [] off errs fr' (.expr t.val) := by
  rw [expr_Input]
  rcases input_alt1 t h rule off errs with hf | ⟨fr', he⟩
  · exact ⟨_, Eats.choice_next hf (Eats.choice_hit (input_alt2 t h rule off errs))⟩
  · exact ⟨_, Eats.choice_hit he⟩

theorem accepts_of_eats {input : GoString} {v : PVal} {fr' : Frame} (ha : VT input)
    (h : Eats Pinned.Grammar.rule_0.shown Pinned.Grammar.rule_0.expr [] input [] 0 [] fr' v) :
    Accepts E G input v := by
  rw [Eats, List.append_nil] at h
  -- `startRule G` is `lookupRule G` of the first rule's name
  refine ⟨Pinned.Grammar.rule_0, ptAt [] (0 + input.length), fr', look_Input, ?_⟩
  rw [start_next, logRead_vt _ _ _ ha]
  exact h

/-- **`Input` accepts every well-formed rendering and returns its tree.** -/
theorem accepts_top (t : Top) (h : t.WF) : Accepts E G t.text (.expr t.val) := by
  obtain ⟨fr', he⟩ := eats_Input t h Pinned.Grammar.rule_0.shown 0 []
  exact accepts_of_eats (t.text_vt h) he

/-! ## 7. `not not e` is `e` -/

/-- the tree the parser builds for a rendered tree: every `not not e` folded to `e`, innermost
    first (the code block of `NotExpression`) -/
def norm : Expr → Expr
  | .not e => notFold (norm e)
  | .and l r => .and (norm l) (norm r)
  | .or l r => .or (norm l) (norm r)
  | .match_ s o v => .match_ s o v
  | .coll o s b e => .coll o s b (norm e)

theorem MatchSp.norm_ast (m : MatchSp) : norm m.ast = m.ast := by cases m <;> rfl

theorem Sp.val_eq_norm {l : Lvl} (c : Sp l) : c.val = norm c.ast := by
  induction c with
  | orOp l _ _ r ihl ihr => exact congr (congrArg Expr.or ihl) ihr
  | orUp a ih => exact ih
  | andOp l _ _ r ihl ihr => exact congr (congrArg Expr.and ihl) ihr
  | andUp n ih => exact ih
  | notOp _ n ih => exact congrArg notFold ih
  | paren _ e _ ih => exact ih
  | leaf m => exact m.norm_ast.symm
  | coll op _ x _ _ bind _ _ body _ ih => exact congrArg (Expr.coll op x.sel bind.binding) ih

/-- the same, with the tree returned written as `norm` of the tree rendered -/
theorem accepts_top_norm (t : Top) (h : t.WF) : Accepts E G t.text (.expr (norm t.ast)) := by
  have := accepts_top t h
  rwa [Top.val, t.c.val_eq_norm] at this

/-- no `not (not _)` anywhere -/
def NoNotNot : Expr → Prop
  | .not (.not _) => False
  | .not e => NoNotNot e
  | .and l r => NoNotNot l ∧ NoNotNot r
  | .or l r => NoNotNot l ∧ NoNotNot r
  | .match_ .. => True
  | .coll _ _ _ e => NoNotNot e

theorem noNotNot_sub {e : Expr} (h : NoNotNot (.not e)) : NoNotNot e := by
  cases e <;> simp_all [NoNotNot]

theorem noNotNot_notFold {x : Expr} (h : NoNotNot x) : NoNotNot (notFold x) := by
  cases x with
  | not y => exact noNotNot_sub h
  | and l r => exact h
  | or l r => exact h
  | match_ s o v => trivial
  | coll o s b e => exact h

theorem norm_noNotNot : ∀ e : Expr, NoNotNot (norm e)
  | .not e => noNotNot_notFold (norm_noNotNot e)
  | .and l r => ⟨norm_noNotNot l, norm_noNotNot r⟩
  | .or l r => ⟨norm_noNotNot l, norm_noNotNot r⟩
  | .match_ .. => trivial
  | .coll _ _ _ e => norm_noNotNot e

theorem notFold_notFold {x : Expr} (h : NoNotNot x) : notFold (notFold x) = x := by
  cases x with
  | not y => cases y <;> simp_all [notFold, NoNotNot]
  | and l r => rfl
  | or l r => rfl
  | match_ s o v => rfl
  | coll o s b e => rfl

/-- `not not e` is `e` -/
theorem norm_not_not (e : Expr) : norm (.not (.not e)) = norm e :=
  notFold_notFold (norm_noNotNot e)

/-- a tree without `not not` is returned as it is -/
theorem norm_id : ∀ e : Expr, NoNotNot e → norm e = e
  | .not e, h => by
    have ih := norm_id e (noNotNot_sub h)
    simp only [norm, ih]
    cases e <;> simp_all [notFold, NoNotNot]
  | .and l r, h => by simp [norm, norm_id l h.1, norm_id r h.2]
  | .or l r, h => by simp [norm, norm_id l h.1, norm_id r h.2]
  | .match_ .., _ => rfl
  | .coll _ _ _ e, h => by simp [norm, norm_id e h]

/-! ## 8. Two canonical renderers

  the fully parenthesised one (`STree.full`) and the one with the fewest parentheses that the
  precedence `not` > `and` > `or` and right nesting allow (`STree.minOr`). -/

/-- an expression tree with spelled match expressions at the leaves (and spelled selector and
    bindings in quantifiers) -/
inductive STree where
  | not (e : STree)
  | and (l r : STree)
  | or (l r : STree)
  | leaf (m : MatchSp)
  | coll (op : CollOp) (x : SelX) (bind : BindSp) (body : STree)

def STree.ast : STree → Expr
  | .not e => .not e.ast
  | .and l r => .and l.ast r.ast
  | .or l r => .or l.ast r.ast
  | .leaf m => m.ast
  | .coll op x bind body => .coll op x.sel bind.binding body.ast

def STree.LeavesOK : STree → Prop
  | .not e => e.LeavesOK
  | .and l r => l.LeavesOK ∧ r.LeavesOK
  | .or l r => l.LeavesOK ∧ r.LeavesOK
  | .leaf m => m.WF ∧ m.notKwOK
  | .coll _ x bind body => x.WF ∧ x.kwOK ∧ bind.WF ∧ body.LeavesOK

def sp1 : GoString := [32]
theorem blank1_sp1 : Blank1 sp1 := ⟨by decide, by decide⟩
theorem blank_nil : Blank [] := AllIn.nil

/-- every operand of `not` / `and` / `or` in parentheses -/
def STree.full : STree → Sp .or
  | .not e => .orUp (.andUp (.notOp sp1 (.paren [] e.full [])))
  | .and l r => .orUp (.andOp (.paren [] l.full []) sp1 sp1 (.andUp (.paren [] r.full [])))
  | .or l r => .orOp (.andUp (.paren [] l.full [])) sp1 sp1 (.orUp (.andUp (.paren [] r.full [])))
  | .leaf m => .orUp (.andUp (.leaf m))
  | .coll op x bind body => .coll op sp1 x sp1 sp1 bind sp1 sp1 body.full sp1

theorem STree.full_ast (s : STree) : s.full.ast = s.ast := by
  induction s with
  | not e ih => exact congrArg Expr.not ih
  | and l r ihl ihr => exact congr (congrArg Expr.and ihl) ihr
  | or l r ihl ihr => exact congr (congrArg Expr.or ihl) ihr
  | leaf m => rfl
  | coll op x bind body ih => exact congrArg (Expr.coll op x.sel bind.binding) ih

theorem STree.full_WF (s : STree) (h : s.LeavesOK) : s.full.WF := by
  induction s with
  | not e ih => exact ⟨blank1_sp1, blank_nil, ih h, blank_nil⟩
  | and l r ihl ihr =>
    exact ⟨⟨blank_nil, ihl h.1, blank_nil⟩, blank1_sp1, blank1_sp1, ⟨blank_nil, ihr h.2, blank_nil⟩⟩
  | or l r ihl ihr =>
    exact ⟨⟨blank_nil, ihl h.1, blank_nil⟩, blank1_sp1, blank1_sp1, ⟨blank_nil, ihr h.2, blank_nil⟩⟩
  | leaf _ => exact h
  | coll _ _ _ body ih =>
    exact ⟨blank1_sp1, h.1, h.2.1, blank1_sp1, blank1_sp1, h.2.2.1, blank1_sp1.2, blank1_sp1.2,
      ih h.2.2.2, blank1_sp1.2, fun _ => blank1_sp1.1⟩

mutual
/-- as an operand of `not` or a left operand of `and`: compound trees need parentheses -/
def STree.minNot : STree → Sp .not
  | .not e => .notOp sp1 e.minNot
  | .and l r => .paren [] (.orUp (.andOp l.minNot sp1 sp1 r.minAnd)) []
  | .or l r => .paren [] (.orOp l.minAnd sp1 sp1 r.minOr) []
  | .leaf m => .leaf m
  | .coll op x bind body => .paren [] (.coll op sp1 x sp1 sp1 bind sp1 sp1 body.minOr sp1) []
/-- as a right operand of `and` or a left operand of `or`: only `or` needs parentheses -/
def STree.minAnd : STree → Sp .and
  | .not e => .andUp (.notOp sp1 e.minNot)
  | .and l r => .andOp l.minNot sp1 sp1 r.minAnd
  | .or l r => .andUp (.paren [] (.orOp l.minAnd sp1 sp1 r.minOr) [])
  | .leaf m => .andUp (.leaf m)
  | .coll op x bind body =>
    .andUp (.paren [] (.coll op sp1 x sp1 sp1 bind sp1 sp1 body.minOr sp1) [])
/-- at the top, inside parentheses, as a right operand of `or`: no parentheses -/
def STree.minOr : STree → Sp .or
  | .not e => .orUp (.andUp (.notOp sp1 e.minNot))
  | .and l r => .orUp (.andOp l.minNot sp1 sp1 r.minAnd)
  | .or l r => .orOp l.minAnd sp1 sp1 r.minOr
  | .leaf m => .orUp (.andUp (.leaf m))
  | .coll op x bind body => .coll op sp1 x sp1 sp1 bind sp1 sp1 body.minOr sp1
end

theorem STree.min_ast (s : STree) :
    s.minNot.ast = s.ast ∧ s.minAnd.ast = s.ast ∧ s.minOr.ast = s.ast := by
  induction s with
  | not e ih =>
    have h := congrArg Expr.not ih.1
    exact ⟨h, h, h⟩
  | and l r ihl ihr =>
    have h := congr (congrArg Expr.and ihl.1) ihr.2.1
    exact ⟨h, h, h⟩
  | or l r ihl ihr =>
    have h := congr (congrArg Expr.or ihl.2.1) ihr.2.2
    exact ⟨h, h, h⟩
  | leaf m => exact ⟨rfl, rfl, rfl⟩
  | coll op x bind body ih =>
    have h := congrArg (Expr.coll op x.sel bind.binding) ih.2.2
    exact ⟨h, h, h⟩

theorem STree.min_WF (s : STree) (h : s.LeavesOK) :
    s.minNot.WF ∧ s.minAnd.WF ∧ s.minOr.WF := by
  induction s with
  | not e ih =>
    have h1 : (Sp.notOp sp1 e.minNot).WF := ⟨blank1_sp1, (ih h).1⟩
    exact ⟨h1, h1, h1⟩
  | and l r ihl ihr =>
    have h1 : (Sp.andOp l.minNot sp1 sp1 r.minAnd).WF :=
      ⟨(ihl h.1).1, blank1_sp1, blank1_sp1, (ihr h.2).2.1⟩
    exact ⟨⟨blank_nil, h1, blank_nil⟩, h1, h1⟩
  | or l r ihl ihr =>
    have h1 : (Sp.orOp l.minAnd sp1 sp1 r.minOr).WF :=
      ⟨(ihl h.1).2.1, blank1_sp1, blank1_sp1, (ihr h.2).2.2⟩
    exact ⟨⟨blank_nil, h1, blank_nil⟩, ⟨blank_nil, h1, blank_nil⟩, h1⟩
  | leaf m => exact ⟨h, h, h⟩
  | coll op x bind body ih =>
    have hc : (Sp.coll op sp1 x sp1 sp1 bind sp1 sp1 body.minOr sp1).WF :=
      ⟨blank1_sp1, h.1, h.2.1, blank1_sp1, blank1_sp1, h.2.2.1, blank1_sp1.2, blank1_sp1.2,
        (ih h.2.2.2).2.2, blank1_sp1.2, fun _ => blank1_sp1.1⟩
    exact ⟨⟨blank_nil, hc, blank_nil⟩, ⟨blank_nil, hc, blank_nil⟩, hc⟩

/-- the fully parenthesised text of a tree parses back to the tree (`not not` folded) -/
theorem accepts_full (s : STree) (h : s.LeavesOK) :
    Accepts E G (Top.text ⟨[], s.full, []⟩) (.expr (norm s.ast)) := by
  have := accepts_top_norm ⟨[], s.full, []⟩ ⟨blank_nil, s.full_WF h, blank_nil⟩
  rwa [Top.ast, s.full_ast] at this

/-- the minimally parenthesised text of a tree parses back to the tree: `not` binds tighter
    than `and`, `and` tighter than `or`, chains group to the right -/
theorem accepts_minimal (s : STree) (h : s.LeavesOK) :
    Accepts E G (Top.text ⟨[], s.minOr, []⟩) (.expr (norm s.ast)) := by
  have := accepts_top_norm ⟨[], s.minOr, []⟩ ⟨blank_nil, (s.min_WF h).2.2, blank_nil⟩
  rwa [Top.ast, (s.min_ast).2.2] at this

/-! ## 9. Well-formedness is decidable -/

instance MatchSp.decNotKwOK (m : MatchSp) : Decidable m.notKwOK :=
  match h : m.lead with
  | none => isTrue fun σ hσ => by rw [h] at hσ; cases hσ
  | some σ => decidable_of_iff (σ.b :: σ.x ≠ kNot)
      ⟨fun hn τ hτ => by rw [h] at hτ; cases hτ; exact hn, fun hk => hk σ h⟩

instance Sp.decWF : {l : Lvl} → (c : Sp l) → Decidable c.WF
  | _, .orOp l w₁ w₂ r =>
    have := l.decWF; have := r.decWF
    inferInstanceAs (Decidable (l.WF ∧ Blank1 w₁ ∧ Blank1 w₂ ∧ r.WF))
  | _, .orUp a => a.decWF
  | _, .andOp l w₁ w₂ r =>
    have := l.decWF; have := r.decWF
    inferInstanceAs (Decidable (l.WF ∧ Blank1 w₁ ∧ Blank1 w₂ ∧ r.WF))
  | _, .andUp n => n.decWF
  | _, .notOp w n => have := n.decWF; inferInstanceAs (Decidable (Blank1 w ∧ n.WF))
  | _, .paren w₁ e w₂ =>
    have := e.decWF; inferInstanceAs (Decidable (Blank w₁ ∧ e.WF ∧ Blank w₂))
  | _, .leaf m => inferInstanceAs (Decidable (m.WF ∧ m.notKwOK))
  | _, .coll _ w₁ x w₂ w₃ bind w₄ w₅ body w₆ =>
    have := body.decWF
    inferInstanceAs (Decidable (Blank1 w₁ ∧ x.WF ∧ x.kwOK ∧ Blank1 w₂ ∧ Blank1 w₃ ∧ bind.WF ∧
      Blank w₄ ∧ Blank w₅ ∧ body.WF ∧ Blank w₆ ∧ (body.endsNum = true → w₆ ≠ [])))

instance Top.decWF (t : Top) : Decidable t.WF := by unfold Top.WF; infer_instance

end Bexpr.Proofs.RoundTrip
