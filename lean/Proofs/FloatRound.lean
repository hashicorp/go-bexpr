/-
  Proofs.FloatRound — the nearest-even specification of `Bexpr.Strconv.roundRat` (the rounding
  step of the `strconv.ParseFloat` model) in the vocabulary of `Props/C02Float.lean`, and what
  `readFloat` yields on a decimal literal given as a record (`DecLit`, `readFloat_decLit`).

  Every value of a format is a natural multiple of the smallest subnormal `2^(-ushift)`;
  `ulps f a` is the value of the sign-less pattern `a` in these units, strictly increasing on
  ALL naturals.  `roundRat` returns `k * 2^mantBits + m` with `m = roundHalfEven (x / 2^k)` for
  the binade index `k` of `x` (`roundRat_decomp`), whose value is `m * 2^k`, and every pattern's
  value is a multiple of `2^k` or lies below the binade: hence nearest and ties-even in units
  (`roundRat_core`).  `le_roundRat_iff`: `a ≤ roundRat …` iff `x` is at or above the midpoint of
  the patterns `a - 1` and `a`; overflow and monotonicity are read off it.

  Two values `p < q` compare in distance to `N` as their midpoint compares to `N`
  (`adist_le_iff_of_lt` …); every comparison of distances goes through that, so that `omega`
  sees linear facts about a few products only.
-/
import Bexpr.Strconv
import Proofs.StrconvLemmas
import Mathlib.Tactic.Ring

namespace Bexpr.Strconv

/-! ## `roundHalfEven`; distances of naturals -/

theorem roundHalfEven_scale (n d c : Nat) (hc : 0 < c) :
    roundHalfEven (n * c) (d * c) = roundHalfEven n d := by
  unfold roundHalfEven
  rw [Nat.mul_div_mul_right _ _ hc, Nat.mul_mod_mul_right]
  have e : 2 * (n % d * c) = (2 * (n % d)) * c := by ring
  have h1 : (2 * (n % d * c) > d * c) ↔ (2 * (n % d) > d) := by
    rw [e]; exact Nat.mul_lt_mul_right hc
  have h2 : (2 * (n % d * c) = d * c) ↔ (2 * (n % d) = d) := by
    rw [e]; exact Nat.mul_left_inj (by omega)
  simp only [h1, h2, beq_iff_eq, Bool.or_eq_true, Bool.and_eq_true, decide_eq_true_eq]

theorem roundHalfEven_spec (n d : Nat) (hd : 0 < d) :
    2 * (roundHalfEven n d * d) ≤ 2 * n + d ∧ 2 * n ≤ 2 * (roundHalfEven n d * d) + d ∧
    ((2 * (roundHalfEven n d * d) = 2 * n + d ∨ 2 * n = 2 * (roundHalfEven n d * d) + d) →
      roundHalfEven n d % 2 = 0) := by
  have hdm : d * (n / d) + n % d = n := Nat.div_add_mod n d
  have hr : n % d < d := Nat.mod_lt _ hd
  unfold roundHalfEven
  simp only [beq_iff_eq, Bool.or_eq_true, Bool.and_eq_true, decide_eq_true_eq]
  generalize n % d = r at *
  generalize hq : n / d = q at *
  have hqd : d * q = q * d := Nat.mul_comm _ _
  split
  · rename_i h
    rw [Nat.add_mul, Nat.one_mul]
    generalize q * d = t at *
    omega
  · rename_i h
    generalize q * d = t at *
    omega

/-- `|a - b|`; the proofs use the form `adist_def`, which `omega` understands. -/
def adist (a b : Nat) : Nat := ((a : Int) - (b : Int)).natAbs

theorem adist_def (a b : Nat) : adist a b = (a - b) + (b - a) := by
  unfold adist; omega

theorem adist_mul_right (a b c : Nat) : adist (a * c) (b * c) = adist a b * c := by
  simp only [adist_def, Nat.add_mul, Nat.sub_mul]

theorem adist_comm (a b : Nat) : adist a b = adist b a := by
  simp only [adist_def]; omega

theorem adist_eq_zero {a b : Nat} : adist a b = 0 ↔ a = b := by
  simp only [adist_def]; omega

theorem adist_le_iff_of_lt {p q : Nat} (h : p < q) (N : Nat) :
    adist q N ≤ adist p N ↔ p + q ≤ 2 * N := by
  simp only [adist_def]; omega

theorem adist_eq_iff_of_lt {p q : Nat} (h : p < q) (N : Nat) :
    adist p N = adist q N ↔ p + q = 2 * N := by
  simp only [adist_def]; omega

theorem adist_ge_iff_of_lt {p q : Nat} (h : p < q) (N : Nat) :
    adist p N ≤ adist q N ↔ 2 * N ≤ p + q := by
  simp only [adist_def]; omega

theorem lt_mid_of_below {A B C N : Nat} (hBC : B < C) (hCA : C ≤ A) (hCN : C ≤ N)
    (h : adist A N ≤ adist C N) : B + A < 2 * N := by
  simp only [adist_def] at h; omega

theorem mul_succ_le_of_lt {j m : Nat} (d : Nat) (h : j < m) : j * d + d ≤ m * d := by
  have : (j + 1) * d ≤ m * d := Nat.mul_le_mul_right d h
  rwa [Nat.add_mul, Nat.one_mul] at this

theorem roundHalfEven_nearest (n d : Nat) (hd : 0 < d) (j : Nat) :
    adist (roundHalfEven n d * d) n ≤ adist (j * d) n := by
  obtain ⟨h1, h2, _⟩ := roundHalfEven_spec n d hd
  rcases Nat.lt_trichotomy j (roundHalfEven n d) with h | h | h
  · have := mul_succ_le_of_lt d h
    exact (adist_le_iff_of_lt (show j * d < roundHalfEven n d * d by omega) n).mpr (by omega)
  · rw [h]
  · have := mul_succ_le_of_lt d h
    exact (adist_ge_iff_of_lt (show roundHalfEven n d * d < j * d by omega) n).mpr (by omega)

theorem roundHalfEven_tie_even (n d : Nat) (hd : 0 < d) (j : Nat) (hj : j ≠ roundHalfEven n d)
    (htie : adist (j * d) n = adist (roundHalfEven n d * d) n) :
    roundHalfEven n d % 2 = 0 := by
  obtain ⟨h1, h2, h3⟩ := roundHalfEven_spec n d hd
  apply h3
  rcases Nat.lt_trichotomy j (roundHalfEven n d) with h | h | h
  · have := mul_succ_le_of_lt d h
    have := (adist_eq_iff_of_lt (show j * d < roundHalfEven n d * d by omega) n).mp htie
    omega
  · exact absurd h hj
  · have := mul_succ_le_of_lt d h
    have := (adist_eq_iff_of_lt (show roundHalfEven n d * d < j * d by omega) n).mp htie.symm
    omega

/-! ## `scalePow2`, `floorLog2Rat` -/

/-- With the exponent written as `a - b`, the `scalePow2` pair is `num * 2^b / (den * 2^a)` with
a common positive factor taken out. -/
theorem scalePow2_split (num den : Nat) (e : Int) (a b : Nat) (h : (a : Int) - b = e) :
    ∃ c, 0 < c ∧ num * 2 ^ b = (scalePow2 num den e).1 * c ∧
      den * 2 ^ a = (scalePow2 num den e).2 * c := by
  unfold scalePow2
  by_cases he : e ≥ 0
  · rw [if_pos he, show a = e.toNat + b by omega, Nat.pow_add, ← Nat.mul_assoc]
    exact ⟨2 ^ b, Nat.pow_pos Nat.zero_lt_two, rfl, rfl⟩
  · rw [if_neg he, show b = (-e).toNat + a by omega, Nat.pow_add, ← Nat.mul_assoc]
    exact ⟨2 ^ a, Nat.pow_pos Nat.zero_lt_two, rfl, rfl⟩

theorem scalePow2_ge_iff (num den : Nat) (e : Int) (a b : Nat) (h : (a : Int) - b = e) :
    ((scalePow2 num den e).1 ≥ (scalePow2 num den e).2) ↔ den * 2 ^ a ≤ num * 2 ^ b := by
  obtain ⟨c, hc, h1, h2⟩ := scalePow2_split num den e a b h
  rw [h1, h2]
  exact (Nat.mul_le_mul_right_iff hc).symm

/-- `floorLog2Rat num den = ⌊log2 (num/den)⌋`: with the exponent written as `a - b`,
`2^a / 2^b ≤ num/den < 2^(a+1) / 2^b`. -/
theorem floorLog2Rat_spec (num den : Nat) (hn : num ≠ 0) (hd : den ≠ 0) (a b : Nat)
    (h : (a : Int) - b = floorLog2Rat num den) :
    den * 2 ^ a ≤ num * 2 ^ b ∧ num * 2 ^ b < den * 2 ^ (a + 1) := by
  have hp1 : 2 ^ Nat.log2 num ≤ num := Nat.log2_self_le hn
  have hp2 : num < 2 ^ (Nat.log2 num + 1) := Nat.lt_log2_self
  have hq1 : 2 ^ Nat.log2 den ≤ den := Nat.log2_self_le hd
  have hq2 : den < 2 ^ (Nat.log2 den + 1) := Nat.lt_log2_self
  unfold floorLog2Rat at h
  simp only at h
  generalize Nat.log2 num = p at *
  generalize Nat.log2 den = q at *
  by_cases ht : (scalePow2 num den ((p : Int) - q)).1 ≥ (scalePow2 num den ((p : Int) - q)).2
  · rw [if_pos ht] at h
    refine ⟨(scalePow2_ge_iff num den _ a b h).mp ht, ?_⟩
    calc num * 2 ^ b < 2 ^ (p + 1) * 2 ^ b := Nat.mul_lt_mul_of_pos_right hp2 (Nat.pow_pos Nat.zero_lt_two)
      _ = 2 ^ q * 2 ^ (a + 1) := by rw [← Nat.pow_add, ← Nat.pow_add]; congr 1; omega
      _ ≤ den * 2 ^ (a + 1) := Nat.mul_le_mul_right _ hq1
  · rw [if_neg ht] at h
    have h' : ((a + 1 : Nat) : Int) - b = (p : Int) - q := by omega
    have := (scalePow2_ge_iff num den _ (a + 1) b h').not.mp ht
    refine ⟨?_, by omega⟩
    apply Nat.le_of_lt
    calc den * 2 ^ a < 2 ^ (q + 1) * 2 ^ a := Nat.mul_lt_mul_of_pos_right hq2 (Nat.pow_pos Nat.zero_lt_two)
      _ = 2 ^ p * 2 ^ b := by rw [← Nat.pow_add, ← Nat.pow_add]; congr 1; omega
      _ ≤ num * 2 ^ b := Nat.mul_le_mul_right _ hp1

theorem roundHalfEven_scalePow2 (num den : Nat) (e : Int) (a b : Nat) (h : (a : Int) - b = e) :
    roundHalfEven (scalePow2 num den e).1 (scalePow2 num den e).2 =
      roundHalfEven (num * 2 ^ b) (den * 2 ^ a) := by
  obtain ⟨c, hc, h1, h2⟩ := scalePow2_split num den e a b h
  rw [h1, h2, roundHalfEven_scale _ _ _ hc]

theorem roundHalfEven_le_of_lt (n d c : Nat) (hd : 0 < d) (h : n < c * d) :
    roundHalfEven n d ≤ c := by
  obtain ⟨h1, _, _⟩ := roundHalfEven_spec n d hd
  refine Nat.le_of_not_lt fun hlt => ?_
  have := mul_succ_le_of_lt d hlt
  omega

theorem le_roundHalfEven_of_le (n d c : Nat) (hd : 0 < d) (h : c * d ≤ n) :
    c ≤ roundHalfEven n d := by
  obtain ⟨_, h2, _⟩ := roundHalfEven_spec n d hd
  refine Nat.le_of_not_lt fun hlt => ?_
  have := mul_succ_le_of_lt d hlt
  omega

/-! ## Formats; the value of a pattern in units -/

/-- The formats the theorems are about: at least one fraction bit and two exponent
bits (so that `bias ≥ 1`, `emin ≤ 0`). -/
structure FloatFmt.WF (f : FloatFmt) : Prop where
  mant : 1 ≤ f.mantBits
  exp : 2 ≤ f.expBits

theorem fmt64_wf : fmt64.WF := ⟨by decide, by decide⟩
theorem fmt32_wf : fmt32.WF := ⟨by decide, by decide⟩
theorem fmtOf_wf (bitSize : Nat) : (fmtOf bitSize).WF := by
  unfold fmtOf; split
  · exact fmt32_wf
  · exact fmt64_wf

/-- `-(emin - mantBits)`: the smallest positive subnormal (one *unit*) is `2^(-ushift)`.
1074 for binary64, 149 for binary32. -/
def FloatFmt.ushift (f : FloatFmt) : Nat := f.bias - 1 + f.mantBits

theorem FloatFmt.WF.bias_pos {f : FloatFmt} (hf : f.WF) : 1 ≤ f.bias := by
  unfold FloatFmt.bias
  have : 2 ^ 1 ≤ 2 ^ (f.expBits - 1) := Nat.pow_le_pow_right (by omega) (by have := hf.exp; omega)
  omega

theorem FloatFmt.WF.emin_eq {f : FloatFmt} (hf : f.WF) : f.emin = -((f.bias - 1 : Nat) : Int) := by
  have := hf.bias_pos
  unfold FloatFmt.emin
  omega

theorem signBit_pos (f : FloatFmt) : 0 < f.signBit := Nat.pow_pos Nat.zero_lt_two

theorem infBits_lt_signBit (f : FloatFmt) : f.infBits < f.signBit := by
  unfold FloatFmt.infBits FloatFmt.signBit
  rw [Nat.add_comm, Nat.pow_add]
  have : 0 < 2 ^ f.expBits := Nat.pow_pos Nat.zero_lt_two
  exact Nat.mul_lt_mul_of_pos_right (by omega) (Nat.pow_pos Nat.zero_lt_two)

theorem infBits_even_pos (f : FloatFmt) (hf : f.WF) : 2 ≤ f.infBits ∧ f.infBits % 2 = 0 := by
  have hM : 2 ^ f.mantBits = 2 * 2 ^ (f.mantBits - 1) := by
    rw [← Nat.pow_succ']; congr 1; have := hf.mant; omega
  have hE : 2 ^ 1 ≤ 2 ^ f.expBits := Nat.pow_le_pow_right (by omega) (by have := hf.exp; omega)
  have hp : 0 < 2 ^ (f.mantBits - 1) := Nat.pow_pos Nat.zero_lt_two
  unfold FloatFmt.infBits
  rw [hM]
  generalize 2 ^ (f.mantBits - 1) = P at *
  generalize 2 ^ f.expBits = Q at *
  constructor
  · have : 1 * (2 * P) ≤ (Q - 1) * (2 * P) := Nat.mul_le_mul_right _ (by omega)
    omega
  · rw [Nat.mul_left_comm]; exact Nat.mul_mod_right _ _

/-- The value of the (sign-less) pattern `a` in units of `2^(-ushift)`: the fraction for a
subnormal, `(2^mantBits + fraction) * 2^(exponent field - 1)` otherwise.  Defined for every
natural number (the exponent field is not truncated), strictly increasing. -/
def ulps (f : FloatFmt) (a : Nat) : Nat :=
  if a / 2 ^ f.mantBits = 0 then a % 2 ^ f.mantBits
  else (2 ^ f.mantBits + a % 2 ^ f.mantBits) * 2 ^ (a / 2 ^ f.mantBits - 1)

theorem ulps_zero (f : FloatFmt) : ulps f 0 = 0 := by
  simp [ulps]

theorem ulps_eq (f : FloatFmt) (x r : Nat) (hr : r < 2 ^ f.mantBits) :
    ulps f (x * 2 ^ f.mantBits + r) =
      if x = 0 then r else (2 ^ f.mantBits + r) * 2 ^ (x - 1) := by
  unfold ulps
  rw [Nat.add_comm, Nat.add_mul_div_right _ _ (Nat.pow_pos Nat.zero_lt_two),
    Nat.add_mul_mod_self_right, Nat.div_eq_of_lt hr, Nat.mod_eq_of_lt hr, Nat.zero_add]

theorem ulps_build (f : FloatFmt) (k m : Nat) (hk : k = 0 ∨ 2 ^ f.mantBits ≤ m)
    (hm : m ≤ 2 ^ (f.mantBits + 1)) :
    ulps f (k * 2 ^ f.mantBits + m) = m * 2 ^ k := by
  have hP : 0 < 2 ^ f.mantBits := Nat.pow_pos Nat.zero_lt_two
  rw [Nat.pow_succ] at hm
  by_cases h1 : m < 2 ^ f.mantBits
  · have hk0 : k = 0 := by omega
    rw [hk0, ulps_eq f 0 m h1, if_pos rfl, Nat.pow_zero, Nat.mul_one]
  · by_cases h2 : m < 2 ^ f.mantBits * 2
    · -- the implicit bit of `m` raises the exponent field to `k + 1`
      have e : k * 2 ^ f.mantBits + m = (k + 1) * 2 ^ f.mantBits + (m - 2 ^ f.mantBits) := by
        rw [Nat.add_mul, Nat.one_mul]; omega
      rw [e, ulps_eq f (k + 1) _ (by omega), if_neg (Nat.succ_ne_zero k), Nat.add_sub_cancel,
        Nat.add_sub_cancel' (by omega)]
    · -- carry out of rounding: `m = 2^(mantBits+1)`, exponent field `k + 2`, fraction `0`
      have hm2 : m = 2 ^ f.mantBits * 2 := by omega
      have e : k * 2 ^ f.mantBits + m = (k + 2) * 2 ^ f.mantBits + 0 := by
        rw [Nat.add_mul, hm2, Nat.mul_comm 2]; rfl
      rw [e, ulps_eq f (k + 2) 0 hP, if_neg (by omega), Nat.add_zero, hm2,
        show k + 2 - 1 = k + 1 from rfl, Nat.pow_succ, Nat.mul_assoc, Nat.mul_comm 2]

theorem ulps_strictMono (f : FloatFmt) {a a' : Nat} (h : a < a') : ulps f a < ulps f a' := by
  have hP : 0 < 2 ^ f.mantBits := Nat.pow_pos Nat.zero_lt_two
  have hdiv : a / 2 ^ f.mantBits ≤ a' / 2 ^ f.mantBits := Nat.div_le_div_right (Nat.le_of_lt h)
  have e1 := Nat.div_add_mod a (2 ^ f.mantBits)
  have e2 := Nat.div_add_mod a' (2 ^ f.mantBits)
  have r1 := Nat.mod_lt a hP
  have r2 := Nat.mod_lt a' hP
  unfold ulps
  generalize 2 ^ f.mantBits = P at *
  generalize a / P = x at *
  generalize a' / P = x' at *
  generalize a % P = r at *
  generalize a' % P = r' at *
  rcases Nat.lt_or_eq_of_le hdiv with hx | hx
  · -- different exponent fields: the values are separated by `P * 2 ^ x`
    rw [if_neg (show ¬ x' = 0 by omega)]
    have hup : (if x = 0 then r else (P + r) * 2 ^ (x - 1)) < P * 2 ^ x := by
      split
      · rename_i h0; rw [h0, Nat.pow_zero, Nat.mul_one]; exact r1
      · rename_i h0
        have : 2 ^ x = 2 * 2 ^ (x - 1) := by
          rw [← Nat.pow_succ']; congr 1; omega
        rw [this, ← Nat.mul_assoc]
        exact Nat.mul_lt_mul_of_pos_right (by omega) (Nat.pow_pos Nat.zero_lt_two)
    have hlow : P * 2 ^ x ≤ (P + r') * 2 ^ (x' - 1) :=
      Nat.mul_le_mul (Nat.le_add_right _ _) (Nat.pow_le_pow_right (by omega) (by omega))
    omega
  · subst hx
    have hr : r < r' := by
      have : P * x + r < P * x + r' := by omega
      omega
    split
    · exact hr
    · exact Nat.mul_lt_mul_of_pos_right (by omega) (Nat.pow_pos Nat.zero_lt_two)

theorem ulps_injective (f : FloatFmt) {a a' : Nat} (h : ulps f a = ulps f a') : a = a' := by
  rcases Nat.lt_trichotomy a a' with h1 | h1 | h1
  · have := ulps_strictMono f h1; omega
  · exact h1
  · have := ulps_strictMono f h1; omega

theorem ulps_mono (f : FloatFmt) {a a' : Nat} (h : a ≤ a') : ulps f a ≤ ulps f a' := by
  rcases Nat.lt_or_eq_of_le h with h | h
  · exact Nat.le_of_lt (ulps_strictMono f h)
  · rw [h]

theorem ulps_dvd_or_lt (f : FloatFmt) (a k : Nat) :
    (∃ j, ulps f a = j * 2 ^ k) ∨ ulps f a < 2 ^ (f.mantBits + k) := by
  have hP : 0 < 2 ^ f.mantBits := Nat.pow_pos Nat.zero_lt_two
  have r1 := Nat.mod_lt a hP
  unfold ulps
  rw [Nat.pow_add]
  generalize 2 ^ f.mantBits = P at *
  generalize a / P = x at *
  generalize a % P = r at *
  split
  · right
    exact Nat.lt_of_lt_of_le r1 (Nat.le_mul_of_pos_right _ (Nat.pow_pos Nat.zero_lt_two))
  · by_cases hk : k ≤ x - 1
    · left
      refine ⟨(P + r) * 2 ^ (x - 1 - k), ?_⟩
      rw [Nat.mul_assoc, ← Nat.pow_add]; congr 2; omega
    · right
      -- `(P + r) * 2 ^ (x - 1) < 2 * P * 2 ^ (x - 1) ≤ P * 2 ^ k`
      have : 2 * 2 ^ (x - 1) ≤ 2 ^ k := by
        rw [← Nat.pow_succ']; exact Nat.pow_le_pow_right (by omega) (by omega)
      calc (P + r) * 2 ^ (x - 1) < P * 2 * 2 ^ (x - 1) :=
            Nat.mul_lt_mul_of_pos_right (by omega) (Nat.pow_pos Nat.zero_lt_two)
        _ = P * (2 * 2 ^ (x - 1)) := Nat.mul_assoc ..
        _ ≤ P * 2 ^ k := Nat.mul_le_mul_left _ this

/-! ## The shape of `roundRat` -/

/-- `roundRat` picks an exponent index `k` (`0` for subnormals and the first binade) such
that `num/den`, in units, lies in `[2^(mantBits+k), 2^(mantBits+k+1))` (or just below
`2^(mantBits+1)` when `k = 0`), rounds in steps of `2^k` units, and adds. -/
theorem roundRat_decomp (f : FloatFmt) (hf : f.WF) (num den : Nat) (hn : num ≠ 0) (hd : den ≠ 0) :
    ∃ k, roundRat f num den =
        k * 2 ^ f.mantBits + roundHalfEven (num * 2 ^ f.ushift) (den * 2 ^ k) ∧
      (k = 0 ∨ den * 2 ^ (f.mantBits + k) ≤ num * 2 ^ f.ushift) ∧
      num * 2 ^ f.ushift < den * 2 ^ (f.mantBits + 1 + k) := by
  have hemin := hf.emin_eq
  have hn0 : (num == 0) = false := beq_false_of_ne hn
  have hM : 0 < 2 ^ f.mantBits := Nat.pow_pos Nat.zero_lt_two
  unfold roundRat
  simp only [hn0, Bool.false_eq_true, if_false]
  generalize he2 : floorLog2Rat num den = e2
  have hB : f.ushift = (f.bias - 1) + f.mantBits := rfl
  generalize f.bias - 1 = c at hemin hB
  by_cases hlt : e2 < f.emin
  · rw [if_pos hlt, Int.sub_self, Int.toNat_zero]
    refine ⟨0, ?_, Or.inl rfl, ?_⟩
    · rw [roundHalfEven_scalePow2 num den _ 0 f.ushift (by omega)]
    · -- `num / den < 2 ^ (e2 + 1) ≤ 2 ^ emin`
      obtain ⟨_, h2⟩ := floorLog2Rat_spec num den hn hd 0 (-e2).toNat (by omega)
      have h3 : 2 ^ c * 2 ≤ 2 ^ (-e2).toNat := by
        rw [← Nat.pow_succ]; exact Nat.pow_le_pow_right (by omega) (by omega)
      have h3 := Nat.mul_le_mul_left num h3
      rw [← Nat.mul_assoc] at h3
      calc num * 2 ^ f.ushift = num * 2 ^ c * 2 ^ f.mantBits := by rw [hB, Nat.pow_add, Nat.mul_assoc]
        _ < den * 2 ^ f.mantBits := Nat.mul_lt_mul_of_pos_right (by omega) hM
        _ ≤ den * 2 ^ (f.mantBits + 1 + 0) :=
          Nat.mul_le_mul_left _ (Nat.pow_le_pow_right (by omega) (by omega))
  · rw [if_neg hlt]
    have hk : e2 = (((e2 - f.emin).toNat : Nat) : Int) - c := by omega
    generalize (e2 - f.emin).toNat = k at hk
    obtain ⟨h1, h2⟩ := floorLog2Rat_spec num den hn hd k c (by omega)
    refine ⟨k, ?_, Or.inr ?_, ?_⟩
    · rw [roundHalfEven_scalePow2 num den _ k f.ushift (by omega)]
    · rw [hB, Nat.add_comm f.mantBits k, Nat.pow_add, Nat.pow_add, ← Nat.mul_assoc, ← Nat.mul_assoc]
      exact Nat.mul_le_mul_right _ h1
    · have e : f.mantBits + 1 + k = (k + 1) + f.mantBits := by omega
      rw [hB, e, Nat.pow_add, Nat.pow_add _ (k + 1), ← Nat.mul_assoc, ← Nat.mul_assoc]
      exact Nat.mul_lt_mul_of_pos_right h2 hM

theorem roundRat_signif_bounds (f : FloatFmt) (num den k : Nat) (hd : den ≠ 0)
    (hlo : k = 0 ∨ den * 2 ^ (f.mantBits + k) ≤ num * 2 ^ f.ushift)
    (hhi : num * 2 ^ f.ushift < den * 2 ^ (f.mantBits + 1 + k)) :
    (k = 0 ∨ 2 ^ f.mantBits ≤ roundHalfEven (num * 2 ^ f.ushift) (den * 2 ^ k)) ∧
      roundHalfEven (num * 2 ^ f.ushift) (den * 2 ^ k) ≤ 2 ^ (f.mantBits + 1) := by
  have hD : 0 < den * 2 ^ k := Nat.mul_pos (by omega) (Nat.pow_pos Nat.zero_lt_two)
  constructor
  · rcases hlo with h | h
    · exact Or.inl h
    · right
      apply le_roundHalfEven_of_le _ _ _ hD
      calc 2 ^ f.mantBits * (den * 2 ^ k) = den * 2 ^ (f.mantBits + k) := by rw [Nat.pow_add]; ring
        _ ≤ _ := h
  · apply roundHalfEven_le_of_lt _ _ _ hD
    calc num * 2 ^ f.ushift < den * 2 ^ (f.mantBits + 1 + k) := hhi
      _ = 2 ^ (f.mantBits + 1) * (den * 2 ^ k) := by rw [Nat.pow_add _ (f.mantBits + 1)]; ring

theorem roundRat_zero (f : FloatFmt) (den : Nat) : roundRat f 0 den = 0 := by
  simp [roundRat]

/-! ## Nearest and ties-to-even, in units -/

/-- Core statement, in units of `2^(-ushift)`: the result of `roundRat` is at least as
close to `num/den` as ANY pattern `a'`, and if a different pattern is exactly as close the
result is even. -/
theorem roundRat_core (f : FloatFmt) (hf : f.WF) (num den : Nat) (hd : den ≠ 0) (a' : Nat) :
    adist (ulps f (roundRat f num den) * den) (num * 2 ^ f.ushift) ≤
        adist (ulps f a' * den) (num * 2 ^ f.ushift) ∧
    (a' ≠ roundRat f num den →
      adist (ulps f a' * den) (num * 2 ^ f.ushift) =
        adist (ulps f (roundRat f num den) * den) (num * 2 ^ f.ushift) →
      roundRat f num den % 2 = 0) := by
  by_cases hn : num = 0
  · subst hn
    rw [roundRat_zero, ulps_zero, Nat.zero_mul, Nat.zero_mul, adist_eq_zero.mpr rfl]
    exact ⟨Nat.zero_le _, fun _ _ => rfl⟩
  obtain ⟨k, hr, hlo, hhi⟩ := roundRat_decomp f hf num den hn hd
  obtain ⟨hb1, hb2⟩ := roundRat_signif_bounds f num den k hd hlo hhi
  have hu := ulps_build f k _ hb1 hb2
  have hD : 0 < den * 2 ^ k := Nat.mul_pos (Nat.pos_of_ne_zero hd) (Nat.pow_pos Nat.zero_lt_two)
  have near := roundHalfEven_nearest (num * 2 ^ f.ushift) _ hD
  have tie := roundHalfEven_tie_even (num * 2 ^ f.ushift) _ hD
  have hPm := le_roundHalfEven_of_le (num * 2 ^ f.ushift) _ (2 ^ f.mantBits) hD
  have hpar : roundRat f num den % 2 = roundHalfEven (num * 2 ^ f.ushift) (den * 2 ^ k) % 2 := by
    have : 2 ^ f.mantBits = 2 * 2 ^ (f.mantBits - 1) := by
      rw [← Nat.pow_succ']; congr 1; have := hf.mant; omega
    rw [hr, this, ← Nat.mul_assoc, Nat.mul_comm k 2, Nat.mul_assoc, Nat.mul_add_mod]
  rw [hpar, show ulps f (roundRat f num den) * den =
      roundHalfEven (num * 2 ^ f.ushift) (den * 2 ^ k) * (den * 2 ^ k) by
    rw [hr, hu, Nat.mul_assoc, Nat.mul_comm (2 ^ k)]]
  generalize roundHalfEven (num * 2 ^ f.ushift) (den * 2 ^ k) = m at *
  generalize num * 2 ^ f.ushift = N at *
  -- a competitor whose value is a multiple of the step `2 ^ k`
  have caseA : ∀ j, ulps f a' = j * 2 ^ k →
      adist (m * (den * 2 ^ k)) N ≤ adist (ulps f a' * den) N ∧
      (a' ≠ roundRat f num den → adist (ulps f a' * den) N = adist (m * (den * 2 ^ k)) N →
        m % 2 = 0) := by
    intro j hj
    rw [show ulps f a' * den = j * (den * 2 ^ k) by rw [hj, Nat.mul_assoc, Nat.mul_comm (2 ^ k)]]
    refine ⟨near j, fun hne => tie j (fun hjm => hne (ulps_injective f ?_))⟩
    rw [hj, hr, hu, hjm]
  rcases hlo with hk0 | hle
  · subst hk0
    exact caseA (ulps f a') (by rw [Nat.pow_zero, Nat.mul_one])
  · rcases ulps_dvd_or_lt f a' k with ⟨j, hj⟩ | hlt
    · exact caseA j hj
    · -- a competitor below the binade `[2^(mantBits+k), …)` of `num/den`: strictly farther
      -- than the binade's lower end, which is a multiple of the step
      have e : 2 ^ f.mantBits * (den * 2 ^ k) = den * 2 ^ (f.mantBits + k) := by
        rw [Nat.pow_add, Nat.mul_left_comm]
      have h1 := near (2 ^ f.mantBits)
      have hCA := Nat.mul_le_mul_right (den * 2 ^ k) (hPm (by rw [e]; exact hle))
      rw [e] at h1 hCA
      have hBC : ulps f a' * den < den * 2 ^ (f.mantBits + k) := by
        rw [Nat.mul_comm]; exact Nat.mul_lt_mul_of_pos_left hlt (Nat.pos_of_ne_zero hd)
      have hBA := Nat.lt_of_lt_of_le hBC hCA
      have hlt2 := lt_mid_of_below hBC hCA hle h1
      exact ⟨(adist_le_iff_of_lt hBA _).mpr (Nat.le_of_lt hlt2),
        fun _ ht => absurd ((adist_eq_iff_of_lt hBA _).mp ht) (Nat.ne_of_lt hlt2)⟩

/-! ## `finiteToRat` in units -/

theorem expOf_eq (f : FloatFmt) (a : Nat) (ha : a < f.signBit) : f.expOf a = a / 2 ^ f.mantBits := by
  unfold FloatFmt.expOf
  apply Nat.mod_eq_of_lt
  rw [Nat.div_lt_iff_lt_mul (Nat.pow_pos Nat.zero_lt_two), ← Nat.pow_add, Nat.add_comm]
  exact ha

theorem finiteToRat_ulps (f : FloatFmt) (hf : f.WF) (a : Nat) (ha : a < f.signBit) :
    (finiteToRat f a).1 * 2 ^ f.ushift = ulps f a * (finiteToRat f a).2 ∧
      0 < (finiteToRat f a).2 := by
  have hemin := hf.emin_eq
  have hbias := hf.bias_pos
  have hM := hf.mant
  have hB : f.ushift = (f.bias - 1) + f.mantBits := rfl
  unfold finiteToRat ulps
  simp only [expOf_eq f a ha, FloatFmt.fracOf]
  generalize a / 2 ^ f.mantBits = x
  generalize a % 2 ^ f.mantBits = r
  by_cases hx : x = 0
  · subst hx
    have hneg : ¬ (f.emin - (f.mantBits : Int) ≥ 0) := by omega
    have hB' : (-(f.emin - (f.mantBits : Int))).toNat = f.ushift := by omega
    simp only [beq_self_eq_true, if_true]
    rw [if_neg hneg, hB']
    exact ⟨rfl, Nat.pow_pos Nat.zero_lt_two⟩
  · have hx0 : (x == 0) = false := by simpa using hx
    simp only [hx0, hx, Bool.false_eq_true, if_false]
    by_cases he : ((x : Int) - (f.bias : Int)) - (f.mantBits : Int) ≥ 0
    · rw [if_pos he]
      have : (((x : Int) - (f.bias : Int)) - (f.mantBits : Int)).toNat + f.ushift = x - 1 := by omega
      simp only [Nat.mul_one, Nat.mul_assoc, ← Nat.pow_add, this]
      decide
    · rw [if_neg he]
      have : (x - 1) + (-(((x : Int) - (f.bias : Int)) - (f.mantBits : Int))).toNat = f.ushift := by omega
      simp only [Nat.mul_assoc, ← Nat.pow_add, this]
      exact ⟨trivial, Nat.pow_pos Nat.zero_lt_two⟩

/-- `|p - x| ≤ |q - x|` for fractions `(numerator, denominator)` of naturals with positive
denominators, cross-multiplied (no division). -/
def ratDistLe (x p q : Nat × Nat) : Prop :=
  adist (p.1 * x.2) (x.1 * p.2) * q.2 ≤ adist (q.1 * x.2) (x.1 * q.2) * p.2

/-- `|p - x| = |q - x|`, cross-multiplied. -/
def ratDistEq (x p q : Nat × Nat) : Prop :=
  adist (p.1 * x.2) (x.1 * p.2) * q.2 = adist (q.1 * x.2) (x.1 * q.2) * p.2

theorem finiteToRat_dist (f : FloatFmt) (hf : f.WF) (num den a : Nat) (ha : a < f.signBit) :
    adist ((finiteToRat f a).1 * den) (num * (finiteToRat f a).2) * 2 ^ f.ushift =
      adist (ulps f a * den) (num * 2 ^ f.ushift) * (finiteToRat f a).2 := by
  obtain ⟨h, _⟩ := finiteToRat_ulps f hf a ha
  rw [← adist_mul_right, ← adist_mul_right]
  congr 1
  · calc (finiteToRat f a).1 * den * 2 ^ f.ushift = (finiteToRat f a).1 * 2 ^ f.ushift * den := by ring
      _ = ulps f a * den * (finiteToRat f a).2 := by rw [h]; ring
  · ring

/-- The distance of `num/den` to the pattern `a`, cross-multiplied as in `ratDistLe`/`ratDistEq`
and scaled by any `q`, is the distance in units times `(finiteToRat f a).2 * q`. -/
theorem ratDist_ulps (f : FloatFmt) (hf : f.WF) (num den a : Nat) (ha : a < f.signBit) (q : Nat) :
    adist ((finiteToRat f a).1 * den) (num * (finiteToRat f a).2) * q * 2 ^ f.ushift =
      adist (ulps f a * den) (num * 2 ^ f.ushift) * ((finiteToRat f a).2 * q) := by
  rw [Nat.mul_right_comm, finiteToRat_dist f hf num den a ha, Nat.mul_right_comm, Nat.mul_assoc,
    Nat.mul_comm q]

theorem ratDistLe_iff_ulps (f : FloatFmt) (hf : f.WF) (num den a b : Nat)
    (ha : a < f.signBit) (hb : b < f.signBit) :
    ratDistLe (num, den) (finiteToRat f a) (finiteToRat f b) ↔
      adist (ulps f a * den) (num * 2 ^ f.ushift) ≤ adist (ulps f b * den) (num * 2 ^ f.ushift) := by
  obtain ⟨_, pa⟩ := finiteToRat_ulps f hf a ha
  obtain ⟨_, pb⟩ := finiteToRat_ulps f hf b hb
  unfold ratDistLe
  rw [← Nat.mul_le_mul_right_iff (Nat.pow_pos (Nat.zero_lt_two) : 0 < 2 ^ f.ushift),
    ratDist_ulps f hf num den a ha, ratDist_ulps f hf num den b hb,
    Nat.mul_comm (finiteToRat f b).2]
  exact Nat.mul_le_mul_right_iff (Nat.mul_pos pa pb)

theorem ratDistEq_iff_ulps (f : FloatFmt) (hf : f.WF) (num den a b : Nat)
    (ha : a < f.signBit) (hb : b < f.signBit) :
    ratDistEq (num, den) (finiteToRat f a) (finiteToRat f b) ↔
      adist (ulps f a * den) (num * 2 ^ f.ushift) = adist (ulps f b * den) (num * 2 ^ f.ushift) := by
  obtain ⟨_, pa⟩ := finiteToRat_ulps f hf a ha
  obtain ⟨_, pb⟩ := finiteToRat_ulps f hf b hb
  unfold ratDistEq
  rw [← Nat.mul_left_inj (Nat.ne_of_gt (Nat.pow_pos Nat.zero_lt_two) : 2 ^ f.ushift ≠ 0),
    ratDist_ulps f hf num den a ha, ratDist_ulps f hf num den b hb,
    Nat.mul_comm (finiteToRat f b).2]
  exact Nat.mul_left_inj (Nat.ne_of_gt (Nat.mul_pos pa pb))

/-! ## The specification of `roundRat` -/

theorem roundRat_finite_nearest (f : FloatFmt) (hf : f.WF) (num den : Nat) (hd : den ≠ 0)
    (hfin : roundRat f num den < f.infBits) (b' : Nat) (hb' : b' < f.infBits) :
    ratDistLe (num, den) (finiteToRat f (roundRat f num den)) (finiteToRat f b') := by
  have hs := infBits_lt_signBit f
  rw [ratDistLe_iff_ulps f hf num den _ _ (by omega) (by omega)]
  exact (roundRat_core f hf num den hd b').1

theorem roundRat_ties_even (f : FloatFmt) (hf : f.WF) (num den : Nat) (hd : den ≠ 0)
    (hfin : roundRat f num den < f.infBits) (b' : Nat) (hb' : b' < f.infBits)
    (hne : b' ≠ roundRat f num den)
    (htie : ratDistEq (num, den) (finiteToRat f b') (finiteToRat f (roundRat f num den))) :
    f.fracOf (roundRat f num den) % 2 = 0 := by
  have hs := infBits_lt_signBit f
  rw [ratDistEq_iff_ulps f hf num den _ _ (by omega) (by omega)] at htie
  have := (roundRat_core f hf num den hd b').2 hne htie
  unfold FloatFmt.fracOf
  rw [Nat.mod_mod_of_dvd _ (dvd_pow_self 2 (by have := hf.mant; omega))]
  exact this

/-- **Exactness.**  If `num/den` is the value of the pattern `b` (any sign-less pattern,
in particular any finite one), the result is `b`. -/
theorem roundRat_exact (f : FloatFmt) (hf : f.WF) (num den : Nat) (hd : den ≠ 0)
    (b : Nat) (hb : b < f.signBit)
    (hval : num * (finiteToRat f b).2 = (finiteToRat f b).1 * den) :
    roundRat f num den = b := by
  obtain ⟨h, hp⟩ := finiteToRat_ulps f hf b hb
  have h1 := (roundRat_core f hf num den hd b).1
  have h2 : ulps f b * den = num * 2 ^ f.ushift := by
    apply Nat.eq_of_mul_eq_mul_right hp
    calc ulps f b * den * (finiteToRat f b).2 = (ulps f b * (finiteToRat f b).2) * den := by ring
      _ = (finiteToRat f b).1 * den * 2 ^ f.ushift := by rw [← h]; ring
      _ = num * 2 ^ f.ushift * (finiteToRat f b).2 := by rw [← hval]; ring
  rw [h2, adist_eq_zero.mpr rfl, Nat.le_zero, adist_eq_zero, ← h2] at h1
  exact ulps_injective f (Nat.eq_of_mul_eq_mul_right (by omega) h1)

/-- **Which patterns the result reaches.**  `a ≤ roundRat f num den` iff `num/den` is at or
above the midpoint of the values of the patterns `a - 1` and `a`, and `a` is the even one of
the two if it is exactly the midpoint (units of `2^(-ushift)`). -/
theorem le_roundRat_iff (f : FloatFmt) (hf : f.WF) (num den : Nat) (hd : den ≠ 0) (a : Nat)
    (ha : 0 < a) :
    a ≤ roundRat f num den ↔
      (ulps f (a - 1) + ulps f a) * den ≤ 2 * (num * 2 ^ f.ushift) ∧
      ((ulps f (a - 1) + ulps f a) * den = 2 * (num * 2 ^ f.ushift) → a % 2 = 0) := by
  have hd0 : 0 < den := Nat.pos_of_ne_zero hd
  have val_lt : ∀ {b c}, b < c → ulps f b * den < ulps f c * den := fun h =>
    Nat.mul_lt_mul_of_pos_right (ulps_strictMono f h) hd0
  have val_inj : ∀ {b c}, ulps f b * den = ulps f c * den → b = c := fun h =>
    ulps_injective f (Nat.eq_of_mul_eq_mul_right hd0 h)
  have hmi := val_lt (show a - 1 < a by omega)
  rw [Nat.add_mul]
  constructor
  · -- the result `r ≥ a` is at least as close as `a - 1`: `x` is at or above the midpoint of
    -- `a - 1` and `r`; if it is the midpoint of `a - 1` and `a`, then `r = a` and this is a tie
    intro h
    obtain ⟨hc, htie⟩ := roundRat_core f hf num den hd (a - 1)
    have hmr := val_lt (show a - 1 < roundRat f num den by omega)
    rw [adist_le_iff_of_lt hmr] at hc
    rw [adist_eq_iff_of_lt hmr] at htie
    have hir : ulps f a * den ≤ ulps f (roundRat f num den) * den :=
      Nat.mul_le_mul_right _ (ulps_mono f h)
    refine ⟨Nat.le_trans (Nat.add_le_add_left hir _) hc, fun he => ?_⟩
    have hra : a = roundRat f num den := val_inj (by omega)
    rw [hra]
    exact htie (by omega) (by omega)
  · -- a result `r ≤ a - 1` is at least as close as `a`: `x` is at or below the midpoint of `r`
    -- and `a`; so `r = a - 1`, `x` is that midpoint, a tie: `r` and `a` would both be even
    intro ⟨hle, hev⟩
    refine Nat.le_of_not_lt fun hcon => ?_
    obtain ⟨hc, htie⟩ := roundRat_core f hf num den hd a
    have hri := val_lt (show roundRat f num den < a by omega)
    rw [adist_ge_iff_of_lt hri] at hc
    have hrm : ulps f (roundRat f num den) * den ≤ ulps f (a - 1) * den :=
      Nat.mul_le_mul_right _ (ulps_mono f (by omega))
    have hra : roundRat f num den = a - 1 := val_inj (by omega)
    have := htie (by omega) ((adist_eq_iff_of_lt hri _).mpr (by omega)).symm
    have := hev (by omega)
    omega

/-- The condition of `le_roundRat_iff` passes from `n1/d1` to any `n2/d2 ≥ n1/d1`, and with
equality only if it held with equality before. -/
theorem mid_le_of_le {S n1 d1 n2 d2 U : Nat} (hd1 : 0 < d1) (hd2 : 0 < d2)
    (h : n1 * d2 ≤ n2 * d1) (h1 : S * d1 ≤ 2 * (n1 * U)) :
    S * d2 ≤ 2 * (n2 * U) ∧ (S * d2 = 2 * (n2 * U) → S * d1 = 2 * (n1 * U)) := by
  have e1 : S * d2 * d1 = S * d1 * d2 := Nat.mul_right_comm ..
  have e2 : 2 * (n1 * U) * d2 = 2 * (n1 * d2 * U) := by ring
  have e3 : 2 * (n2 * d1 * U) = 2 * (n2 * U) * d1 := by ring
  have s1 : S * d1 * d2 ≤ 2 * (n1 * U) * d2 := Nat.mul_le_mul_right _ h1
  have s2 : 2 * (n1 * d2 * U) ≤ 2 * (n2 * d1 * U) := Nat.mul_le_mul_left _ (Nat.mul_le_mul_right _ h)
  refine ⟨Nat.le_of_mul_le_mul_right (by omega) hd1, fun he => ?_⟩
  rw [he] at e1
  exact Nat.eq_of_mul_eq_mul_right hd2 (by omega)

/-- **Overflow.**  The result reaches the exponent-all-ones range exactly when `num/den` is
at least the midpoint of the largest finite value and `2^(emax+1)`, i.e.
`num/den ≥ maxFinite + half an ulp` (the midpoint itself overflows: the largest finite
pattern is odd).  Stated in units of `2^(-ushift)`. -/
theorem roundRat_overflow_iff (f : FloatFmt) (hf : f.WF) (num den : Nat) (hd : den ≠ 0) :
    f.infBits ≤ roundRat f num den ↔
      (ulps f (f.infBits - 1) + ulps f f.infBits) * den ≤ 2 * (num * 2 ^ f.ushift) := by
  obtain ⟨h2, hev⟩ := infBits_even_pos f hf
  rw [le_roundRat_iff f hf num den hd _ (by omega)]
  exact ⟨fun h => h.1, fun h => ⟨h, fun _ => hev⟩⟩

/-- The overflow threshold as a number: with `T * 2^(u+1)` the sum of the two border values in
units of `2^(-u)`, overflow iff `num/den ≥ T`. -/
theorem roundRat_overflow_iff_threshold (f : FloatFmt) (hf : f.WF) (T u : Nat) (hu : f.ushift = u)
    (hT : ulps f (f.infBits - 1) + ulps f f.infBits = T * 2 ^ (u + 1)) (num den : Nat)
    (hd : den ≠ 0) : f.infBits ≤ roundRat f num den ↔ T * den ≤ num := by
  rw [roundRat_overflow_iff f hf num den hd, hT, hu, Nat.mul_left_comm, Nat.mul_comm 2,
    ← Nat.pow_succ, Nat.mul_right_comm,
    Nat.mul_le_mul_right_iff (Nat.pow_pos Nat.zero_lt_two)]

/-- binary64: overflow iff `num/den ≥ (2^54 - 1) * 2^970` (`= MaxFloat64 + 2^970`). -/
theorem roundRat64_overflow_iff (num den : Nat) (hd : den ≠ 0) :
    fmt64.infBits ≤ roundRat fmt64 num den ↔ (2 ^ 54 - 1) * 2 ^ 970 * den ≤ num :=
  roundRat_overflow_iff_threshold fmt64 fmt64_wf _ 1074 (by decide) (by decide +kernel) num den hd

/-- binary32: overflow iff `num/den ≥ (2^25 - 1) * 2^103` (`= MaxFloat32 + 2^103`). -/
theorem roundRat32_overflow_iff (num den : Nat) (hd : den ≠ 0) :
    fmt32.infBits ≤ roundRat fmt32 num den ↔ (2 ^ 25 - 1) * 2 ^ 103 * den ≤ num :=
  roundRat_overflow_iff_threshold fmt32 fmt32_wf _ 149 (by decide) (by decide +kernel) num den hd
theorem roundRat_monotone (f : FloatFmt) (hf : f.WF) (n1 d1 n2 d2 : Nat) (hd1 : d1 ≠ 0)
    (hd2 : d2 ≠ 0) (h : n1 * d2 ≤ n2 * d1) : roundRat f n1 d1 ≤ roundRat f n2 d2 := by
  rcases Nat.eq_zero_or_pos (roundRat f n1 d1) with h0 | hpos
  · rw [h0]; exact Nat.zero_le _
  · obtain ⟨h1, hev⟩ := (le_roundRat_iff f hf n1 d1 hd1 _ hpos).mp (Nat.le_refl _)
    obtain ⟨h2, he⟩ := mid_le_of_le (Nat.pos_of_ne_zero hd1) (Nat.pos_of_ne_zero hd2) h h1
    exact (le_roundRat_iff f hf n2 d2 hd2 _ hpos).mpr ⟨h2, fun e => hev (he e)⟩

/-! ## Patterns with a sign -/

def sgn (neg : Bool) : Int := if neg then -1 else 1

/-- `|(-1)^ps * p.1/p.2 - (-1)^xs * x.1/x.2|` times `p.2 * x.2` (cross-multiplied signed distance). -/
def sdist (xs : Bool) (x : Nat × Nat) (ps : Bool) (p : Nat × Nat) : Nat :=
  (sgn ps * (p.1 : Int) * (x.2 : Int) - sgn xs * (x.1 : Int) * (p.2 : Int)).natAbs

theorem sdist_same (s : Bool) (x p : Nat × Nat) :
    sdist s x s p = adist (p.1 * x.2) (x.1 * p.2) := by
  unfold sdist sgn adist
  cases s <;> first | (simp; done) | (simp; omega)

theorem sdist_diff (s s' : Bool) (h : s ≠ s') (x p : Nat × Nat) :
    sdist s x s' p = p.1 * x.2 + x.1 * p.2 := by
  unfold sdist sgn
  cases s <;> cases s' <;> simp at h ⊢ <;> omega

def patNeg (f : FloatFmt) (b : Nat) : Bool := f.signOf b == 1
/-- Magnitude of a (finite) pattern as a fraction. -/
def patMag (f : FloatFmt) (b : Nat) : Nat × Nat := finiteToRat f (f.absOf b)
/-- A pattern of the format's width whose exponent field is not all ones. -/
def isFinitePat (f : FloatFmt) (b : Nat) : Prop := b < 2 * f.signBit ∧ f.absOf b < f.infBits

def withSign (f : FloatFmt) (neg : Bool) (a : Nat) : Nat := if neg then f.signBit + a else a

theorem absOf_withSign (f : FloatFmt) (neg : Bool) (a : Nat) (ha : a < f.signBit) :
    f.absOf (withSign f neg a) = a := by
  unfold withSign FloatFmt.absOf
  cases neg
  · simpa using Nat.mod_eq_of_lt ha
  · simp only [if_true]
    rw [Nat.add_mod_left]; exact Nat.mod_eq_of_lt ha

theorem patNeg_withSign (f : FloatFmt) (neg : Bool) (a : Nat) (ha : a < f.signBit) :
    patNeg f (withSign f neg a) = neg := by
  unfold withSign patNeg FloatFmt.signOf
  have e : 2 ^ (f.mantBits + f.expBits) = f.signBit := rfl
  rw [e]
  cases neg
  · simp [Nat.div_eq_of_lt ha]
  · simp only [if_true]
    rw [Nat.add_div_left _ (signBit_pos f), Nat.div_eq_of_lt ha]
    rfl

theorem withSign_lt (f : FloatFmt) (neg : Bool) (a : Nat) (ha : a < f.signBit) :
    withSign f neg a < 2 * f.signBit := by
  unfold withSign; cases neg <;> simp <;> omega

theorem withSign_decomp (f : FloatFmt) (b : Nat) (hb : b < 2 * f.signBit) :
    b = withSign f (patNeg f b) (f.absOf b) := by
  unfold withSign patNeg FloatFmt.signOf FloatFmt.absOf
  have e : 2 ^ (f.mantBits + f.expBits) = f.signBit := rfl
  rw [e]
  have hS := signBit_pos f
  have h1 := Nat.div_add_mod b f.signBit
  have h2 : b / f.signBit < 2 := (Nat.div_lt_iff_lt_mul hS).mpr hb
  generalize f.signBit = S at *
  generalize b / S = q at *
  generalize b % S = r at *
  have : q = 0 ∨ q = 1 := by omega
  rcases this with rfl | rfl <;> simp at h1 ⊢ <;> omega

theorem fracOf_withSign (f : FloatFmt) (neg : Bool) (a : Nat) :
    f.fracOf (withSign f neg a) = f.fracOf a := by
  unfold withSign FloatFmt.fracOf FloatFmt.signBit
  cases neg
  · simp
  · simp only [if_true]
    rw [Nat.pow_add, Nat.add_comm, Nat.add_mul_mod_self_left]

/-- A finite result is no farther from `num/den` than zero is. -/
theorem roundRat_dist_le_self (f : FloatFmt) (hf : f.WF) (num den : Nat) (hd : den ≠ 0)
    (hfin : roundRat f num den < f.infBits) :
    adist ((finiteToRat f (roundRat f num den)).1 * den)
      (num * (finiteToRat f (roundRat f num den)).2) ≤ num * (finiteToRat f (roundRat f num den)).2 := by
  have hs := infBits_lt_signBit f
  have h1 := finiteToRat_dist f hf num den (roundRat f num den) (by omega)
  have h2 := (roundRat_core f hf num den hd 0).1
  rw [ulps_zero, Nat.zero_mul] at h2
  have h3 : adist 0 (num * 2 ^ f.ushift) = num * 2 ^ f.ushift := by simp [adist_def]
  rw [h3] at h2
  have hU : 0 < 2 ^ f.ushift := Nat.pow_pos Nat.zero_lt_two
  apply Nat.le_of_mul_le_mul_right _ hU
  rw [h1]
  calc _ ≤ num * 2 ^ f.ushift * (finiteToRat f (roundRat f num den)).2 := Nat.mul_le_mul_right _ h2
    _ = _ := by ring

theorem finiteToRat_zero_num (f : FloatFmt) (hf : f.WF) : (finiteToRat f 0).1 = 0 := by
  obtain ⟨h, _⟩ := finiteToRat_ulps f hf 0 (signBit_pos f)
  rw [ulps_zero, Nat.zero_mul] at h
  have hU : 0 < 2 ^ f.ushift := Nat.pow_pos Nat.zero_lt_two
  rcases Nat.mul_eq_zero.mp h with h | h
  · exact h
  · omega

/-- **Nearest, signed.**  A finite `withSign neg (roundRat num den)` is at least as close to
`(-1)^neg * num/den` as every finite pattern of the format, of either sign. -/
theorem roundRat_signed_nearest (f : FloatFmt) (hf : f.WF) (neg : Bool) (num den : Nat)
    (hd : den ≠ 0) (hfin : roundRat f num den < f.infBits) (b' : Nat) (hb' : isFinitePat f b') :
    sdist neg (num, den) (patNeg f (withSign f neg (roundRat f num den)))
        (patMag f (withSign f neg (roundRat f num den))) * (patMag f b').2 ≤
      sdist neg (num, den) (patNeg f b') (patMag f b') *
        (patMag f (withSign f neg (roundRat f num den))).2 := by
  have hs := infBits_lt_signBit f
  unfold patMag
  rw [patNeg_withSign f neg _ (by omega), absOf_withSign f neg _ (by omega), sdist_same]
  by_cases hsg : neg = patNeg f b'
  · rw [← hsg, sdist_same]
    exact roundRat_finite_nearest f hf num den hd hfin _ hb'.2
  · rw [sdist_diff _ _ hsg]
    have h1 := roundRat_dist_le_self f hf num den hd hfin
    simp only
    calc _ ≤ num * (finiteToRat f (roundRat f num den)).2 * (finiteToRat f (f.absOf b')).2 :=
          Nat.mul_le_mul_right _ h1
      _ = num * (finiteToRat f (f.absOf b')).2 * (finiteToRat f (roundRat f num den)).2 := by ring
      _ ≤ _ := Nat.mul_le_mul_right _ (Nat.le_add_left _ _)

theorem roundRat_signed_ties_even (f : FloatFmt) (hf : f.WF) (neg : Bool) (num den : Nat)
    (hd : den ≠ 0) (hfin : roundRat f num den < f.infBits) (b' : Nat) (hb' : isFinitePat f b')
    (hne : b' ≠ withSign f neg (roundRat f num den))
    (htie : sdist neg (num, den) (patNeg f b') (patMag f b') *
        (patMag f (withSign f neg (roundRat f num den))).2 =
      sdist neg (num, den) (patNeg f (withSign f neg (roundRat f num den)))
        (patMag f (withSign f neg (roundRat f num den))) * (patMag f b').2) :
    f.fracOf (withSign f neg (roundRat f num den)) % 2 = 0 := by
  have hs := infBits_lt_signBit f
  rw [fracOf_withSign]
  unfold patMag at htie
  rw [patNeg_withSign f neg _ (by omega), absOf_withSign f neg _ (by omega), sdist_same] at htie
  by_cases hsg : neg = patNeg f b'
  · rw [← hsg, sdist_same] at htie
    apply roundRat_ties_even f hf num den hd hfin (f.absOf b') hb'.2 _ htie
    intro he
    apply hne
    rw [withSign_decomp f b' hb'.1, ← hsg, he]
  · -- `b'` has the other sign: its distance is the SUM of the two magnitudes, the result's is at
    -- most the magnitude of `num/den` (`roundRat_dist_le_self`); a tie forces `b'` to be a zero and
    -- the result to be exactly as far as `0`, i.e. a tie with the pattern `0`
    rw [sdist_diff _ _ hsg] at htie
    simp only at htie
    have h1 := roundRat_dist_le_self f hf num den hd hfin
    obtain ⟨_, pd⟩ := finiteToRat_ulps f hf (roundRat f num den) (by omega)
    obtain ⟨_, pd'⟩ := finiteToRat_ulps f hf (f.absOf b') (by have := hb'.2; omega)
    by_cases h0 : roundRat f num den = 0
    · rw [h0]; simp [FloatFmt.fracOf]
    · apply roundRat_ties_even f hf num den hd hfin 0 (by omega) (fun h => h0 h.symm)
      unfold ratDistEq
      simp only [finiteToRat_zero_num f hf, Nat.zero_mul]
      have h3 : ∀ t, adist 0 t = t := fun t => by simp [adist_def]
      rw [h3]
      generalize (finiteToRat f (roundRat f num den)).2 = d at *
      generalize (finiteToRat f (roundRat f num den)).1 = n at *
      generalize (finiteToRat f (f.absOf b')).2 = d' at *
      generalize (finiteToRat f (f.absOf b')).1 = n' at *
      generalize (finiteToRat f 0).2 = d0 at *
      have h2 : adist (n * den) (num * d) * d' ≤ num * d * d' := Nat.mul_le_mul_right _ h1
      have h4 : (n' * den + num * d') * d = n' * den * d + num * d * d' := by ring
      have h5 : adist (n * den) (num * d) * d' = num * d * d' := by omega
      have h6 := Nat.eq_of_mul_eq_mul_right pd' h5
      rw [h6]; ring

/-! ## `readFloat`: a sign in front -/

theorem expChar_facts (c : UInt8) (h : isE c = true) :
    isX c = false ∧ (c == underscore) = false ∧ (c == 0x2E) = false ∧ (c == 0x2B) = false ∧
    (c == 0x2D) = false ∧ isDecDigit c = false := by
  rcases Bool.or_eq_true_iff.mp h with h | h <;> rw [eq_of_beq h] <;> decide

def AllDec (xs : GoString) : Prop := ∀ c ∈ xs, isDecDigit c = true

/-- Value of a string of decimal digits (leading zeros allowed). -/
def decVal (xs : GoString) : Nat := xs.foldl (fun n c => n * 10 + (c.toNat - 0x30)) 0

theorem underscoreOK_signed (sg c : UInt8) (t : GoString) (hsg : sg = 0x2B ∨ sg = 0x2D)
    (hp : (c == 0x2B) = false) (hm : (c == 0x2D) = false) :
    underscoreOK (sg :: c :: t) = underscoreOK (c :: t) := by
  have h1 : (sg == 0x2D || sg == 0x2B) = true := by rcases hsg with rfl | rfl <;> rfl
  unfold underscoreOK
  simp only [h1, hp, hm, Bool.or_self, if_true, Bool.false_eq_true, if_false]

-- the proof abstracts the hex-prefix test by its matcher's name, `readFloat.match_1`
set_option linter.auxLemma false in
theorem readFloat_signed (sg c : UInt8) (t : GoString) (hsg : sg = 0x2B ∨ sg = 0x2D)
    (hp : (c == 0x2B) = false) (hm : (c == 0x2D) = false) :
    readFloat (sg :: c :: t) = (readFloat (c :: t)).map (fun r => { r with neg := sg == 0x2D }) := by
  have hu : (sg :: c :: t).contains underscore = (c :: t).contains underscore := by
    rcases hsg with rfl | rfl <;> rfl
  have hs1 : (sg == 0x2B || sg == 0x2D) = true := by rcases hsg with rfl | rfl <;> rfl
  unfold readFloat
  simp only [hs1, hp, hm, Bool.or_self, if_true, Bool.false_eq_true, if_false, hu,
    underscoreOK_signed sg c t hsg hp hm]
  generalize readFloat.match_1 _ _ _ _ = hb
  generalize scanMant hb.isSome (hb.getD (c :: t)) {} = sr
  generalize ((c :: t).contains underscore && !underscoreOK (c :: t)) = uo
  -- both sides are the same decision tree; `Option.map` moves to its leaves
  cases sr.2 with
  | nil => simp only [apply_ite (Option.map _), Option.map_none, Option.map_some]
  | cons e rest =>
    simp only []
    rcases scanExp rest with _ | er <;>
      simp only [apply_ite (Option.map _), Option.map_none, Option.map_some]

/-! ## `special` and `readFloat` are disjoint -/

theorem infNanLetter_facts (c : UInt8) (h : (c == 0x69 || c == 0x49 || c == 0x6E || c == 0x4E) = true) :
    (c == 0x2B) = false ∧ (c == 0x2D) = false ∧ (c == underscore) = false ∧ (c == 0x2E) = false ∧
    isDecDigit c = false ∧ (c == 0x30) = false := by
  simp only [Bool.or_eq_true] at h
  rcases h with ((h | h) | h) | h <;> rw [eq_of_beq h] <;> decide

/-- Only `i` and `I` fold to `i` (`c + 0x20 = 0x69` has the one solution `0x49`). -/
theorem foldCase_eq_i (c : UInt8)
    (h : ((if 0x41 ≤ c && c ≤ 0x5A then c + 0x20 else c) == 0x69) = true) :
    (c == 0x69 || c == 0x49) = true := by
  split at h
  · have : c = 0x69 - 0x20 := by rw [← eq_of_beq h, UInt8.add_sub_cancel]
    rw [this]; rfl
  · rw [h]; rfl

theorem readFloat_letter (c : UInt8) (t : GoString)
    (hc : (c == 0x69 || c == 0x49 || c == 0x6E || c == 0x4E) = true) : readFloat (c :: t) = none := by
  obtain ⟨hp, hm, hu, hdot, hdig, h0⟩ := infNanLetter_facts c hc
  unfold readFloat
  simp only [hp, hm, Bool.or_self, Bool.false_eq_true, if_false]
  rw [hexBody_none fun x d r heq => by rw [(List.cons.inj heq).1] at h0; cases h0]
  have hscan : scanMant false (c :: t) {} = ({}, c :: t) := by
    simp [scanMant, hu, hdot, hdig]
  simp [hscan]

theorem specialInf_some (s : GoString) (neg : Bool) (k : Nat) (x : Special × Nat)
    (h : specialInf s neg k = some x) :
    ∃ c t, s = c :: t ∧ (c == 0x69 || c == 0x49) = true := by
  cases s with
  | nil => simp [specialInf, commonPrefixLenIgnoreCase] at h
  | cons c t =>
    refine ⟨c, t, rfl, ?_⟩
    apply foldCase_eq_i
    apply Decidable.byContradiction
    intro hne
    have : commonPrefixLenIgnoreCase (c :: t) infinityStr = 0 := by
      show (if ((if 0x41 ≤ c && c ≤ 0x5A then c + 0x20 else c) == 0x69) = true then _ else 0) = 0
      rw [if_neg hne]
    simp [specialInf, this] at h

/-- What `special` recognises, `readFloat` rejects (so the two arms of `parseFloat` are
disjoint and `readFloat s = some r` alone determines the numeric arm): such a text starts,
after at most one sign, with one of `i I n N`. -/
theorem readFloat_none_of_special (s : GoString) (x : Special × Nat) (h : special s = some x) :
    readFloat s = none := by
  have signed : ∀ sg neg rest, sg = 0x2B ∨ sg = 0x2D → specialInf rest neg 1 = some x →
      readFloat (sg :: rest) = none := by
    intro sg neg rest hsg hi
    obtain ⟨c, t, rfl, hc⟩ := specialInf_some rest neg 1 x hi
    have hc' : (c == 0x69 || c == 0x49 || c == 0x6E || c == 0x4E) = true := by
      rw [Bool.or_assoc, hc, Bool.true_or]
    obtain ⟨hp, hm, _⟩ := infNanLetter_facts c hc'
    rw [readFloat_signed sg c t hsg hp hm, readFloat_letter c t hc', Option.map_none]
  cases s with
  | nil => rfl
  | cons c rest =>
    unfold special at h
    cases hp : c == 0x2B
    · cases hm : c == 0x2D
      · cases hi : (c == 0x69 || c == 0x49)
        · cases hn : (c == 0x6E || c == 0x4E)
          · simp only [hp, hm, hi, hn, Bool.false_eq_true, if_false] at h
            cases h
          · exact readFloat_letter c rest (by rw [Bool.or_assoc, hn, Bool.or_true])
        · exact readFloat_letter c rest (by rw [Bool.or_assoc, hi, Bool.true_or])
      · simp only [hp, hm, Bool.false_eq_true, if_false, if_true] at h
        exact signed c _ rest (Or.inr (eq_of_beq hm)) h
    · simp only [hp, if_true] at h
      exact signed c _ rest (Or.inl (eq_of_beq hp)) h

theorem special_none_of_readFloat (s : GoString) (r : ReadFloat) (h : readFloat s = some r) :
    special s = none := by
  cases hsp : special s with
  | none => rfl
  | some x => rw [readFloat_none_of_special s x hsp] at h; cases h

/-! ## Decimal literals `[+-]digits[.digits][e[+-]digits]` -/

/-- The text of an optional sign: nothing, `+`, or `-`. -/
def signText : Option Bool → GoString
  | none => []
  | some false => [0x2B]
  | some true => [0x2D]

/-- Go's saturating exponent value of a digit string (`if e < 10000 { e = e*10 + d }`). -/
def expVal (ep : GoString) : Nat := (scanExpDigits ep 0).1

theorem foldl_dec_ge (xs : GoString) (y : Nat) :
    y ≤ xs.foldl (fun n c => n * 10 + (c.toNat - 0x30)) y := by
  induction xs generalizing y with
  | nil => exact Nat.le_refl _
  | cons c cs ih => exact Nat.le_trans (by omega) (ih (y * 10 + (c.toNat - 0x30)))

theorem scanExpDigits_allDec (xs : GoString) (e : Nat) (hx : AllDec xs) :
    (scanExpDigits xs e).2 = [] ∧
      (xs.foldl (fun n c => n * 10 + (c.toNat - 0x30)) e < 100000 →
        (scanExpDigits xs e).1 = xs.foldl (fun n c => n * 10 + (c.toNat - 0x30)) e) := by
  induction xs generalizing e with
  | nil => exact ⟨rfl, fun _ => rfl⟩
  | cons c cs ih =>
    obtain ⟨_, h2, _⟩ := decDigit_facts c (hx c List.mem_cons_self)
    have h4 := hx c List.mem_cons_self
    have hcs : AllDec cs := fun c hc => hx c (List.mem_cons_of_mem _ hc)
    simp only [scanExpDigits, h2, h4, Bool.false_eq_true, if_false, if_true, List.foldl_cons]
    refine ⟨(ih _ hcs).1, fun h => ?_⟩
    have hge := foldl_dec_ge cs (e * 10 + (c.toNat - 0x30))
    rw [if_pos (by omega)]
    exact (ih _ hcs).2 h

theorem expVal_eq_decVal (ep : GoString) (hep : AllDec ep) (h : decVal ep < 100000) :
    expVal ep = decVal ep := (scanExpDigits_allDec ep 0 hep).2 h

theorem scanExp_plain (sg : Option Bool) (ep : GoString) (hep : AllDec ep) (hne : ep ≠ []) :
    scanExp (signText sg ++ ep) =
      some ((if sg = some true then -(expVal ep : Int) else (expVal ep : Int)), []) := by
  cases ep with
  | nil => exact absurd rfl hne
  | cons d t =>
    obtain ⟨_, _, _, hp, hm, _⟩ := decDigit_facts d (hep d List.mem_cons_self)
    have hd := hep d List.mem_cons_self
    have h2 := (scanExpDigits_allDec (d :: t) 0 hep).1
    rcases sg with _ | _ | _
    · simp only [signText, List.nil_append, scanExp, hp, hm, hd, Bool.or_self, Bool.false_eq_true,
        if_false, Bool.not_true]
      simp [expVal, ← h2]
    · simp only [signText, List.cons_append, List.nil_append, scanExp]
      simp [expVal, ← h2, hd]
    · simp only [signText, List.cons_append, List.nil_append, scanExp]
      simp [expVal, ← h2, hd]

/-- A decimal floating-point literal without underscores. -/
structure DecLit where
  /-- `none`: no sign; `some false`: `+`; `some true`: `-` -/
  sign : Option Bool
  /-- digits before the point -/
  ip : GoString
  /-- `some fp`: a point followed by the digits `fp` -/
  fp : Option GoString
  /-- `some (e, sg, ep)`: exponent character, optional sign, digits -/
  ex : Option (UInt8 × Option Bool × GoString)

namespace DecLit

def fracText (l : DecLit) : GoString := match l.fp with | none => [] | some fp => 0x2E :: fp
def expText (l : DecLit) : GoString :=
  match l.ex with | none => [] | some (e, sg, ep) => e :: (signText sg ++ ep)
def body (l : DecLit) : GoString := l.ip ++ (l.fracText ++ l.expText)
def text (l : DecLit) : GoString := signText l.sign ++ l.body

def digits (l : DecLit) : GoString := l.ip ++ l.fp.getD []
def mant (l : DecLit) : Nat := decVal l.digits
/-- Decimal exponent: the written exponent minus the number of fraction digits. -/
def exp10 (l : DecLit) : Int :=
  (match l.ex with
    | none => 0
    | some (_, sg, ep) => if sg = some true then -(expVal ep : Int) else (expVal ep : Int)) -
  ((l.fp.getD []).length : Int)
def neg (l : DecLit) : Bool := l.sign == some true

/-- Well-formedness: digits where digits are expected, at least one mantissa digit, a
non-empty exponent after an exponent character `e`/`E`. -/
structure WF (l : DecLit) : Prop where
  ip : AllDec l.ip
  fp : ∀ fp, l.fp = some fp → AllDec fp
  some_digit : l.digits ≠ []
  ex : ∀ e sg ep, l.ex = some (e, sg, ep) → isE e = true ∧ AllDec ep ∧ ep ≠ []

end DecLit

theorem scanMant_decLit (l : DecLit) (h : l.WF) :
    scanMant false l.body {} =
      ({ mant := l.mant, sawDot := l.fp.isSome, sawDigits := true,
         fracDigits := (l.fp.getD []).length }, l.expText) := by
  have htail : ∀ st, scanMant false l.expText st = (st, l.expText) := by
    intro st
    unfold DecLit.expText
    rcases hex : l.ex with _ | ⟨e, sg, ep⟩
    · rfl
    · obtain ⟨he, _, _⟩ := h.ex e sg ep hex
      obtain ⟨_, h2, h3, _, _, h6⟩ := expChar_facts e he
      simp [scanMant, h2, h3, h6]
  have hsd := h.some_digit
  unfold DecLit.body DecLit.fracText
  unfold DecLit.digits at hsd
  unfold DecLit.mant DecLit.digits decVal
  rw [scanMant_allDec _ _ _ h.ip]
  rcases hfp : l.fp with _ | fp
  · rw [hfp] at hsd
    simp only [List.nil_append, htail]
    have : l.ip ≠ [] := by simpa using hsd
    cases hip : l.ip with
    | nil => exact absurd hip this
    | cons c t => simp
  · rw [hfp] at hsd
    have hfpd := h.fp fp hfp
    have hdot : ((0x2E : UInt8) == underscore) = false := by decide
    simp only [List.cons_append, scanMant, hdot, Bool.false_eq_true, if_false, beq_self_eq_true,
      if_true]
    rw [scanMant_allDec _ _ _ hfpd, htail]
    simp only [Option.getD_some, List.foldl_append, Option.isSome_some, if_true, Nat.zero_add]
    congr 2
    simp only [Option.getD_some] at hsd
    cases hip : l.ip with
    | nil =>
      rw [hip] at hsd
      cases fp with
      | nil => simp at hsd
      | cons c t => simp
    | cons c t => simp

/-- No byte of the body is `x`/`X` or an underscore: each is a digit, `.`, `e`/`E`, `+` or `-`. -/
theorem body_no_x_underscore (l : DecLit) (h : l.WF) (x : UInt8) (hx : x ∈ l.body) :
    isX x = false ∧ (x == underscore) = false := by
  have dig : ∀ y, isDecDigit y = true → isX y = false ∧ (y == underscore) = false :=
    fun y hy => ⟨(decDigit_facts y hy).1, (decDigit_facts y hy).2.1⟩
  unfold DecLit.body DecLit.fracText DecLit.expText at hx
  rcases List.mem_append.mp hx with hx | hx
  · exact dig x (h.ip x hx)
  · rcases List.mem_append.mp hx with hx | hx
    · rcases hfp : l.fp with _ | fp
      · rw [hfp] at hx; cases hx
      · rw [hfp] at hx
        rcases List.mem_cons.mp hx with rfl | hx
        · decide
        · exact dig x (h.fp fp hfp x hx)
    · rcases hex : l.ex with _ | ⟨e, sg, ep⟩
      · rw [hex] at hx; cases hx
      · rw [hex] at hx
        obtain ⟨he, hep, _⟩ := h.ex e sg ep hex
        rcases List.mem_cons.mp hx with rfl | hx
        · exact ⟨(expChar_facts x he).1, (expChar_facts x he).2.1⟩
        · rcases List.mem_append.mp hx with hx | hx
          · rcases sg with _ | _ | _
            · cases hx
            · rw [List.mem_singleton.mp hx]; decide
            · rw [List.mem_singleton.mp hx]; decide
          · exact dig x (hep x hx)

theorem body_head_decLit (l : DecLit) (h : l.WF) :
    ∃ c t, l.body = c :: t ∧ (c == 0x2B) = false ∧ (c == 0x2D) = false := by
  have hsd := h.some_digit
  unfold DecLit.digits at hsd
  unfold DecLit.body DecLit.fracText
  cases hip : l.ip with
  | cons c t =>
    have hc := h.ip c (by rw [hip]; exact List.mem_cons_self)
    obtain ⟨_, _, _, hp, hm, _⟩ := decDigit_facts c hc
    exact ⟨c, _, rfl, hp, hm⟩
  | nil =>
    rcases hfp : l.fp with _ | fp
    · rw [hip, hfp] at hsd; simp at hsd
    · exact ⟨0x2E, _, rfl, by decide, by decide⟩

theorem readFloat_body_decLit (l : DecLit) (h : l.WF) :
    readFloat l.body = some ⟨false, false, l.mant, l.exp10⟩ := by
  obtain ⟨c, t, hbody, hp, hm⟩ := body_head_decLit l h
  have hscan := scanMant_decLit l h
  have hfacts := body_no_x_underscore l h
  rw [hbody] at hscan hfacts ⊢
  rw [readFloat_plain c t hp hm (fun x hx => (hfacts x hx).1) (fun x hx => (hfacts x hx).2)
    _ _ hscan rfl]
  unfold DecLit.expText DecLit.exp10
  rcases hex : l.ex with _ | ⟨e, sg, ep⟩
  · simp [plainResult]
  · obtain ⟨he, hep, hne⟩ := h.ex e sg ep hex
    simp [plainResult, he, scanExp_plain sg ep hep hne]

theorem readFloat_decLit (l : DecLit) (h : l.WF) :
    readFloat l.text = some ⟨l.neg, false, l.mant, l.exp10⟩ := by
  obtain ⟨c, t, hbody, hp, hm⟩ := body_head_decLit l h
  have hb := readFloat_body_decLit l h
  unfold DecLit.text DecLit.neg
  rcases hs : l.sign with _ | _ | _
  · simpa [signText] using hb
  · rw [hbody] at hb ⊢
    simp only [signText, List.cons_append, List.nil_append]
    rw [readFloat_signed 0x2B c t (Or.inl rfl) hp hm, hb]
    simp
  · rw [hbody] at hb ⊢
    simp only [signText, List.cons_append, List.nil_append]
    rw [readFloat_signed 0x2D c t (Or.inr rfl) hp hm, hb]
    simp

end Bexpr.Strconv
