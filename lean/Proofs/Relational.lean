/-
  Two-run (relational) reasoning about the evaluator model.

  `RelHyps R cfg` says: "values related by `R` are indistinguishable by one step of what the
  evaluator (and pointerstructure.Get under configuration `cfg`) can observe".  From it related
  data give related results of `Get`, the SAME outcome of `evaluate`, and related results of
  `(*Filter).Execute`.  The two instances are `Proofs/HiddenRel.lean` (structs up to the contents
  of hidden fields, C08) and `Proofs/PermRel.lean` (maps up to permutation of their entries, C14).
-/
import Bexpr.Eval.Create
import Proofs.Keys
import Proofs.FilterLemmas

namespace Bexpr.Proofs.Rel
open Bexpr Bexpr.Go Bexpr.Eval
open Bexpr.Proofs.Keys (FieldAct fieldAct structLoop_cons fieldAct_spec)

/-! ## Lifting a relation to options, results and lists -/

inductive OptRel {α β} (R : α → β → Prop) : Option α → Option β → Prop
  | none : OptRel R none none
  | some {a b} : R a b → OptRel R (some a) (some b)

inductive ExcRel {ε α β} (R : α → β → Prop) : Except ε α → Except ε β → Prop
  | error (e : ε) : ExcRel R (.error e) (.error e)
  | ok {a b} : R a b → ExcRel R (.ok a) (.ok b)

theorem OptRel.inv {α β} {R : α → β → Prop} {a b} (h : OptRel R a b) :
    (a = Option.none ∧ b = Option.none) ∨ ∃ x y, a = Option.some x ∧ b = Option.some y ∧ R x y := by
  cases h with
  | none => exact .inl ⟨rfl, rfl⟩
  | some h => exact .inr ⟨_, _, rfl, rfl, h⟩

theorem OptRel.of_forall {α} {S : α → α → Prop} {x : Option α}
    (h : ∀ u, x = Option.some u → S u u) : OptRel S x x := by
  cases x with
  | none => exact .none
  | some u => exact .some (h u rfl)

theorem ExcRel.inv {ε α β} {R : α → β → Prop} {a b : Except ε _} (h : ExcRel R a b) :
    (∃ e, a = .error e ∧ b = .error e) ∨ ∃ x y, a = .ok x ∧ b = .ok y ∧ R x y := by
  cases h with
  | error e => exact .inl ⟨e, rfl, rfl⟩
  | ok h => exact .inr ⟨_, _, rfl, rfl, h⟩

/-- pointwise related lists (`List.Forall₂` of Mathlib; core has none) -/
inductive ListRel {α β} (R : α → β → Prop) : List α → List β → Prop
  | nil : ListRel R [] []
  | cons {a b as bs} : R a b → ListRel R as bs → ListRel R (a :: as) (b :: bs)

theorem ListRel.length_eq {α β} {R : α → β → Prop} {xs ys} (h : ListRel R xs ys) :
    xs.length = ys.length := by
  induction h with
  | nil => rfl
  | cons _ _ ih => simp [ih]

theorem ListRel.getElem? {α β} {R : α → β → Prop} {xs ys} (h : ListRel R xs ys) (i : Nat) :
    OptRel R xs[i]? ys[i]? := by
  induction h generalizing i with
  | nil => simp; exact .none
  | cons hab _ ih =>
    cases i with
    | zero => simp; exact .some hab
    | succ i => simp; exact ih i

theorem ListRel.append {α β} {R : α → β → Prop} {xs ys xs' ys'} (h : ListRel R xs ys)
    (h' : ListRel R xs' ys') : ListRel R (xs ++ xs') (ys ++ ys') := by
  induction h with
  | nil => simpa using h'
  | cons hab _ ih => exact .cons hab ih

theorem ListRel.reverse {α β} {R : α → β → Prop} {xs ys} (h : ListRel R xs ys) :
    ListRel R xs.reverse ys.reverse := by
  induction h with
  | nil => exact .nil
  | cons hab _ ih => simp; exact ih.append (.cons hab .nil)

theorem ListRel.map_eq {α β γ} {S : α → β → Prop} {g : α → γ} {g' : β → γ} {xs xs'}
    (h : ListRel S xs xs') (hg : ∀ a b, S a b → g a = g' b) : xs.map g = xs'.map g' := by
  induction h with
  | nil => rfl
  | cons hab _ ih => simp only [List.map_cons, ih, hg _ _ hab]

theorem ListRel.of_forall {α} {R : α → α → Prop} : ∀ {xs : List α}, (∀ x ∈ xs, R x x) → ListRel R xs xs
  | [], _ => .nil
  | x :: xs, h => .cons (h x (by simp)) (ListRel.of_forall fun y hy => h y (by simp [hy]))

theorem ListRel.mono {α β} {R S : α → β → Prop} (hRS : ∀ a b, R a b → S a b) {xs ys}
    (h : ListRel R xs ys) : ListRel S xs ys := by
  induction h with
  | nil => exact .nil
  | cons hab _ ih => exact .cons (hRS _ _ hab) ih

/-- Entries with equal keys and related values, in the same order; an inductive of its own rather
    than `ListRel` on pairs, so that inverting a related pair of maps yields the entries. -/
inductive EntRel (R : GoVal → GoVal → Prop) : List (GoVal × GoVal) → List (GoVal × GoVal) → Prop
  | nil : EntRel R [] []
  | cons {k v v' es es'} : R v v' → EntRel R es es' → EntRel R ((k, v) :: es) ((k, v') :: es')

theorem EntRel.toList {S : GoVal → GoVal → Prop} {es es'} (h : EntRel S es es') :
    ListRel (fun e e' => e.1 = e'.1 ∧ S e.2 e'.2) es es' := by
  induction h with
  | nil => exact .nil
  | cons hv _ ih => exact .cons ⟨rfl, hv⟩ ih

theorem EntRel.ofList {S : GoVal → GoVal → Prop} {es es' : List (GoVal × GoVal)}
    (h : ListRel (fun e e' => e.1 = e'.1 ∧ S e.2 e'.2) es es') : EntRel S es es' := by
  induction h with
  | nil => exact .nil
  | @cons a b _ _ hab _ ih =>
    obtain ⟨k, v⟩ := a
    obtain ⟨k', v'⟩ := b
    cases hab.1
    exact .cons hab.2 ih

theorem EntRel.length_eq {S : GoVal → GoVal → Prop} {es es'} (h : EntRel S es es') :
    es.length = es'.length :=
  h.toList.length_eq

theorem EntRel.keys_eq {S : GoVal → GoVal → Prop} {es es'} (h : EntRel S es es') :
    es.map (·.1) = es'.map (·.1) :=
  h.toList.map_eq fun _ _ h => h.1

theorem EntRel.find {S : GoVal → GoVal → Prop} {es es'} (h : EntRel S es es') (P : GoVal → Bool) :
    OptRel (fun e e' => S e.2 e'.2) (es.find? fun e => P e.1) (es'.find? fun e => P e.1) := by
  induction h with
  | nil => exact .none
  | @cons k v v' es es' hv _ ih =>
    simp only [List.find?_cons]
    cases P k with
    | true => exact .some hv
    | false => exact ih

/-- Struct field lists with identical metadata; the values of fields satisfying `hid` are
    unconstrained.  `visible` has no premise `hid f = false`: `hidden` only adds freedom. -/
inductive FieldsRel (R : GoVal → GoVal → Prop) (hid : Field → Bool) :
    List (Field × GoVal) → List (Field × GoVal) → Prop
  | nil : FieldsRel R hid [] []
  | hidden {f v v' fs fs'} : hid f = true → FieldsRel R hid fs fs' →
      FieldsRel R hid ((f, v) :: fs) ((f, v') :: fs')
  | visible {f v v' fs fs'} : R v v' → FieldsRel R hid fs fs' →
      FieldsRel R hid ((f, v) :: fs) ((f, v') :: fs')

/-! ## The hypotheses: what one step of the evaluator can observe of a value -/

/-- What `getMap`, `in`, `is empty` and the quantifier loop can observe of a map's entries. -/
structure MapObs (R : GoVal → GoVal → Prop) (es es' : List (GoVal × GoVal)) : Prop where
  /-- `Len()` -/
  len : es.length = es'.length
  /-- `MapIndex` / the key scan of `getMap`, for every key value -/
  find : ∀ k, OptRel (fun e e' => R e.2 e'.2)
    (es.find? fun e => fkeyEq e.1 k) (es'.find? fun e => fkeyEq e.1 k)
  /-- `MapKeys()` as the quantifier uses it: stringified and sorted -/
  keys : sortKeys (es.map fun e => strKey e.1) = sortKeys (es'.map fun e => strKey e.1)

/-- the constructors without components -/
def isScalar : GoVal → Bool
  | .bool .. | .int .. | .uint .. | .float .. | .complex .. | .str .. | .other .. => true
  | _ => false

theorem mapObs_of_ent {S : GoVal → GoVal → Prop} {es es' : List (GoVal × GoVal)}
    (he : EntRel S es es') : MapObs S es es' where
  len := he.length_eq
  find := fun k => he.find (fun a => fkeyEq a k)
  keys := by
    have := congrArg (List.map strKey) he.keys_eq
    simp only [List.map_map, Function.comp_def] at this
    rw [this]

inductive Shape (R : GoVal → GoVal → Prop) (cfg : Config) : GoVal → GoVal → Prop
  | bool n b : Shape R cfg (.bool n b) (.bool n b)
  | int k n v : Shape R cfg (.int k n v) (.int k n v)
  | uint k n v : Shape R cfg (.uint k n v) (.uint k n v)
  | float k n v : Shape R cfg (.float k n v) (.float k n v)
  | complex k n : Shape R cfg (.complex k n) (.complex k n)
  | str n s : Shape R cfg (.str n s) (.str n s)
  | other k n nl : Shape R cfg (.other k n nl) (.other k n nl)
  | ptr e {x x'} : OptRel R x x' → Shape R cfg (.ptr e x) (.ptr e x')
  | iface {x x'} : OptRel R x x' → Shape R cfg (.iface x) (.iface x')
  | slice n e nl {xs xs'} : ListRel R xs xs' → Shape R cfg (.slice n e nl xs) (.slice n e nl xs')
  | array e {xs xs'} : ListRel R xs xs' → Shape R cfg (.array e xs) (.array e xs')
  | map n kt vt nl {es es'} : MapObs R es es' →
      Shape R cfg (.map n kt vt nl es) (.map n kt vt nl es')
  | struct n {fs fs'} :
      (∀ part, ExcRel (OptRel R) (getStruct cfg part fs) (getStruct cfg part fs')) →
      Shape R cfg (.struct n fs) (.struct n fs')

structure RelHyps (R : GoVal → GoVal → Prop) (cfg : Config) : Prop where
  /-- same constructor and static type data; scalars only related to themselves; components
      related; maps / structs related as far as lookups can see -/
  inv : ∀ v v', R v v' → Shape R cfg v v'
  /-- the value-transformation hook preserves the relation -/
  hook : ∀ v v', R v v' → OptRel R (cfg.hook.apply v) (cfg.hook.apply v')
  /-- scalars are related to themselves (the evaluator creates some: index / key bindings,
      narrowed `json.Number`s, the `const42` hook) -/
  reflScalar : ∀ v, isScalar v = true → R v v

abbrev AnyRel (R : GoVal → GoVal → Prop) : Any → Any → Prop := OptRel R

variable {R : GoVal → GoVal → Prop} {cfg : Config}

theorem kind_eq (H : RelHyps R cfg) {v v'} (h : R v v') : v.kind = v'.kind := by
  cases H.inv _ _ h <;> rfl

theorem typeOf_eq (H : RelHyps R cfg) {v v'} (h : R v v') : v.typeOf = v'.typeOf := by
  cases H.inv _ _ h with
  | array e hxs => simp [GoVal.typeOf, hxs.length_eq]
  | _ => rfl

theorem rvKind_eq (H : RelHyps R cfg) {v v' : RV} (h : OptRel R v v') : RV.kind v = RV.kind v' := by
  cases h with
  | none => rfl
  | some h => exact kind_eq H h

/-! ## `pointerstructure.Get` -/

theorem toAny_rel (H : RelHyps R cfg) {v v'} (h : R v v') : AnyRel R v.toAny v'.toAny := by
  cases H.inv _ _ h with
  | iface hx => exact hx
  | _ => exact .some h

theorem unwrapIfaceV_rel (H : RelHyps R cfg) : ∀ v v', R v v' →
    OptRel R (unwrapIfaceV v) (unwrapIfaceV v') := by
  intro v
  induction v using unwrapIfaceV.induct with
  | case1 v ih =>
    intro v' h
    cases H.inv _ _ h with
    | iface hx => cases hx with
      | some hr => exact (ih _ hr :)
  | case2 =>
    intro v' h
    cases H.inv _ _ h with
    | iface hx => cases hx; exact .none
  | case3 v h1 h2 =>
    intro v' h
    cases H.inv _ _ h with
    | iface hx => cases hx with
      | none => exact absurd rfl h2
      | some _ => exact (h1 _ rfl).elim
    | _ => exact .some h

theorem unwrapPtrV_rel (H : RelHyps R cfg) : ∀ v v', R v v' →
    OptRel R (unwrapPtrV v) (unwrapPtrV v') := by
  intro v
  induction v using unwrapPtrV.induct with
  | case1 e v ih =>
    intro v' h
    cases H.inv _ _ h with
    | ptr _ hx => cases hx with
      | some hr => exact (ih _ hr :)
  | case2 e =>
    intro v' h
    cases H.inv _ _ h with
    | ptr _ hx => cases hx; exact .none
  | case3 v h1 h2 =>
    intro v' h
    cases H.inv _ _ h with
    | ptr _ hx => cases hx with
      | none => exact (h2 _ rfl).elim
      | some _ => exact (h1 _ _ rfl).elim
    | _ => exact .some h

theorem derefValue_eq (v : GoVal) : derefValue v = unwrapPtrV v := by
  induction v using derefValue.induct with
  | case1 e v ih => rw [derefValue, unwrapPtrV, ih]
  | case2 e => rfl
  | case3 v h1 h2 => rw [derefValue, unwrapPtrV] <;> assumption

theorem derefValue_rel (H : RelHyps R cfg) (v v') (h : R v v') :
    OptRel R (derefValue v) (derefValue v') := by
  rw [derefValue_eq, derefValue_eq]
  exact unwrapPtrV_rel H v v' h

theorem unwrapForStep_rel (H : RelHyps R cfg) {v v' : RV} (h : OptRel R v v') :
    OptRel R (unwrapForStep v) (unwrapForStep v') := by
  cases h with
  | none => exact .none
  | some h =>
    simp only [unwrapForStep]
    rcases (unwrapIfaceV_rel H _ _ h).inv with ⟨h1, h2⟩ | ⟨x, y, h1, h2, h'⟩ <;> simp only [h1, h2]
    · exact .none
    · exact unwrapPtrV_rel H _ _ h'

theorem getMap_rel {es es'} (hm : MapObs R es es') (part : GoString) (kt : GoType) :
    ExcRel (OptRel R) (getMap part kt es) (getMap part kt es') := by
  unfold getMap
  cases coerceKey part kt with
  | error e => exact .error _
  | ok key =>
    simp only []
    rcases (hm.find key).inv with ⟨h1, h2⟩ | ⟨x, y, h1, h2, hr⟩ <;> simp only [h1, h2]
    · exact .error _
    · exact .ok (.some hr)

theorem getSlice_rel {xs xs'} (hx : ListRel R xs xs') (part : GoString) :
    ExcRel (OptRel R) (getSlice part xs) (getSlice part xs') := by
  unfold getSlice
  simp only [hx.length_eq]
  split
  · exact .error _
  · split
    · exact .error _
    · rename_i idx _ _
      rcases (hx.getElem? idx.toNat).inv with ⟨h1, h2⟩ | ⟨x, y, h1, h2, hr⟩ <;> simp only [h1, h2]
      · exact .error _
      · exact .ok (.some hr)

theorem applyHook_rel (H : RelHyps R cfg) {r r'} (h : ExcRel (OptRel R) r r') :
    ExcRel (OptRel R) (getStep.applyHook cfg r) (getStep.applyHook cfg r') := by
  cases h with
  | error e => exact .error _
  | ok h =>
    cases h with
    | none => exact .error _
    | some hr =>
      have hh := H.hook _ _ hr
      unfold getStep.applyHook
      cases hc : cfg.hook with
      | off => exact .ok (.some hr)
      | identity | unwrap | const42 | nilret =>
        simp only [hc] at hh ⊢
        rcases hh.inv with ⟨h1, h2⟩ | ⟨x, y, h1, h2, hr'⟩ <;> simp only [h1, h2]
        · exact .error _
        · exact .ok (.some hr')

theorem getStep_rel (H : RelHyps R cfg) (p : GoString) {cur cur' : RV} (h : OptRel R cur cur') :
    ExcRel (OptRel R) (getStep cfg p cur) (getStep cfg p cur') := by
  unfold getStep
  rcases (unwrapForStep_rel H h).inv with ⟨h1, h2⟩ | ⟨x, y, h1, h2, hr⟩ <;> simp only [h1, h2]
  · exact .error _
  · cases H.inv _ _ hr with
    | map n kt vt nl hm => exact applyHook_rel H (getMap_rel hm p kt)
    | slice n e nl hx => exact applyHook_rel H (getSlice_rel hx p)
    | array e hx => exact applyHook_rel H (getSlice_rel hx p)
    | struct n hs => exact applyHook_rel H (hs p)
    | _ => exact .error _

theorem getLoop_rel (H : RelHyps R cfg) : ∀ (ps : List GoString) {cur cur' : RV},
    OptRel R cur cur' → ExcRel (OptRel R) (getLoop cfg ps cur) (getLoop cfg ps cur')
  | [], _, _, h => .ok h
  | p :: ps, _, _, h => by
    unfold getLoop
    rcases (getStep_rel H p h).inv with ⟨e, h1, h2⟩ | ⟨x, y, h1, h2, h'⟩ <;> simp only [h1, h2]
    · exact .error _
    · exact getLoop_rel H ps h'

theorem get_rel (H : RelHyps R cfg) (parts : List GoString) {v v' : Any} (h : AnyRel R v v') :
    ExcRel (AnyRel R) (Go.get cfg parts v) (Go.get cfg parts v') := by
  unfold Go.get
  cases parts with
  | nil => exact .ok h
  | cons p ps =>
    simp only [valueOf]
    rcases (getLoop_rel H (p :: ps) h).inv with ⟨e, h1, h2⟩ | ⟨x, y, h1, h2, h'⟩ <;> simp only [h1, h2]
    · exact .error _
    · cases h' with
      | none => exact .error _
      | some hr => exact .ok (toAny_rel H hr)

/-! ## Options and `getValue` -/

structure LocalRel (R : GoVal → GoVal → Prop) (a b : LocalVar) : Prop where
  name : a.name = b.name
  path : a.path = b.path
  value : AnyRel R a.value b.value

structure OptsRel (R : GoVal → GoVal → Prop) (cfg : Config) (o o' : Opts) : Prop where
  cfgL : o.cfg = cfg
  cfgR : o'.cfg = cfg
  unknown : OptRel (AnyRel R) o.unknown o'.unknown
  locals : ListRel (LocalRel R) o.locals o'.locals

theorem OptsRel.push {o o' : Opts} (h : OptsRel R cfg o o') {bs bs'}
    (hb : ListRel (LocalRel R) bs bs') :
    OptsRel R cfg { o with locals := o.locals ++ bs } { o' with locals := o'.locals ++ bs' } :=
  ⟨h.cfgL, h.cfgR, h.unknown, h.locals.append hb⟩

theorem OptsRel.refl {o : Opts} (hu : ∀ u, o.unknown = some u → AnyRel R u u)
    (hl : ∀ lv ∈ o.locals, AnyRel R lv.value lv.value) : OptsRel R o.cfg o o :=
  ⟨rfl, rfl, .of_forall hu, .of_forall fun lv hlv => ⟨rfl, rfl, hl lv hlv⟩⟩

theorem resolveLocals_rel {ls ls'} (h : ListRel (LocalRel R) ls ls') : ∀ path,
    (resolveLocals ls path = .error () ∧ resolveLocals ls' path = .error ()) ∨
    (∃ v v', resolveLocals ls path = .ok (.inl v) ∧ resolveLocals ls' path = .ok (.inl v') ∧
      AnyRel R v v') ∨
    (∃ p, resolveLocals ls path = .ok (.inr p) ∧ resolveLocals ls' path = .ok (.inr p)) := by
  induction h with
  | nil => intro path; exact .inr (.inr ⟨path, rfl, rfl⟩)
  | @cons a b as bs hab _ ih =>
    intro path
    cases path with
    | nil => exact .inr (.inr ⟨[], rfl, rfl⟩)
    | cons name rest =>
      simp only [resolveLocals, ← hab.name, ← hab.path]
      cases name == a.name
      · exact ih _
      · cases a.path.isEmpty
        · exact ih _
        · cases !rest.isEmpty
          · exact .inr (.inl ⟨_, _, rfl, rfl, hab.value⟩)
          · exact .inl ⟨rfl, rfl⟩

theorem evaluateNotPresent_rel (H : RelHyps R cfg) {d d' : Any} (hd : AnyRel R d d')
    (parts : List GoString) :
    evaluateNotPresent cfg parts d = evaluateNotPresent cfg parts d' := by
  unfold evaluateNotPresent
  by_cases hl : parts.length < 2
  · simp only [hl, if_true]
  · simp only [hl, if_false]
    rcases (get_rel H parts.dropLast hd).inv with ⟨e, h1, h2⟩ | ⟨x, y, h1, h2, hr⟩ <;>
      simp only [h1, h2]
    cases hr with
    | none => rfl
    | some hr => simp only [kind_eq H hr]

inductive GVRel (R : GoVal → GoVal → Prop) : GetValue → GetValue → Prop
  | present {v v'} : AnyRel R v v' → GVRel R (.present v) (.present v')
  | absent : GVRel R .absent .absent
  | error : GVRel R .error .error
  | unmodelled : GVRel R .unmodelled .unmodelled

theorem GVRel.inv {a b} (h : GVRel R a b) :
    (∃ v v', a = .present v ∧ b = .present v' ∧ AnyRel R v v') ∨ (a = .absent ∧ b = .absent) ∨
    (a = .error ∧ b = .error) ∨ (a = .unmodelled ∧ b = .unmodelled) := by
  cases h with
  | present h => exact .inl ⟨_, _, rfl, rfl, h⟩
  | absent => exact .inr (.inl ⟨rfl, rfl⟩)
  | error => exact .inr (.inr (.inl ⟨rfl, rfl⟩))
  | unmodelled => exact .inr (.inr (.inr ⟨rfl, rfl⟩))

theorem getValue_rel (H : RelHyps R cfg) {o o' : Opts} (ho : OptsRel R cfg o o') {d d' : Any}
    (hd : AnyRel R d d') (path : List GoString) :
    GVRel R (getValue o d path) (getValue o' d' path) := by
  unfold getValue
  rcases resolveLocals_rel ho.locals.reverse path with ⟨h1, h2⟩ | ⟨v, v', h1, h2, hv⟩ | ⟨p, h1, h2⟩ <;>
    simp only [h1, h2]
  · exact .error
  · exact .present hv
  · rw [ho.cfgL, ho.cfgR]
    rcases (get_rel H p hd).inv with ⟨e, h1, h2⟩ | ⟨x, y, h1, h2, hr⟩ <;> simp only [h1, h2]
    · cases e with
      | notFound =>
        simp only []
        rcases ho.unknown.inv with ⟨h1, h2⟩ | ⟨x, y, h1, h2, hr⟩ <;> simp only [h1, h2]
        · rw [evaluateNotPresent_rel H hd p]
          split
          · exact .absent
          · exact .error
        · exact .present hr
      | unmodelled => exact .unmodelled
      | _ => exact .error
    · exact .present hr

/-! ## The operators -/

theorem narrowJsonNumber_rel (H : RelHyps R cfg) {v v' : Any} (hv : AnyRel R v v') :
    ExcRel (AnyRel R) (narrowJsonNumber v) (narrowJsonNumber v') := by
  cases hv with
  | none => exact .ok .none
  | some hr =>
    cases H.inv _ _ hr with
    | str n s =>
      unfold narrowJsonNumber
      split
      · split
        · exact .ok (.some (H.reflScalar _ rfl))
        · split
          · exact .ok (.some (H.reflScalar _ rfl))
          · exact .error _
      · exact .ok (.some hr)
    | _ => exact .ok (.some hr)

theorem indirect_rel (H : RelHyps R cfg) {v v' : RV} (hv : OptRel R v v') :
    OptRel R (indirect v) (indirect v') := by
  cases hv with
  | none => exact .none
  | some hr =>
    cases H.inv _ _ hr with
    | ptr e hx => exact hx
    | _ => exact .some hr

theorem applyEq_rel (H : RelHyps R cfg) {it it'} (h : R it it') (k : Kind) (lit : Lit) :
    applyEq k lit (some it) = applyEq k lit (some it') := by
  cases H.inv _ _ h with
  | bool | int | uint | float | complex | str | other => rfl
  -- no branch of `applyEq` reads anything of a value that is not a scalar
  | _ => cases lit <;> rfl

theorem applyEq_rv_rel (H : RelHyps R cfg) {v v' : RV} (h : OptRel R v v') (k : Kind) (lit : Lit) :
    applyEq k lit v = applyEq k lit v' := by
  cases h with
  | none => rfl
  | some h => exact applyEq_rel H h k lit

theorem doMatchEqual_rel (H : RelHyps R cfg) {v v' : RV} (h : OptRel R v v') (raw) :
    doMatchEqual raw v = doMatchEqual raw v' := by
  simp only [doMatchEqual, rvKind_eq H h, applyEq_rv_rel H h]

theorem inIfaceLoop_rel (H : RelHyps R cfg) (raw : GoString) {xs xs'} (h : ListRel R xs xs') :
    inIfaceLoop raw xs = inIfaceLoop raw xs' := by
  induction h with
  | nil => rfl
  | cons hab _ ih =>
    cases H.inv _ _ hab with
    | iface hx =>
      cases hx with
      | none => exact ih
      | some hy =>
        simp only [inIfaceLoop]
        rcases (derefValue_rel H _ _ hy).inv with ⟨h1, h2⟩ | ⟨x, y, h1, h2, hr⟩ <;>
          simp only [h1, h2]
        · exact ih
        · simp only [kind_eq H hr, applyEq_rel H hr, ih]
    | _ => exact ih

theorem inConcreteLoop_rel (H : RelHyps R cfg) (k : Kind) (lit : Lit) {xs xs'}
    (h : ListRel R xs xs') : inConcreteLoop k lit xs = inConcreteLoop k lit xs' := by
  induction h with
  | nil => rfl
  | cons hab _ ih =>
    simp only [inConcreteLoop]
    rcases (derefValue_rel H _ _ hab).inv with ⟨h1, h2⟩ | ⟨x, y, h1, h2, hr⟩ <;>
      simp only [h1, h2]
    · exact ih
    · simp only [applyEq_rel H hr, ih]

theorem inElems_rel (H : RelHyps R cfg) (raw : GoString) (elem : GoType) {xs xs'}
    (h : ListRel R xs xs') : doMatchIn.inElems raw elem xs = doMatchIn.inElems raw elem xs' := by
  simp only [doMatchIn.inElems, inIfaceLoop_rel H raw h, inConcreteLoop_rel H _ _ h]

theorem MapObs.any_eq {es es'} (hm : MapObs R es es') (k : GoVal) :
    (es.any fun e => fkeyEq e.1 k) = (es'.any fun e => fkeyEq e.1 k) := by
  have h1 : ∀ (l : List (GoVal × GoVal)),
      (l.any fun e => fkeyEq e.1 k) = (l.find? fun e => fkeyEq e.1 k).isSome := by
    intro l
    rw [Bool.eq_iff_iff, List.any_eq_true, List.find?_isSome]
  rw [h1, h1]
  rcases (hm.find k).inv with ⟨h1, h2⟩ | ⟨x, y, h1, h2, _⟩ <;> simp only [h1, h2] <;> rfl

theorem doMatchIn_rel (H : RelHyps R cfg) {v v' : RV} (h : OptRel R v v') (raw) :
    doMatchIn raw v = doMatchIn raw v' := by
  unfold doMatchIn
  cases raw with
  | none => simp only [rvKind_eq H h]
  | some raw =>
    simp only [rvKind_eq H h]
    cases coerceLit raw (RV.kind v') with
    | error e => rfl
    | ok lit =>
      simp only []
      cases h with
      | none => rfl
      | some hr =>
        cases H.inv _ _ hr with
        | map n kt vt nl hm => simp only [hm.any_eq]
        | slice n e nl hx => simp only [inElems_rel H raw e hx]
        | array e hx => simp only [inElems_rel H raw e hx]
        | _ => rfl

theorem rvLen_rel (H : RelHyps R cfg) {v v' : RV} (h : OptRel R v v') : rvLen v = rvLen v' := by
  cases h with
  | none => rfl
  | some hr =>
    cases H.inv _ _ hr with
    | map n kt vt nl hm => simp only [rvLen, hm.len]
    | slice n e nl hx => simp only [rvLen, hx.length_eq]
    | array e hx => simp only [rvLen, hx.length_eq]
    | _ => rfl

theorem doMatchIsEmpty_rel (H : RelHyps R cfg) {v v' : RV} (h : OptRel R v v') :
    doMatchIsEmpty v = doMatchIsEmpty v' := by
  simp only [doMatchIsEmpty, rvKind_eq H h, rvLen_rel H h]

theorem asBytes_rel (H : RelHyps R cfg) {v v'} (h : R v v') : asBytes v = asBytes v' := by
  cases H.inv _ _ h with
  | slice n e nl hx =>
    by_cases he : e = .basic .uint8 ""
    · subst he
      simp only [asBytes]
      congr 1
      apply ListRel.map_eq hx
      intro a b hab
      cases H.inv _ _ hab <;> rfl
    · have hn : ∀ ys, asBytes (.slice n e nl ys) = none := by
        intro ys; unfold asBytes; split <;> simp_all
      rw [hn, hn]
  | _ => rfl

theorem doMatchMatches_rel (H : RelHyps R cfg) (re : RegexOracle) {v v' : RV} (h : OptRel R v v')
    (raw) : doMatchMatches re raw v = doMatchMatches re raw v' := by
  cases h with
  | none => rfl
  | some hr => simp only [doMatchMatches, asBytes_rel H hr]

theorem evaluateMatch_rel (H : RelHyps R cfg) (re : RegexOracle) {o o' : Opts}
    (ho : OptsRel R cfg o o') {d d' : Any} (hd : AnyRel R d d') (sel : Selector) (op : MatchOp)
    (raw : Option GoString) :
    evaluateMatch re o d sel op raw = evaluateMatch re o' d' sel op raw := by
  unfold evaluateMatch
  rcases (getValue_rel H ho hd sel.path).inv with
    ⟨v, v', h1, h2, hv⟩ | ⟨h1, h2⟩ | ⟨h1, h2⟩ | ⟨h1, h2⟩ <;> simp only [h1, h2]
  rcases (narrowJsonNumber_rel H hv).inv with ⟨e, h1, h2⟩ | ⟨x, y, h1, h2, hr⟩ <;>
    simp only [h1, h2]
  have hi := indirect_rel H (v := valueOf x) (v' := valueOf y) hr
  simp only [doMatchEqual_rel H hi, doMatchIn_rel H hi, doMatchIsEmpty_rel H hi,
    doMatchMatches_rel H re hi]

/-! ## Quantifiers and `evaluate` -/

theorem listBindings_self (H : RelHyps R cfg) (sel : Selector) (b : Binding) (i : Nat) :
    ListRel (LocalRel R) (listBindings sel b i) (listBindings sel b i) := by
  unfold listBindings
  refine .append (.append ?_ ?_) ?_ <;> split <;> first
    | exact .nil
    | exact .cons ⟨rfl, rfl, .none⟩ .nil
    | exact .cons ⟨rfl, rfl, .some (H.reflScalar _ rfl)⟩ .nil

theorem mapBindings_self (H : RelHyps R cfg) (sel : Selector) (b : Binding) (k : GoString) :
    ListRel (LocalRel R) (mapBindings sel b k) (mapBindings sel b k) := by
  unfold mapBindings
  refine .append (.append ?_ ?_) ?_ <;> split <;> first
    | exact .nil
    | exact .cons ⟨rfl, rfl, .none⟩ .nil
    | exact .cons ⟨rfl, rfl, .some (H.reflScalar _ rfl)⟩ .nil

theorem collLoop_rel {f f' : Opts → Out} (hf : ∀ o o', OptsRel R cfg o o' → f o = f' o')
    {o o' : Opts} (ho : OptsRel R cfg o o') (op : CollOp) (b : Binding) {κ} {g : κ → List LocalVar}
    (hg : ∀ k, ListRel (LocalRel R) (g k) (g k)) :
    ∀ ks : List κ, collLoop f o op b (ks.map g) = collLoop f' o' op b (ks.map g)
  | [] => rfl
  | k :: ks => by
    simp only [List.map_cons, collLoop, hf _ _ (ho.push (hg k)), collLoop_rel hf ho op b hg ks]

/-- Generic two-run theorem for `evaluate`: the same outcome (same boolean, same error / panic /
    unmodelled status). -/
theorem evaluate_rel (H : RelHyps R cfg) (re : RegexOracle) {d d' : Any} (hd : AnyRel R d d')
    (e : Expr) : ∀ {o o' : Opts}, OptsRel R cfg o o' → evaluate re e o d = evaluate re e o' d' := by
  induction e with
  | not e ih => intro o o' ho; simp only [evaluate, ih ho]
  | and l r ihl ihr => intro o o' ho; simp only [evaluate, ihl ho, ihr ho]
  | or l r ihl ihr => intro o o' ho; simp only [evaluate, ihl ho, ihr ho]
  | match_ sel op raw => intro o o' ho; simp only [evaluate, evaluateMatch_rel H re ho hd]
  | coll op sel b inner ih =>
    intro o o' ho
    simp only [evaluate]
    rcases (getValue_rel H ho hd sel.path).inv with
      ⟨v, v', h1, h2, hv⟩ | ⟨h1, h2⟩ | ⟨h1, h2⟩ | ⟨h1, h2⟩ <;> simp only [h1, h2]
    have hf : ∀ o o', OptsRel R cfg o o' →
        (fun o' => evaluate re inner o' d) o = (fun o' => evaluate re inner o' d') o' :=
      fun o o' h => ih h
    cases hv with
    | none => rfl
    | some hr =>
      cases H.inv _ _ hr with
      | map n kt vt nl hm =>
        simp only [hm.keys]
        split
        · rfl
        · exact collLoop_rel hf ho op b (mapBindings_self H sel b) _
      | slice n e nl hx =>
        simp only [hx.length_eq]
        exact collLoop_rel hf ho op b (listBindings_self H sel b) _
      | array e hx =>
        simp only [hx.length_eq]
        exact collLoop_rel hf ho op b (listBindings_self H sel b) _
      | _ => rfl

/-! ## `(*Filter).Execute` -/

/-- the elements at the positions where the mask is `true` -/
def pick {α} : List Bool → List α → List α
  | true :: m, x :: xs => x :: pick m xs
  | false :: m, _ :: xs => pick m xs
  | _, _ => []

theorem pick_rel {α β} {S : α → β → Prop} {xs xs'} (h : ListRel S xs xs') :
    ∀ m, ListRel S (pick m xs) (pick m xs') := by
  induction h with
  | nil => intro m; rcases m with _ | ⟨_ | _, _⟩ <;> exact .nil
  | cons hab _ ih =>
    intro m
    rcases m with _ | ⟨_ | _, m⟩
    · exact .nil
    · exact ih m
    · exact .cons hab (ih m)

theorem pick_ent {es es'} (h : EntRel R es es') (m) : EntRel R (pick m es) (pick m es') :=
  .ofList (pick_rel h.toList m)

theorem filter_eq_pick {α} (p : α → Bool) : ∀ xs : List α, xs.filter p = pick (xs.map p) xs
  | [] => rfl
  | x :: xs => by
    cases h : p x <;> simp only [List.filter_cons, List.map_cons, pick, h, filter_eq_pick p xs] <;> rfl

/-- The two evaluators of a two-run statement: same expression and configuration, related
    unknown values. -/
structure EvRel (R : GoVal → GoVal → Prop) (cfg : Config) (ev ev' : Evaluator) : Prop where
  ast : ev.ast = ev'.ast
  tagL : ev.tagName = cfg.tagName
  hookL : ev.hook = cfg.hook
  tagR : ev'.tagName = cfg.tagName
  hookR : ev'.hook = cfg.hook
  unknown : OptRel (AnyRel R) ev.unknown ev'.unknown

theorem evaluator_rel (H : RelHyps R cfg) (re : RegexOracle) {ev ev' : Evaluator}
    (hev : EvRel R cfg ev ev') {d d' : Any} (hd : AnyRel R d d') :
    ev.evaluate re d = ev'.evaluate re d' := by
  unfold Evaluator.evaluate
  rw [hev.ast]
  refine evaluate_rel H re hd _ ⟨?_, ?_, hev.unknown, .nil⟩
  · simp only [Opts.cfg, hev.tagL, hev.hookL]
  · simp only [Opts.cfg, hev.tagR, hev.hookR]

theorem EvRel.refl (ev : Evaluator) (hu : ∀ u, ev.unknown = some u → AnyRel R u u) :
    EvRel R { tagName := ev.tagName, hook := ev.hook } ev ev :=
  ⟨rfl, rfl, rfl, rfl, rfl, .of_forall hu⟩

/-- Two runs over related lists with equal outcomes element by element: the same failure, or the
    same positions are kept. -/
theorem keepSpec_rel {α β} {S : α → β → Prop} {g : α → Out} {g' : β → Out}
    (hg : ∀ a b, S a b → g a = g' b) {xs xs'} (h : ListRel S xs xs') :
    (∃ o, Filter.keepSpec g xs = .error o ∧ Filter.keepSpec g' xs' = .error o) ∨
    ∃ m, Filter.keepSpec g xs = .ok (pick m xs) ∧ Filter.keepSpec g' xs' = .ok (pick m xs') := by
  unfold Filter.keepSpec
  rw [filter_eq_pick, filter_eq_pick, ← h.map_eq hg,
    ← h.map_eq (g := fun x => g x == .val true) fun a b hab => by rw [hg a b hab]]
  cases (xs.map g).find? _ with
  | some o => exact .inl ⟨o, rfl, rfl⟩
  | none => exact .inr ⟨_, rfl, rfl⟩

/-- One run over a reordered list: fails in both orders or keeps permuted lists.  (WHICH failure
    is reported may depend on the order: the first failing element wins.) -/
theorem keepSpec_perm {α} (g : α → Out) {xs p : List α} (hp : xs.Perm p) :
    ((∃ o, Filter.keepSpec g xs = .error o) ∧ ∃ o, Filter.keepSpec g p = .error o) ∨
    ∃ k kp, Filter.keepSpec g xs = .ok k ∧ Filter.keepSpec g p = .ok kp ∧ k.Perm kp := by
  unfold Filter.keepSpec
  cases h1 : (xs.map g).find? _ <;> cases h2 : (p.map g).find? _
  · exact .inr ⟨_, _, rfl, rfl, hp.filter _⟩
  · have := List.find?_eq_none.1 h1 _ ((hp.map g).mem_iff.2 (List.mem_of_find?_eq_some h2))
    exact absurd (List.find?_some h2) this
  · have := List.find?_eq_none.1 h2 _ ((hp.map g).mem_iff.1 (List.mem_of_find?_eq_some h1))
    exact absurd (List.find?_some h1) this
  · exact .inl ⟨⟨_, rfl⟩, ⟨_, rfl⟩⟩

/-- `Execute` returned an error or panicked -/
def _root_.Bexpr.Eval.ExecOut.failed : ExecOut → Bool
  | .ok _ => false
  | _ => true

/-- entry lists of two related maps: related entry by entry after reordering the first -/
def EntCorr (R : GoVal → GoVal → Prop) (es es' : List (GoVal × GoVal)) : Prop :=
  ∃ p, es.Perm p ∧ EntRel R p es'

/-- Relation between the two results of `Execute` when both runs iterate in corresponding order:
    the same failure, or the elements / entries at the same positions are kept. -/
inductive ExecRelOrd (R : GoVal → GoVal → Prop) : ExecOut → ExecOut → Prop
  | failed (a) : a.failed = true → ExecRelOrd R a a
  | list (n e) (m : List Bool) {xs xs'} : ListRel R xs xs' →
      ExecRelOrd R (.ok (some (.slice n e false (pick m xs)))) (.ok (some (.slice n e false (pick m xs'))))
  | map (n kt vt) (m : List Bool) {es es'} : EntRel R es es' →
      ExecRelOrd R (.ok (some (.map n kt vt false (pick m es))))
        (.ok (some (.map n kt vt false (pick m es'))))

/-- Relation between the two results of `Execute` when a map may be iterated in two different
    orders: both fail, or both succeed with corresponding kept elements / entries. -/
inductive ExecRel (R : GoVal → GoVal → Prop) : ExecOut → ExecOut → Prop
  | failed {a b} : a.failed = true → b.failed = true → ExecRel R a b
  | list (n e) {xs xs'} : ListRel R xs xs' →
      ExecRel R (.ok (some (.slice n e false xs))) (.ok (some (.slice n e false xs')))
  | map (n kt vt) {es es'} : EntCorr R es es' →
      ExecRel R (.ok (some (.map n kt vt false es))) (.ok (some (.map n kt vt false es')))

theorem ExecRelOrd.weaken {a b} (h : ExecRelOrd R a b) : ExecRel R a b := by
  cases h with
  | failed a h => exact .failed h h
  | list n e m h => exact .list n e (pick_rel h m)
  | map n kt vt m h => exact .map n kt vt ⟨_, List.Perm.refl _, pick_ent h m⟩

theorem outToExec_failed (o : Out) : (outToExec o).failed = true := by
  cases o <;> rfl

/-- **Generic two-run theorem for `Execute`, same iteration order**: if the entry lists of a
    map container correspond position by position, the two runs fail identically or keep the
    same positions. -/
theorem execute_rel_ordered (H : RelHyps R cfg) (re : RegexOracle) {ev ev' : Evaluator}
    (hev : EvRel R cfg ev ev') {d d' : Any} (hd : AnyRel R d d')
    (hm : ∀ n kt vt nl es es', d = some (.map n kt vt nl es) →
      d' = some (.map n kt vt nl es') → EntRel R es es') :
    ExecRelOrd R (execute re (some ev) d) (execute re (some ev') d') := by
  have hf : ∀ v v', R v v' → ev.evaluate re v.toAny = ev'.evaluate re v'.toAny :=
    fun v v' h => evaluator_rel H re hev (toAny_rel H h)
  cases hd with
  | none => exact .failed _ rfl
  | some hr =>
    cases H.inv _ _ hr with
    | slice n e nl hx =>
      rw [Filter.execute_slice_eq, Filter.execute_slice_eq]
      rcases keepSpec_rel hf hx with ⟨o, h1, h2⟩ | ⟨m, h1, h2⟩
      · rw [Filter.runLoop_of_error _ _ h1, Filter.runLoop_of_error _ _ h2]
        exact .failed _ (outToExec_failed o)
      · rw [Filter.runLoop_of_ok _ _ h1, Filter.runLoop_of_ok _ _ h2]
        exact .list n e m hx
    | array e hx =>
      rw [Filter.execute_array_eq, Filter.execute_array_eq]
      rcases keepSpec_rel hf hx with ⟨o, h1, h2⟩ | ⟨m, h1, h2⟩
      · rw [Filter.runLoop_of_error _ _ h1, Filter.runLoop_of_error _ _ h2]
        exact .failed _ (outToExec_failed o)
      · rw [Filter.runLoop_of_ok _ _ h1, Filter.runLoop_of_ok _ _ h2]
        exact .list "" e m hx
    | map n kt vt nl =>
      have he := hm _ _ _ _ _ _ rfl rfl
      rw [Filter.execute_map_eq, Filter.execute_map_eq]
      rcases keepSpec_rel (fun a b h => hf _ _ h.2) he.toList with ⟨o, h1, h2⟩ | ⟨m, h1, h2⟩
      · rw [Filter.runLoop_of_error _ _ h1, Filter.runLoop_of_error _ _ h2]
        exact .failed _ (outToExec_failed o)
      · rw [Filter.runLoop_of_ok _ _ h1, Filter.runLoop_of_ok _ _ h2]
        exact .map n kt vt m he
    | _ => exact .failed _ rfl

/-- **Generic two-run theorem for `Execute`**: when the entries of a map container correspond
    only up to a reordering, both runs fail or both keep corresponding entries. -/
theorem execute_rel (H : RelHyps R cfg) (re : RegexOracle) {ev ev' : Evaluator}
    (hev : EvRel R cfg ev ev') {d d' : Any} (hd : AnyRel R d d')
    (hm : ∀ n kt vt nl es es', d = some (.map n kt vt nl es) →
      d' = some (.map n kt vt nl es') → EntCorr R es es') :
    ExecRel R (execute re (some ev) d) (execute re (some ev') d') := by
  cases hd with
  | none => exact .failed rfl rfl
  | some hr =>
    cases H.inv _ _ hr with
    | map n kt vt nl =>
      -- first run on `es` against first run on `p` (same evaluator, other order), then first run
      -- on `p` against second run on `es'` (same order)
      obtain ⟨p, hp, he⟩ := hm _ _ _ _ _ _ rfl rfl
      have hf : ∀ a b : GoVal × GoVal, a.1 = b.1 ∧ R a.2 b.2 →
          ev.evaluate re a.2.toAny = ev'.evaluate re b.2.toAny :=
        fun a b h => evaluator_rel H re hev (toAny_rel H h.2)
      rw [Filter.execute_map_eq, Filter.execute_map_eq]
      rcases keepSpec_perm (fun e => ev.evaluate re e.2.toAny) hp with
          ⟨⟨o, h1⟩, o', h2⟩ | ⟨k, kp, h1, h2, hk⟩ <;>
        rcases keepSpec_rel hf he.toList with ⟨o'', h3, h4⟩ | ⟨m, h3, h4⟩ <;>
        rw [h2] at h3 <;> cases h3
      · rw [Filter.runLoop_of_error _ _ h1, Filter.runLoop_of_error _ _ h4]
        exact .failed (outToExec_failed _) (outToExec_failed _)
      · rw [Filter.runLoop_of_ok _ _ h1, Filter.runLoop_of_ok _ _ h4]
        exact .map n kt vt ⟨_, hk, pick_ent he m⟩
    | _ =>
      exact (execute_rel_ordered H re hev (.some hr)
        (by intro _ _ _ _ _ _ h; cases h)).weaken

/-- `Execute` returns a map only for a map container of the same type, and keeps a sublist of its
    entries (in iteration order). -/
theorem execute_ok_map (re : RegexOracle) (ev : Evaluator) {d : Any} {n kt vt b kept}
    (h : execute re (some ev) d = .ok (some (.map n kt vt b kept))) :
    ∃ nl es, d = some (.map n kt vt nl es) ∧ kept.Sublist es := by
  cases d with
  | none => cases h
  | some v =>
    cases v with
    | map n0 kt0 vt0 nl0 es0 =>
      rw [Filter.execute_map_eq] at h
      cases (Filter.runLoop_ok _ _ es0 _ h).2
      exact ⟨_, _, rfl, List.filter_sublist⟩
    | slice n0 e0 nl0 xs0 =>
      rw [Filter.execute_slice_eq] at h
      cases (Filter.runLoop_ok _ _ xs0 _ h).2
    | array e0 xs0 =>
      rw [Filter.execute_array_eq] at h
      cases (Filter.runLoop_ok _ _ xs0 _ h).2
    | _ => cases h

theorem execute_nil (re : RegexOracle) (d : Any) : execute re none d = .ok d := rfl

/-! ## `getStruct` on field lists with shared metadata; the `unwrap` hook -/

/-- the tag name `getStruct` reads -/
def effTag (cfg : Config) : GoString :=
  if cfg.tagName.isEmpty then GoString.ofString "pointer" else cfg.tagName

theorem getStruct_eq (cfg : Config) (part : GoString) (fs : List (Field × GoVal)) :
    getStruct cfg part fs = structLoop (effTag cfg) part fs none false false := rfl

/-- A field `getStruct` can never return the content of: unexported, or tagged "-". -/
def hiddenIn (tagName : GoString) (f : Field) : Bool :=
  !f.exported || tagHead (f.tag tagName) == GoString.ofString "-"

theorem ofString_dash : GoString.ofString "-" = [45] := by with_unfolding_all rfl

theorem fieldAct_hidden {tagName : GoString} {f : Field} (h : hiddenIn tagName f = true)
    (part : GoString) :
    fieldAct tagName part f = .skip ∨ fieldAct tagName part f = .ignore := by
  have hd : f.exported = true → tagHead (f.tag tagName) = [45] := fun he => by
    simpa [hiddenIn, he, ofString_dash] using h
  have hs := fieldAct_spec tagName part f
  cases ha : fieldAct tagName part f with
  | skip => exact .inl rfl
  | ignore => exact .inr rfl
  | bar => rw [ha] at hs; rw [hd hs.1] at hs; exact absurd hs.2 (by decide)
  | tagHit => rw [ha, ofString_dash] at hs; exact absurd (hd hs.1) hs.2.2.1
  | nameHit =>
    rw [ha] at hs
    have := hd hs.1
    rw [List.isEmpty_iff.1 hs.2.1] at this
    cases this

theorem structLoop_rel {tagName : GoString} {hid : Field → Bool}
    (hh : ∀ f, hid f = true → hiddenIn tagName f = true) (part : GoString) {fs fs'}
    (h : FieldsRel R hid fs fs') : ∀ (ff ff' : Option GoVal) (found ignored : Bool),
    OptRel R ff ff' →
    ExcRel (OptRel R) (structLoop tagName part fs ff found ignored)
      (structLoop tagName part fs' ff' found ignored) := by
  induction h with
  | nil =>
    intro ff ff' found ignored hff
    cases found <;> cases ignored <;> first | exact .error _ | exact .ok hff
  | @hidden f v v' fs fs' hf _ ih =>
    intro ff ff' found ignored hff
    rw [structLoop_cons, structLoop_cons]
    rcases fieldAct_hidden (hh f hf) part with ha | ha <;> rw [ha]
    · exact ih _ _ _ _ hff
    · exact ih _ _ _ _ hff
  | @visible f v v' fs fs' hv _ ih =>
    intro ff ff' found ignored hff
    rw [structLoop_cons, structLoop_cons]
    cases fieldAct tagName part f with
    | skip => exact ih _ _ _ _ hff
    | bar => exact .error _
    | ignore => exact ih _ _ _ _ hff
    | tagHit => exact .ok (.some hv)
    | nameHit => exact ih _ _ _ _ (.some hv)

theorem getStruct_rel {hid : Field → Bool} (hh : ∀ f, hid f = true → hiddenIn (effTag cfg) f = true)
    {fs fs'} (h : FieldsRel R hid fs fs') (part : GoString) :
    ExcRel (OptRel R) (getStruct cfg part fs) (getStruct cfg part fs') :=
  structLoop_rel hh part h none none false false .none

theorem stripIP_rel (hinv : ∀ v v', R v v' → Shape R cfg v v') : ∀ v v', R v v' →
    OptRel R (stripIP v) (stripIP v') := by
  intro v
  induction v using stripIP.induct with
  | case1 v ih =>
    intro v' h
    cases hinv _ _ h with
    | iface hx => cases hx with
      | some hr => exact (ih _ hr :)
  | case2 =>
    intro v' h
    cases hinv _ _ h with
    | iface hx => cases hx; exact .none
  | case3 e v ih =>
    intro v' h
    cases hinv _ _ h with
    | ptr _ hx => cases hx with
      | some hr => exact (ih _ hr :)
  | case4 e =>
    intro v' h
    cases hinv _ _ h with
    | ptr _ hx => cases hx; exact .none
  | case5 v h1 h2 h3 h4 =>
    intro v' h
    cases hinv _ _ h with
    | iface hx => cases hx with
      | none => exact absurd rfl h2
      | some _ => exact (h1 _ rfl).elim
    | ptr _ hx => cases hx with
      | none => exact (h4 _ rfl).elim
      | some _ => exact (h3 _ _ rfl).elim
    | _ => exact .some h

/-- first fields related (or both field lists empty) -/
inductive HeadRel (R : GoVal → GoVal → Prop) : List (Field × GoVal) → List (Field × GoVal) → Prop
  | nil : HeadRel R [] []
  | cons {f f' v v' fs fs'} : R v v' → HeadRel R ((f, v) :: fs) ((f', v') :: fs')

theorem unwrap_hook_rel (hinv : ∀ v v', R v v' → Shape R cfg v v')
    (hw : ∀ fs fs', R (.struct "main.Wrap" fs) (.struct "main.Wrap" fs') → HeadRel R fs fs')
    {v v'} (h : R v v') : OptRel R (Hook.unwrap.apply v) (Hook.unwrap.apply v') := by
  simp only [Hook.apply]
  rcases (stripIP_rel hinv _ _ h).inv with ⟨h1, h2⟩ | ⟨s, s', h1, h2, hs⟩ <;> simp only [h1, h2]
  · exact .some h
  · cases hinv _ _ hs with
    | @struct n fs fs' hg =>
      by_cases hn : n = "main.Wrap"
      · subst hn
        cases hw _ _ hs with
        | nil => exact .some h
        | cons hf => exact .some hf
      · split
        · rename_i heq; cases heq; exact absurd rfl hn
        · split
          · rename_i heq; cases heq; exact absurd rfl hn
          · exact .some h
    | _ => exact .some h

/-- the hooks other than `unwrap` return the value itself, a constant int or nothing -/
theorem relHyps_of (hinv : ∀ v v', R v v' → Shape R cfg v v')
    (hw : cfg.hook = .unwrap → ∀ fs fs',
      R (.struct "main.Wrap" fs) (.struct "main.Wrap" fs') → HeadRel R fs fs')
    (hs : ∀ v, isScalar v = true → R v v) : RelHyps R cfg where
  inv := hinv
  hook := fun v v' h => by
    cases hc : cfg.hook with
    | off | identity => exact .some h
    | unwrap => exact unwrap_hook_rel hinv (hw hc) h
    | const42 => exact .some (hs _ rfl)
    | nilret => exact .none
  reflScalar := hs

end Bexpr.Proofs.Rel
