/-
  Lemmas for the end-to-end files `Props/C16Eval.lean`, `C07Eval.lean`, `C01Eval.lean`.

  PART I  (`Bexpr.Proofs.C16Eval`): the renderer's double-quoted body; the text `X == q body q`
          as a rendering `rho` (stated for its own sake: part II does not go through it); how a
          derivation of size `N` determines what `Peg.run` and `CreateEvaluator` return.
  PART II (`Bexpr.Proofs.C16Steps`): the number of parser steps of `X == q body q`.
-/
import Props.C16
import Props.C11Create

namespace Bexpr.Proofs.C16Eval
open Bexpr Bexpr.Go Bexpr.Eval Bexpr.Peg Bexpr.Driver Bexpr.Proofs.RoundTrip
open Bexpr.Strconv Bexpr.Utf8

/-! ## 1. The renderer's double-quoted body: its first byte, its length -/

theorem escX_head (v : Nat) : ∃ t, escX v = 0x5C :: t := ⟨_, rfl⟩

/-- what the renderer writes for a rune: its UTF-8 encoding, or an escape sequence `\…` of at
    most 10 bytes (the longest is `\U` + 8 hex digits) -/
theorem escapedRuneX22_shape (r : Nat) :
    escapedRuneX22 r = encodeRune r ∨ ∃ c, escapedRuneX22 r = 0x5C :: c ∧ c.length ≤ 9 := by
  unfold escapedRuneX22
  split
  · exact .inr ⟨_, rfl, by simp⟩
  · cases escapedRune_cases r with
    | print _ _ e => exact .inl e
    | quote _ e => exact .inr ⟨_, e, by simp⟩
    | ctl _ _ e => exact .inr ⟨_, e, by simp⟩
    | hex _ e => exact .inr ⟨_, e, by simp⟩
    | bad _ e => exact .inr ⟨_, e, by simp⟩
    | u4 _ _ e => exact .inr ⟨_, e, by simp⟩
    | u8 _ e => exact .inr ⟨_, e, by simp⟩

/-- One round of the renderer's loop on `b :: t`: it consumes `k ≥ 1` bytes and writes either
    these bytes unchanged or an escape sequence `\…` of at most 10 bytes. -/
theorem quoteBodyWith_step (n : Nat) (b : UInt8) (t : GoString) :
    ∃ chunk k, quoteBodyWith escapedRuneX22 (n + 1) (b :: t) =
        chunk ++ quoteBodyWith escapedRuneX22 n ((b :: t).drop k) ∧ 1 ≤ k ∧ k ≤ (b :: t).length ∧
      (chunk = (b :: t).take k ∨ ∃ c, chunk = 0x5C :: c ∧ c.length ≤ 9) := by
  rcases quoteBodyWith_succ escapedRuneX22 n b t with h | ⟨r, w, _, hw1, hw, henc, h⟩
  · exact ⟨_, 1, h, Nat.le_refl 1, by simp, .inr ⟨_, rfl, by simp⟩⟩
  · exact ⟨_, w, h, hw1, hw, henc ▸ escapedRuneX22_shape r⟩

theorem quoteX22_body_head (s : GoString) (hne : s ≠ []) (hsl : s.head? ≠ some 0x2F) :
    ∃ body, quoteX22 s = [0x22] ++ (body ++ [0x22]) ∧ ∃ c t, body = c :: t ∧ c ≠ 47 := by
  cases s with
  | nil => exact absurd rfl hne
  | cons b t =>
    have hb : b ≠ 47 := by
      intro h; subst h; exact hsl rfl
    refine ⟨_, rfl, ?_⟩
    obtain ⟨chunk, k, h, hk, -, rfl | ⟨c, rfl, -⟩⟩ := quoteBodyWith_step t.length b t
    · obtain ⟨k, rfl⟩ : ∃ k', k = k' + 1 := ⟨k - 1, by omega⟩
      exact ⟨b, _, h, hb⟩
    · exact ⟨0x5C, _, h, by decide⟩

theorem quoteBodyWith_length_le (n : Nat) (s : GoString) :
    (quoteBodyWith escapedRuneX22 n s).length ≤ 10 * s.length := by
  induction n generalizing s with
  | zero => cases s <;> simp [quoteBodyWith]
  | succ n ih =>
    cases s with
    | nil => simp [quoteBodyWith]
    | cons b t =>
      obtain ⟨chunk, k, h, hk, hkl, hc⟩ := quoteBodyWith_step n b t
      have h1 : chunk.length ≤ 10 * k := by
        rcases hc with rfl | ⟨c, rfl, hc⟩
        · rw [List.length_take]; omega
        · rw [List.length_cons]; omega
      have h2 := ih ((b :: t).drop k)
      rw [List.length_drop] at h2
      rw [h, List.length_append]
      omega

/-! ## 2. The rendering `X == <q body q>` -/

/-- `X == ` -/
def pre : GoString := [0x58, 0x20, 0x3D, 0x3D, 0x20]

/-- the rendering `X == q body q` (one blank on each side of `==`, nothing else) of the tree
    `X == val` -/
def rho (q : UInt8) (body val : GoString) : Top :=
  ⟨[], .orUp (.andUp (.leaf (.opValue (.bexpr ⟨0x58, [], []⟩) (.eq [32] [32])
    (.str q body val)))), []⟩

theorem rho_text (q : UInt8) (body val : GoString) :
    (rho q body val).text = pre ++ ([q] ++ (body ++ [q])) := by
  simp [rho, pre, Top.text, Sp.text, MatchSp.text, SelX.text, SelSp.text, partsText, OpSp.text,
    OpSp.spell, toksText, ValSp.text, kEq]

theorem rho_ast (q : UInt8) (body val : GoString) :
    norm (rho q body val).ast = .match_ ⟨.bexpr, [[0x58]]⟩ .equal (some val) := rfl

theorem rho_WF (q : UInt8) (body val : GoString) (h : (ValSp.str q body val).WF) :
    (rho q body val).WF := by
  refine ⟨AllIn.nil, ⟨⟨Props.C16.Example.selWF _ _ (by decide) (by decide),
    ⟨by decide, by decide⟩, h⟩, ?_⟩, AllIn.nil⟩
  intro σ hσ
  simp only [MatchSp.lead, Option.some.injEq] at hσ
  subst hσ
  decide

/-! ## 3. Derivations of size `N`, the engine's counter, and `CreateEvaluator` -/

theorem create_of_acceptsIn {text : GoString} {e : Expr} {N : Nat}
    (h : AcceptsIn pinEnv pinGrammar text (.expr e) N) (opts : List Opt)
    (hN : N ≤ effectiveMax (getOpts opts).maxExpressions) :
    createEvaluator pinEnv pinGrammar text opts =
      .ok { ast := e, tagName := (getOpts opts).tagName, hook := (getOpts opts).hook,
            unknown := (getOpts opts).unknown, expression := text } := by
  simp [createEvaluator, Props.C15.run_of_acceptsIn pinEnv pinGrammar _ text h hN,
    ParseOut.accepted]

theorem create_err_of_acceptsIn {text : GoString} {v : PVal} {N : Nat}
    (h : AcceptsIn pinEnv pinGrammar text v N) (opts : List Opt)
    (hN : effectiveMax (getOpts opts).maxExpressions < N) :
    createEvaluator pinEnv pinGrammar text opts = .err := by
  obtain ⟨_, ⟨e, he, _⟩, _⟩ := Props.C15.run_of_acceptsIn_exceeded pinEnv pinGrammar _ text h hN
  exact Props.C11Create.create_err_of_errs _ _ _ _ ⟨e, he⟩

theorem le_of_cnt_le {n : Nat} {text : GoString} {v : PVal} {N : Nat}
    (h : AcceptsIn pinEnv pinGrammar text v N)
    (hfit : (run pinEnv pinGrammar n text).cnt ≤ effectiveMax n) : N ≤ effectiveMax n := by
  apply Nat.le_of_not_lt
  intro hlt
  have := (Props.C15.run_of_acceptsIn_exceeded pinEnv pinGrammar n text h hlt).2.2
  omega

theorem le_of_cnt_lt {text : GoString} {v : PVal} {N : Nat}
    (h : AcceptsIn pinEnv pinGrammar text v N)
    (hfit : (run pinEnv pinGrammar 0 text).cnt < 2 ^ 64) : N ≤ effectiveMax 0 :=
  le_of_cnt_le h (by rw [Props.C11.effectiveMax_zero]; omega)

theorem cnt_of_acceptsIn {n : Nat} {text : GoString} {v : PVal} {N : Nat}
    (h : AcceptsIn pinEnv pinGrammar text v N)
    (hfit : (run pinEnv pinGrammar n text).cnt ≤ effectiveMax n) :
    (run pinEnv pinGrammar n text).cnt = N := by
  rw [Props.C15.run_of_acceptsIn pinEnv pinGrammar n text h (le_of_cnt_le h hfit)]

theorem acceptsIn_of_accepted {n : Nat} {text : GoString}
    (h : (run pinEnv pinGrammar n text).accepted = true) :
    AcceptsIn pinEnv pinGrammar text (run pinEnv pinGrammar n text).val
      (run pinEnv pinGrammar n text).cnt ∧
    (run pinEnv pinGrammar n text).cnt ≤ effectiveMax n := by
  obtain ⟨N, hN, hd⟩ := (Props.C15.run_accepts_iff_budget pinEnv pinGrammar n text _).1 ⟨h, rfl⟩
  have hc : (run pinEnv pinGrammar n text).cnt = N := by
    rw [Props.C15.run_of_acceptsIn pinEnv pinGrammar n text hd hN]
  rw [hc]
  exact ⟨hd, hN⟩

/-- the form the kernel can compute: `PVal` has no decidable equality, the value is compared
    through `valExpr` -/
theorem acceptsIn_of_run {n : Nat} {text : GoString} {e : Expr}
    (he : (run pinEnv pinGrammar n text).errs = [])
    (hv : Props.C16.Example.valExpr (run pinEnv pinGrammar n text).val = some e) :
    AcceptsIn pinEnv pinGrammar text (.expr e) (run pinEnv pinGrammar n text).cnt ∧
    (run pinEnv pinGrammar n text).cnt ≤ effectiveMax n := by
  have h := acceptsIn_of_accepted (n := n) (text := text) (by rw [ParseOut.accepted, he]; rfl)
  generalize (run pinEnv pinGrammar n text).val = v at h hv
  cases v <;> simp [Props.C16.Example.valExpr] at hv
  subst hv
  exact h

end Bexpr.Proofs.C16Eval

/-
  PART II — the NUMBER OF PARSER STEPS of `X == <literal>`.

  `Proofs/RoundTrip*.lean` build `Sem`-derivations (no size).  The end-to-end literal theorem
  (`Props/C16Eval.lean`) needs the size `N` of the derivation, because the model of pigeon's
  `newParser` turns the budget 0 ("unlimited") into `math.MaxUint64`.  Here the derivation of the
  one text shape `X == q body q` is rebuilt with sizes (`SemN`), mirroring the lemmas of
  `Proofs/RoundTripLex/Sel/Match/Expr.lean` step by step:

      N ≤ 576 + 20 · |body|     (double-quoted)
      N ≤ 540 + 20 · |body|     (backquoted)

  `EatsB … B` is `Eats …` with a derivation of size `≤ B`, `FailsB … B` likewise.  Every bound is
  an upper bound (a multi-byte rune is counted once per byte).  The constants in the statements
  (9, 19, `+ 32`, `+ 53`, …) are the numbers of nodes of the rule bodies walked, one per grammar
  operator and leaf, summed by the combinators of §1.
-/

namespace Bexpr.Proofs.C16Steps
open Bexpr Bexpr.Peg Bexpr.Driver Bexpr.Proofs.RoundTrip Bexpr.Proofs.C16Eval

/-! ## 0. Leaves have size 1 -/

theorem semN_lit {rule : String} {ws : List Nat} {ic : Bool} {fr : Frame} {pt : Pt}
    {errs : List PErr} {o : SemOut} (h : Sem E G rule (.lit ws ic) fr pt errs o) :
    SemN E G rule (.lit ws ic) fr pt errs o 1 := by
  cases h with
  | lit_ok h => exact .lit_ok h
  | lit_fail h => exact .lit_fail h
  | lit_ignoreCase => exact .lit_ignoreCase

theorem semN_cls {rule : String} {chars ranges : List Nat} {classes : List String} {ic inv : Bool}
    {fr : Frame} {pt : Pt} {errs : List PErr} {o : SemOut}
    (h : Sem E G rule (.charClass chars ranges classes ic inv) fr pt errs o) :
    SemN E G rule (.charClass chars ranges classes ic inv) fr pt errs o 1 := by
  cases h with
  | class_ignoreCase => exact .class_ignoreCase
  | class_eof h => exact .class_eof h
  | class_unknown h1 h2 => exact .class_unknown h1 h2
  | class_ok h1 h2 h3 => exact .class_ok h1 h2 h3
  | class_fail h1 h2 h3 => exact .class_fail h1 h2 h3

theorem semN_any {rule : String} {fr : Frame} {pt : Pt} {errs : List PErr} {o : SemOut}
    (h : Sem E G rule .any fr pt errs o) : SemN E G rule .any fr pt errs o 1 := by
  cases h with
  | any_eof h => exact .any_eof h
  | any_ok h => exact .any_ok h

/-! ## 1. Judgements with a size bound -/

def EatsB (rule : String) (e : PExpr) (fr : Frame) (x rest : GoString) (off : Nat)
    (errs : List PErr) (fr' : Frame) (v : PVal) (B : Nat) : Prop :=
  ∃ N, N ≤ B ∧ SemN E G rule e fr (ptAt (x ++ rest) off) errs
    (.res (ptAt rest (off + x.length)) errs fr' v true) N

def FailsB (rule : String) (e : PExpr) (fr : Frame) (s : GoString) (off : Nat)
    (errs : List PErr) (B : Nat) : Prop :=
  ∃ N fr' v, N ≤ B ∧ SemN E G rule e fr (ptAt s off) errs (.res (ptAt s off) errs fr' v false) N

def EatsSeqB (rule : String) (es : List PExpr) (fr : Frame) (x rest : GoString) (off : Nat)
    (errs : List PErr) (fr' : Frame) (vs : List PVal) (B : Nat) : Prop :=
  ∃ N, N ≤ B ∧ SemSeqN E G rule es fr (ptAt (x ++ rest) off) errs
    (.ok (ptAt rest (off + x.length)) errs fr' vs) N

def FailsSeqB (rule : String) (es : List PExpr) (fr : Frame) (s : GoString) (off : Nat)
    (errs : List PErr) (B : Nat) : Prop :=
  ∃ N pt' fr', N ≤ B ∧ SemSeqN E G rule es fr (ptAt s off) errs (.fail pt' errs fr') N

def EatsStarB (rule : String) (e : PExpr) (x rest : GoString) (off : Nat)
    (errs : List PErr) (vs : List PVal) (B : Nat) : Prop :=
  ∃ N, N ≤ B ∧ SemStarN E G rule e (ptAt (x ++ rest) off) errs
    (.done (ptAt rest (off + x.length)) errs vs) N

section
variable {rule : String} {fr fr' fr₁ fr₂ : Frame} {x a b rest s : GoString} {off : Nat}
  {errs : List PErr} {v av : PVal} {vs : List PVal} {e : PExpr} {es : List PExpr}
  {B B' B₁ B₂ : Nat}

theorem EatsB.mono (h : EatsB rule e fr x rest off errs fr' v B) (hb : B ≤ B') :
    EatsB rule e fr x rest off errs fr' v B' := by
  obtain ⟨N, hN, h⟩ := h; exact ⟨N, Nat.le_trans hN hb, h⟩
theorem FailsB.mono (h : FailsB rule e fr s off errs B) (hb : B ≤ B') :
    FailsB rule e fr s off errs B' := by
  obtain ⟨N, f, w, hN, h⟩ := h; exact ⟨N, f, w, Nat.le_trans hN hb, h⟩
theorem EatsSeqB.mono (h : EatsSeqB rule es fr x rest off errs fr' vs B) (hb : B ≤ B') :
    EatsSeqB rule es fr x rest off errs fr' vs B' := by
  obtain ⟨N, hN, h⟩ := h; exact ⟨N, Nat.le_trans hN hb, h⟩
theorem FailsSeqB.mono (h : FailsSeqB rule es fr s off errs B) (hb : B ≤ B') :
    FailsSeqB rule es fr s off errs B' := by
  obtain ⟨N, p, f, hN, h⟩ := h; exact ⟨N, p, f, Nat.le_trans hN hb, h⟩
theorem EatsStarB.mono (h : EatsStarB rule e x rest off errs vs B) (hb : B ≤ B') :
    EatsStarB rule e x rest off errs vs B' := by
  obtain ⟨N, hN, h⟩ := h; exact ⟨N, Nat.le_trans hN hb, h⟩

theorem EatsB.eats (h : EatsB rule e fr x rest off errs fr' v B) :
    Eats rule e fr x rest off errs fr' v := by
  obtain ⟨N, _, h⟩ := h; exact SemRefine.semN_sem h

/-! ### the combinators of `Proofs/RoundTripLex.lean`, with sizes -/

theorem EatsSeqB.nil : EatsSeqB rule [] fr [] rest off errs fr [] 0 :=
  ⟨0, Nat.le_refl _, SemSeqN.nil⟩

theorem EatsSeqB.cons (h1 : EatsB rule e fr a (b ++ rest) off errs fr₁ v B₁)
    (h2 : EatsSeqB rule es fr₁ b rest (off + a.length) errs fr₂ vs B₂) :
    EatsSeqB rule (e :: es) fr (a ++ b) rest off errs fr₂ (v :: vs) (B₁ + B₂) := by
  obtain ⟨N₁, hN₁, h1⟩ := h1
  obtain ⟨N₂, hN₂, h2⟩ := h2
  refine ⟨N₁ + N₂, Nat.add_le_add hN₁ hN₂, ?_⟩
  rw [ptAt_assoc, ptAt_len]
  exact SemSeqN.cons h1 h2

theorem EatsSeqB.one (h1 : EatsB rule e fr a rest off errs fr₁ v B) :
    EatsSeqB rule [e] fr a rest off errs fr₁ [v] B := by
  have := EatsSeqB.cons (b := []) (rest := rest) (by simpa using h1) (EatsSeqB.nil (fr := fr₁))
  simpa using this

theorem EatsSeqB.cast {x' : GoString} (h : EatsSeqB rule es fr x rest off errs fr' vs B)
    (hx : x = x') : EatsSeqB rule es fr x' rest off errs fr' vs B := by subst hx; exact h

theorem EatsB.cast {x' rest' : GoString} (h : EatsB rule e fr x rest off errs fr' v B)
    (hx : x = x') (hr : rest = rest') : EatsB rule e fr x' rest' off errs fr' v B := by
  subst hx; subst hr; exact h

theorem EatsB.seq (h : EatsSeqB rule es fr x rest off errs fr' vs B) :
    EatsB rule (.seq es) fr x rest off errs fr' (.list vs) (B + 1) := by
  obtain ⟨N, hN, h⟩ := h
  exact ⟨N + 1, Nat.add_le_add_right hN 1, SemN.seq_ok h⟩

theorem FailsSeqB.here (h : FailsB rule e fr s off errs B) :
    FailsSeqB rule (e :: es) fr s off errs B := by
  obtain ⟨N, f, w, hN, h⟩ := h
  exact ⟨N, _, _, hN, SemSeqN.fail h⟩

theorem FailsSeqB.later (h1 : EatsB rule e fr a rest off errs fr₁ v B₁)
    (h2 : FailsSeqB rule es fr₁ rest (off + a.length) errs B₂) :
    FailsSeqB rule (e :: es) fr (a ++ rest) off errs (B₁ + B₂) := by
  obtain ⟨N₁, hN₁, h1⟩ := h1
  obtain ⟨N₂, pt', f, hN₂, h2⟩ := h2
  exact ⟨N₁ + N₂, pt', f, Nat.add_le_add hN₁ hN₂, SemSeqN.cons h1 h2⟩

theorem FailsB.seq (h : FailsSeqB rule es fr s off errs B) :
    FailsB rule (.seq es) fr s off errs (B + 1) := by
  obtain ⟨N, pt', f, hN, h⟩ := h
  exact ⟨N + 1, _, _, Nat.add_le_add_right hN 1, SemN.seq_fail h⟩

theorem EatsB.labeled {l : String} (hl : l ≠ "") (h : EatsB rule e [] x rest off errs fr' v B) :
    EatsB rule (.labeled l e) fr x rest off errs ((l, v) :: fr) v (B + 1) := by
  obtain ⟨N, hN, h⟩ := h
  have := SemN.labeled_ok (fr := fr) (l := l) h
  have hl' : (l != "") = true := by simpa using hl
  rw [if_pos hl'] at this
  exact ⟨N + 1, Nat.add_le_add_right hN 1, this⟩

theorem FailsB.labeled {l : String} (h : FailsB rule e [] s off errs B) :
    FailsB rule (.labeled l e) fr s off errs (B + 1) := by
  obtain ⟨N, f, w, hN, h⟩ := h
  exact ⟨N + 1, _, _, Nat.add_le_add_right hN 1, SemN.labeled_fail h⟩

theorem EatsB.action {name : String} (h : EatsB rule e fr x rest off errs fr' v B)
    (ha : E.action name fr' x = .ret av none) :
    EatsB rule (.action name e) fr x rest off errs fr' av (B + 1) := by
  obtain ⟨N, hN, h⟩ := h
  have := SemN.action_ret (name := name) (av := av) (err := none) h
    (by rw [sliceFrom_ptAt]; exact ha)
  exact ⟨N + 1, Nat.add_le_add_right hN 1, this⟩

theorem FailsB.action {name : String} (h : FailsB rule e fr s off errs B) :
    FailsB rule (.action name e) fr s off errs (B + 1) := by
  obtain ⟨N, f, w, hN, h⟩ := h
  exact ⟨N + 1, _, _, Nat.add_le_add_right hN 1, SemN.action_fail h⟩

theorem EatsB.ref {name : String} {r : Rule} (hl : lookupRule G name = some r) (hn : name ≠ "")
    (h : EatsB r.shown r.expr [] x rest off errs fr' v B) :
    EatsB rule (.ruleRef name) fr x rest off errs fr v (B + 1) := by
  obtain ⟨N, hN, h⟩ := h
  exact ⟨N + 1, Nat.add_le_add_right hN 1, SemN.ruleRef_res hn hl h⟩

theorem FailsB.ref {name : String} {r : Rule} (hl : lookupRule G name = some r) (hn : name ≠ "")
    (h : FailsB r.shown r.expr [] s off errs B) :
    FailsB rule (.ruleRef name) fr s off errs (B + 1) := by
  obtain ⟨N, f, w, hN, h⟩ := h
  exact ⟨N + 1, _, _, Nat.add_le_add_right hN 1, SemN.ruleRef_res hn hl h⟩

theorem EatsB.opt_some (h : EatsB rule e [] x rest off errs fr' v B) :
    EatsB rule (.zeroOrOne e) fr x rest off errs fr v (B + 1) := by
  obtain ⟨N, hN, h⟩ := h
  exact ⟨N + 1, Nat.add_le_add_right hN 1, SemN.opt_some h⟩

theorem EatsB.opt_none (h : FailsB rule e [] rest off errs B) :
    EatsB rule (.zeroOrOne e) fr [] rest off errs fr .nil (B + 1) := by
  obtain ⟨N, f, w, hN, h⟩ := h
  exact ⟨N + 1, Nat.add_le_add_right hN 1, SemN.opt_none h⟩

theorem EatsB.choice_hit {as : List PExpr} (h : EatsB rule e [] x rest off errs fr' v B) :
    EatsB rule (.choice (e :: as)) fr x rest off errs fr v (B + 1) := by
  obtain ⟨N, hN, h⟩ := h
  exact ⟨N + 1, Nat.add_le_add_right hN 1, SemN.choice (SemChoiceN.hit h)⟩

theorem EatsB.choice_next {as : List PExpr} (h1 : FailsB rule e [] (x ++ rest) off errs B₁)
    (h2 : EatsB rule (.choice as) fr x rest off errs fr' v B₂) :
    EatsB rule (.choice (e :: as)) fr x rest off errs fr' v (B₁ + B₂) := by
  obtain ⟨N₁, f, w, hN₁, h1⟩ := h1
  obtain ⟨N₂, hN₂, h2⟩ := h2
  cases h2 with
  | choice h2 =>
    rename_i N₂'
    exact ⟨N₁ + N₂' + 1, by omega, SemN.choice (SemChoiceN.next h1 h2)⟩

theorem FailsB.choice_nil : FailsB rule (.choice []) fr s off errs 1 :=
  ⟨1, _, _, Nat.le_refl _, SemN.choice SemChoiceN.exhausted⟩

theorem FailsB.choice_cons {as : List PExpr} (h1 : FailsB rule e [] s off errs B₁)
    (h2 : FailsB rule (.choice as) fr s off errs B₂) :
    FailsB rule (.choice (e :: as)) fr s off errs (B₁ + B₂) := by
  obtain ⟨N₁, f₁, w₁, hN₁, h1⟩ := h1
  obtain ⟨N₂, f₂, w₂, hN₂, h2⟩ := h2
  cases h2 with
  | choice h2 =>
    rename_i N₂'
    exact ⟨N₁ + N₂' + 1, _, _, by omega, SemN.choice (SemChoiceN.next h1 h2)⟩

theorem FailsB.notP (h : EatsB rule e [] x rest off errs fr' v B) :
    FailsB rule (.notP e) fr (x ++ rest) off errs (B + 1) := by
  obtain ⟨N, hN, h⟩ := h
  exact ⟨N + 1, _, _, Nat.add_le_add_right hN 1, SemN.notP_res (fr := fr) h⟩

theorem EatsB.notP (h : FailsB rule e [] s off errs B) :
    EatsB rule (.notP e) fr [] s off errs fr .nil (B + 1) := by
  obtain ⟨N, f, w, hN, h⟩ := h
  have := SemN.notP_res (fr := fr) h
  exact ⟨N + 1, Nat.add_le_add_right hN 1, by simpa using this⟩

theorem EatsStarB.stop (h : FailsB rule e [] rest off errs B) :
    EatsStarB rule e [] rest off errs [] B := by
  obtain ⟨N, f, w, hN, h⟩ := h
  exact ⟨N, hN, SemStarN.stop h⟩

theorem EatsStarB.more (h1 : EatsB rule e [] a (b ++ rest) off errs fr₁ v B₁)
    (h2 : EatsStarB rule e b rest (off + a.length) errs vs B₂) :
    EatsStarB rule e (a ++ b) rest off errs (v :: vs) (B₁ + B₂) := by
  obtain ⟨N₁, hN₁, h1⟩ := h1
  obtain ⟨N₂, hN₂, h2⟩ := h2
  refine ⟨N₁ + N₂, Nat.add_le_add hN₁ hN₂, ?_⟩
  rw [ptAt_assoc, ptAt_len]
  exact SemStarN.more h1 h2

theorem EatsB.star (h : EatsStarB rule e x rest off errs vs B) :
    EatsB rule (.zeroOrMore e) fr x rest off errs fr (.list vs) (B + 1) := by
  obtain ⟨N, hN, h⟩ := h
  exact ⟨N + 1, Nat.add_le_add_right hN 1, SemN.star_done h⟩

theorem EatsB.plus (h1 : EatsB rule e [] a (b ++ rest) off errs fr₁ v B₁)
    (h2 : EatsStarB rule e b rest (off + a.length) errs vs B₂) :
    EatsB rule (.oneOrMore e) fr (a ++ b) rest off errs fr (.list (v :: vs)) (B₁ + B₂ + 1) := by
  obtain ⟨N₁, hN₁, h1⟩ := h1
  obtain ⟨N₂, hN₂, h2⟩ := h2
  refine ⟨N₁ + N₂ + 1, by omega, ?_⟩
  rw [ptAt_assoc, ptAt_len]
  exact SemN.plus_done h1 h2

theorem FailsB.plus (h : FailsB rule e [] s off errs B) :
    FailsB rule (.oneOrMore e) fr s off errs (B + 1) := by
  obtain ⟨N, f, w, hN, h⟩ := h
  exact ⟨N + 1, _, _, Nat.add_le_add_right hN 1, SemN.plus_none h⟩

end

/-! ## 2. The lexical layer, with sizes (mirrors `Proofs/RoundTripLex.lean`) -/

section lex
variable {rule : String} {fr : Frame} {rest s : GoString} {off : Nat} {errs : List PErr}

theorem EatsB.lit {ws : List Nat} (x : GoString) (hw : runesOf x = ws) (hx : Asc x) (hr : VT rest) :
    EatsB rule (.lit ws false) fr x rest off errs fr (.bytes x) 1 :=
  ⟨1, Nat.le_refl _, semN_lit (Eats.lit x hw hx hr)⟩

theorem FailsB.lit {ws : List Nat} (x : GoString) (hw : runesOf x = ws) (hx : Asc x) (hs : VT s)
    (h : GoString.isPrefixOf x s = false) : FailsB rule (.lit ws false) fr s off errs 1 := by
  obtain ⟨f, w, h⟩ := Fails.lit (rule := rule) (fr := fr) (off := off) (errs := errs) x hw hx hs h
  exact ⟨1, f, w, Nat.le_refl _, semN_lit h⟩

theorem isPrefixOf_single_cons {k c : UInt8} {t : GoString} (h : c ≠ k) :
    GoString.isPrefixOf [k] (c :: t) = false := by
  have : ¬ k = c := fun e => h e.symm
  simp [GoString.isPrefixOf, this]

theorem isPrefixOf_single_of_headIn {p : Nat → Bool} {k : UInt8} (hk : p k.toNat = true)
    (h : headIn p s = false) : GoString.isPrefixOf [k] s = false := by
  cases s with
  | nil => rfl
  | cons b t =>
    refine isPrefixOf_single_cons fun e => ?_
    subst e
    exact absurd (hk.symm.trans h) (by decide)

theorem EatsB.cls {chars ranges : List Nat} {b : UInt8} (hb : b.toNat < 128)
    (hin : inCls chars ranges b.toNat = true) (hr : VT rest) :
    EatsB rule (.charClass chars ranges [] false false) fr [b] rest off errs fr (.bytes [b]) 1 :=
  ⟨1, Nat.le_refl _, semN_cls (Eats.cls hb hin hr)⟩

theorem FailsB.cls {chars ranges : List Nat} (hca : ClsAsc chars ranges) (hs : VT s)
    (h : headIn (inCls chars ranges) s = false) :
    FailsB rule (.charClass chars ranges [] false false) fr s off errs 1 := by
  obtain ⟨f, w, h⟩ := Fails.cls (rule := rule) (fr := fr) (off := off) (errs := errs) hca hs h
  exact ⟨1, f, w, Nat.le_refl _, semN_cls h⟩

theorem EatsStarB.cls {chars ranges : List Nat} (hca : ClsAsc chars ranges) (x : GoString)
    (hx : Asc x) (hr : VT rest)
    (hin : ∀ b ∈ x, inCls chars ranges b.toNat = true)
    (hstop : headIn (inCls chars ranges) rest = false) :
    EatsStarB rule (.charClass chars ranges [] false false) x rest off errs
      (x.map fun b => .bytes [b]) (x.length + 1) := by
  induction x generalizing off with
  | nil => exact (EatsStarB.stop (FailsB.cls hca hr hstop)).mono (by simp)
  | cons b t ih =>
    exact (EatsStarB.more (a := [b])
      (EatsB.cls hx.head (hin b (List.mem_cons_self ..)) (hx.tail.appendV hr))
      (ih hx.tail (fun c hc => hin c (List.mem_cons_of_mem _ hc)))).mono (by simp; omega)

/-- the rule `_` on a run of `1 + |ws|` blanks: `|ws| + 4` steps -/
theorem eatsB_ws {b : UInt8} {ws : GoString} (hws : AllIn isWs (b :: ws))
    (hstop : headIn isWs rest = false) (hr : VT rest) :
    EatsB rule (.ruleRef "_") fr (b :: ws) rest off errs fr (.list (bytesOf (b :: ws)))
      (ws.length + 4) := by
  have ha : Asc (b :: ws) := hws.asc @isWs_lt
  apply EatsB.ref look_ws (by decide)
  exact (EatsB.plus (a := [b]) (EatsB.cls ha.head hws.head (ha.tail.appendV hr))
    (EatsStarB.cls (by decide) ws ha.tail hr hws.tail hstop)).mono (by omega)

theorem failsB_ws (hs : VT s) (h : headIn isWs s = false) :
    FailsB rule (.ruleRef "_") fr s off errs 3 :=
  FailsB.ref look_ws (by decide) (FailsB.plus (FailsB.cls (by decide) hs h))

theorem eatsB_optWs {ws : GoString} (hws : AllIn isWs ws)
    (hstop : headIn isWs rest = false) (hr : VT rest) :
    ∃ v, EatsB rule (.zeroOrOne (.ruleRef "_")) fr ws rest off errs fr v (ws.length + 4) := by
  cases ws with
  | nil => exact ⟨_, (EatsB.opt_none (failsB_ws hr hstop)).mono (by simp)⟩
  | cons b t => exact ⟨_, (EatsB.opt_some (eatsB_ws hws hstop hr)).mono (by simp)⟩

theorem eatsB_EOF : EatsB rule (.ruleRef "EOF") fr [] [] off errs fr .nil 3 := by
  apply EatsB.ref look_EOF (by decide)
  exact EatsB.notP ⟨1, _, _, Nat.le_refl _, SemN.any_eof (atEOF_nil off)⟩

theorem eatsB_Identifier {b : UInt8} {x : GoString} (hb : isAlpha b.toNat = true)
    (hx : AllIn isIdc x) (hstop : headIn isIdc rest = false) (hr : VT rest) :
    EatsB rule (.ruleRef "Identifier") fr (b :: x) rest off errs fr (.str (b :: x))
      (x.length + 6) := by
  have hxa : Asc x := hx.asc @isIdc_lt
  apply EatsB.ref look_Identifier (by decide)
  apply EatsB.action (av := .str (b :: x)) (ha := by rw [act_of_sem sem_onIdentifier1]; rfl)
  apply EatsB.seq
  exact (EatsSeqB.cons (a := [b]) (EatsB.cls (isAlpha_lt hb) hb (hxa.appendV hr))
    (EatsSeqB.one (EatsB.star (EatsStarB.cls (by decide) x hxa hr hx hstop)))).mono (by omega)

theorem failsB_Identifier (hs : VT s) (h : headIn isAlpha s = false) :
    FailsB rule (.ruleRef "Identifier") fr s off errs 4 :=
  FailsB.ref look_Identifier (by decide)
    (FailsB.action (FailsB.seq (FailsSeqB.here (FailsB.cls (by decide) hs h))))

end lex

/-! ## 3. Selectors (mirrors `Proofs/RoundTripSel.lean`, `RoundTripMatch.lean` §1) -/

section sel
variable {rule : String} {fr : Frame} {rest s : GoString} {off : Nat} {errs : List PErr}

theorem failsB_IndexExpression (hs : VT s) (h : GoString.isPrefixOf [91] s = false) :
    FailsB rule (.ruleRef "IndexExpression") fr s off errs 9 :=
  FailsB.ref look_IndexExpression (by decide)
    (FailsB.choice_cons (FailsB.action (FailsB.seq (FailsSeqB.here
      (FailsB.lit [91] rfl (by decide) hs h))))
    (FailsB.choice_cons (FailsB.seq (FailsSeqB.here (FailsB.lit [91] rfl (by decide) hs h)))
    (FailsB.choice_cons (FailsB.seq (FailsSeqB.here (FailsB.lit [91] rfl (by decide) hs h)))
      FailsB.choice_nil)))

theorem failsB_SelectorOrIndex (hs : VT s) (h : stopsSel s) :
    FailsB rule (.ruleRef "SelectorOrIndex") fr s off errs 19 := by
  have hdot : GoString.isPrefixOf [46] s = false :=
    isPrefixOf_single_of_headIn (p := selCont) (by decide) h
  have hbr : GoString.isPrefixOf [91] s = false :=
    isPrefixOf_single_of_headIn (p := selCont) (by decide) h
  exact FailsB.ref look_SelectorOrIndex (by decide)
    (FailsB.choice_cons (FailsB.action (FailsB.seq (FailsSeqB.here
      (FailsB.lit [46] rfl (by decide) hs hdot))))
    (FailsB.choice_cons (FailsB.action (FailsB.labeled (failsB_IndexExpression hs hbr)))
    (FailsB.choice_cons (FailsB.action (FailsB.seq (FailsSeqB.here
      (FailsB.lit [46] rfl (by decide) hs hdot))))
      FailsB.choice_nil)))

theorem eatsB_Selector_ident {b : UInt8} {x : GoString} (hb : isAlpha b.toNat = true)
    (hx : AllIn isIdc x) (hstop : stopsSel rest) (hr : VT rest) :
    EatsB rule (.ruleRef "Selector") fr (b :: x) rest off errs fr
      (.sel { ty := .bexpr, path := [b :: x] }) (x.length + 32) := by
  refine (EatsB.ref look_Selector (by decide) (EatsB.choice_hit (EatsB.action (EatsB.seq
    ((EatsSeqB.cons (EatsB.labeled (l := "first") (by decide)
        (eatsB_Identifier (rest := [] ++ rest) hb hx (stopsSel_idc hstop) hr))
      (EatsSeqB.one (EatsB.labeled (l := "rest") (by decide)
        (EatsB.star (EatsStarB.stop (failsB_SelectorOrIndex hr hstop)))))).cast
      (x' := b :: x) (by simp))) ?_))).mono (by omega)
  rw [act_of_sem sem_onSelector2]
  simp [runActionSem, Frame.get, List.find?, restStrings, asStrList]

theorem failsB_JsonPointerSegment (hs : VT s) (h : GoString.isPrefixOf [47] s = false) :
    FailsB rule (.ruleRef "JsonPointerSegment") fr s off errs 4 :=
  FailsB.ref look_JsonPointerSegment (by decide) (FailsB.action (FailsB.seq (FailsSeqB.here
    (FailsB.lit [47] rfl (by decide) hs h))))

theorem failsB_Selector (hs : VT s) (h1 : headIn isAlpha s = false)
    (h2 : GoString.isPrefixOf [34] s = false) :
    FailsB rule (.ruleRef "Selector") fr s off errs 12 :=
  FailsB.ref look_Selector (by decide)
    (FailsB.choice_cons (FailsB.action (FailsB.seq (FailsSeqB.here (FailsB.labeled
      (failsB_Identifier hs h1)))))
    (FailsB.choice_cons (FailsB.action (FailsB.seq (FailsSeqB.here
      (FailsB.lit [34] rfl (by decide) hs h2)))) FailsB.choice_nil))

theorem failsB_Selector_dq (hs : VT s) (h47 : GoString.isPrefixOf [47] s = false)
    (h34 : GoString.isPrefixOf [34] s = false) :
    FailsB rule (.ruleRef "Selector") fr ([34] ++ s) off errs 19 := by
  have hall : VT ([34] ++ s) := VT.cons (by decide) hs
  exact FailsB.ref look_Selector (by decide)
    (FailsB.choice_cons (FailsB.action (FailsB.seq (FailsSeqB.here (FailsB.labeled
      (failsB_Identifier hall rfl)))))
    (FailsB.choice_cons (FailsB.action (FailsB.seq (FailsSeqB.later
      (EatsB.lit [34] rfl (by decide) hs)
      (FailsSeqB.later (a := []) (EatsB.labeled (l := "ptrsegs") (by decide)
        (EatsB.star (EatsStarB.stop (failsB_JsonPointerSegment hs h47))))
      (FailsSeqB.here (FailsB.lit [34] rfl (by decide) hs h34))))))
      FailsB.choice_nil))

end sel

/-! ## 4. Values: numbers that fail, quoted literals (mirrors `Proofs/RoundTripLex.lean` §8,
      `Proofs/RoundTripMatch.lean`) -/

section mat
variable {rule : String} {fr : Frame} {rest s : GoString} {off : Nat} {errs : List PErr}

theorem failsB_IntegerOrFloat (hs : VT s) (h : headIn isDigit s = false) :
    FailsB rule (.ruleRef "IntegerOrFloat") fr s off errs 6 := by
  have h0 : GoString.isPrefixOf [48] s = false :=
    isPrefixOf_single_of_headIn (p := isDigit) (by decide) h
  have h19 : headIn isDigit19 s = false := headIn_mono (fun _ => isDigit_of_19) h
  exact FailsB.ref look_IntegerOrFloat (by decide) (FailsB.seq (FailsSeqB.here
    (FailsB.choice_cons (FailsB.lit [48] rfl (by decide) hs h0)
      (FailsB.choice_cons (FailsB.seq (FailsSeqB.here (FailsB.cls (by decide) hs h19)))
        FailsB.choice_nil))))

theorem failsB_NumberLiteral (hs : VT s) (h : headIn numStart s = false) :
    FailsB rule (.ruleRef "NumberLiteral") fr s off errs 21 := by
  have hd : headIn isDigit s = false := headIn_mono (fun n hn => by simp [numStart, hn]) h
  have hm : GoString.isPrefixOf [45] s = false :=
    isPrefixOf_single_of_headIn (p := numStart) (by decide) h
  have e1 : ∀ fr', EatsB Pinned.Grammar.rule_29.shown (.zeroOrOne (.lit [45] false)) fr' [] s off
      errs fr' .nil 2 := fun _ => EatsB.opt_none (FailsB.lit [45] rfl (by decide) hs hm)
  have f : ∀ fr' es, FailsSeqB Pinned.Grammar.rule_29.shown
      (.zeroOrOne (.lit [45] false) :: .ruleRef "IntegerOrFloat" :: es) fr' s off errs 8 :=
    fun fr' es => FailsSeqB.later (a := []) (e1 fr') (FailsSeqB.here (failsB_IntegerOrFloat hs hd))
  exact FailsB.ref look_NumberLiteral (by decide)
    (FailsB.choice_cons (FailsB.action (FailsB.seq (f _ _)))
      (FailsB.choice_cons (FailsB.seq (f _ _)) FailsB.choice_nil))

/-- `XStringChar <- !'q' .` over the body: 5 steps per rune (bounded by 5 per byte), 4 for the
    stop -/
theorem eatsStarB_until {name : String} {r : Rule} {q : UInt8} (hl : lookupRule G name = some r)
    (hn : name ≠ "") (he : r.expr = .seq [.notP (.lit [q.toNat] false), .any])
    (hq : q.toNat < 128) (body : GoString) (hb : VT body) (hnq : ∀ c ∈ body, c ≠ q)
    (hr : VT rest) :
    ∃ vs, EatsStarB rule (.ruleRef name) body (q :: rest) off errs vs (5 * body.length + 4) := by
  -- one round: a rune with bytes `c :: u'`, `c ≠ q`, passes `!'q'` and is eaten by `.`
  have round : ∀ (off : Nat) (c : UInt8) (u u' rest' : GoString), u = c :: u' → c ≠ q →
      VT (u ++ rest') → Eats r.shown .any [] u rest' off errs [] (.bytes u) →
      EatsB rule (.ruleRef name) [] u rest' off errs [] (.list [.nil, .bytes u]) 5 := by
    intro off c u u' rest' hu hcq hv hany
    subst hu
    apply EatsB.ref hl hn
    rw [he]
    exact EatsB.seq (EatsSeqB.cons (a := [])
      (EatsB.notP (FailsB.lit [q] rfl (Asc.cons hq Asc.nil) hv (isPrefixOf_single_cons hcq)))
      (EatsSeqB.one ⟨1, Nat.le_refl _, semN_any hany⟩))
  have hb' : RunesIn (fun _ => true) body := hb
  clear hb
  induction hb' generalizing off with
  | nil =>
    refine ⟨_, EatsStarB.stop ?_⟩
    apply FailsB.ref hl hn
    rw [he]
    exact FailsB.seq (FailsSeqB.here (FailsB.notP (x := [q]) (EatsB.lit [q] rfl
      (Asc.cons hq Asc.nil) hr)))
  | @asc c t hc _ ht ih =>
    have hrest : VT (t ++ q :: rest) := VT.append ht (VT.cons hq hr)
    obtain ⟨vs, hvs⟩ := ih (off := off + ([c] : GoString).length)
      (fun d hd => hnq d (List.mem_cons_of_mem _ hd))
    exact ⟨_, (EatsStarB.more (a := [c]) (round off c [c] [] _ rfl
      (hnq c (List.mem_cons_self ..)) (VT.cons hc hrest) (Eats.any hc hrest)) hvs).mono
      (by simp; omega)⟩
  | @rune ρ t hv h80 _ ht ih =>
    have hrest : VT (t ++ q :: rest) := VT.append ht (VT.cons hq hr)
    obtain ⟨c, ch, hec, hc80, _⟩ := encodeRune_cons h80
    obtain ⟨vs, hvs⟩ := ih (off := off + (Utf8.encodeRune ρ).length)
      (fun d hd => hnq d (List.mem_append_right _ hd))
    have hlen : 2 ≤ (Utf8.encodeRune ρ).length := encodeRune_length_ge2 h80
    exact ⟨_, (EatsStarB.more (a := Utf8.encodeRune ρ) (round off c _ ch _ hec
      (by intro h; subst h; omega) (VT.rune hv h80 hrest) (Eats.any_rune hv h80 hrest)) hvs).mono
      (by simp; omega)⟩

/-- `'q' XStringChar* 'q'` on `q body q`: 8 steps, plus 5 per byte of the body -/
theorem eatsB_quoted {name : String} {r : Rule} {q : UInt8} (hl : lookupRule G name = some r)
    (hn : name ≠ "") (he : r.expr = .seq [.notP (.lit [q.toNat] false), .any])
    (hq : q.toNat < 128) (body : GoString) (hb : VT body) (hnq : ∀ c ∈ body, c ≠ q)
    (hr : VT rest) :
    ∃ v, EatsB rule (.seq [.lit [q.toNat] false, .zeroOrMore (.ruleRef name),
        .lit [q.toNat] false]) fr ([q] ++ (body ++ [q])) rest off errs fr v
      (5 * body.length + 8) := by
  obtain ⟨vs, hstar⟩ := eatsStarB_until (rule := rule) (off := off + 1) (errs := errs) hl hn he hq
    body hb hnq hr
  have hqa : Asc [q] := Asc.cons hq Asc.nil
  exact ⟨_, (EatsB.seq (EatsSeqB.cons
    (EatsB.lit [q] rfl hqa ((hb.append (VT.cons hq VT.nil)).append hr))
    (EatsSeqB.cons (EatsB.star hstar) (EatsSeqB.one (EatsB.lit [q] rfl hqa hr))))).mono
    (by simp; omega)⟩

/-- the size of `StringLiteral` on `q body q`: 14 (double quote) resp. 12 (backquote) + 5 per
    byte of the body -/
def slBase (q : UInt8) : Nat := if q = 0x22 then 14 else 12

theorem eatsB_StringLiteral {q : UInt8} (hq : q = 0x60 ∨ q = 0x22) (body s' : GoString)
    (hb : VT body) (hnq : ∀ c ∈ body, c ≠ q)
    (hu : Strconv.unquote ([q] ++ (body ++ [q])) = some s') (hr : VT rest) :
    EatsB rule (.ruleRef "StringLiteral") fr ([q] ++ (body ++ [q])) rest off errs fr (.str s')
      (slBase q + 5 * body.length) := by
  have hact : E.action "onStringLiteral2" [] ([q] ++ (body ++ [q])) = .ret (.str s') none := by
    rw [act_of_sem sem_onStringLiteral2]
    simp only [runActionSem, hu]
  rcases hq with rfl | rfl
  · obtain ⟨v, h⟩ := eatsB_quoted (rule := Pinned.Grammar.rule_32.shown) (fr := []) (off := off)
      (errs := errs) look_RawStringChar (by decide) rfl (by decide) body hb hnq hr
    exact (EatsB.ref look_StringLiteral (by decide) (EatsB.choice_hit (EatsB.action
      (EatsB.choice_hit h) hact))).mono (by simp [slBase]; omega)
  · obtain ⟨v, h⟩ := eatsB_quoted (rule := Pinned.Grammar.rule_32.shown) (fr := []) (off := off)
      (errs := errs) look_DoubleStringChar (by decide) rfl (by decide) body hb hnq hr
    have hall : VT ([0x22] ++ (body ++ [0x22]) ++ rest) :=
      (VT.cons (by decide) (hb.append (VT.cons (by decide) VT.nil))).append hr
    exact (EatsB.ref look_StringLiteral (by decide) (EatsB.choice_hit (EatsB.action
      (EatsB.choice_next (FailsB.seq (FailsSeqB.here (FailsB.lit [0x60] rfl (by decide) hall rfl)))
        (EatsB.choice_hit h)) hact))).mono (by simp [slBase]; omega)

/-- `Value` on a quoted literal: `Selector` fails (19 steps on a double quote followed by a
    body that does not start with `/`, 12 on a backquote), `NumberLiteral` fails (21), then
    `StringLiteral` -/
def valBase (q : UInt8) : Nat := if q = 0x22 then 62 else 53

theorem eatsB_Value_str (q : UInt8) (body val : GoString) (h : (ValSp.str q body val).WF)
    (hr : VT rest) :
    EatsB rule (.ruleRef "Value") fr ([q] ++ (body ++ [q])) rest off errs fr (.mval val)
      (valBase q + 5 * body.length) := by
  have hall : VT ([q] ++ (body ++ [q]) ++ rest) := (ValSp.text_vt _ h).append hr
  obtain ⟨hq, hb, hnq, hu, hdq⟩ := h
  have f1 : FailsB Pinned.Grammar.rule_28.shown
      (.action "onValue2" (.labeled "selector" (.ruleRef "Selector"))) []
      ([q] ++ (body ++ [q]) ++ rest) off errs (if q = 0x22 then 21 else 14) := by
    rcases hq with rfl | rfl
    · exact FailsB.action (FailsB.labeled (failsB_Selector hall rfl rfl))
    · obtain ⟨c, t, rfl, hc⟩ := hdq rfl
      exact FailsB.action (FailsB.labeled (failsB_Selector_dq
        ((hb.append (VT.cons (by decide) VT.nil)).append hr) (isPrefixOf_single_cons hc)
        (isPrefixOf_single_cons (hnq c (List.mem_cons_self ..)))))
  have hnum : headIn numStart ([q] ++ (body ++ [q]) ++ rest) = false := by
    rcases hq with rfl | rfl <;> rfl
  refine (EatsB.ref look_Value (by decide) (EatsB.choice_next f1 (EatsB.choice_next
    (FailsB.action (FailsB.labeled (failsB_NumberLiteral hall hnum)))
    (EatsB.choice_hit (EatsB.action (EatsB.labeled (l := "s") (by decide)
      (eatsB_StringLiteral hq body val hb hnq hu hr)) ?_))))).mono ?_
  · rw [act_of_sem sem_onValue8]
    simp only [runActionSem, frame_get_head]
  · rcases hq with rfl | rfl <;> simp [valBase, slBase] <;> omega

end mat

/-! ## 5. `X == q body q`: the match expression and the expression levels
      (mirrors the operator rules and match forms of `Proofs/RoundTripMatch.lean` and the levels of
      `Proofs/RoundTripExpr.lean`) -/

section top
variable {rule : String} {fr : Frame} {rest s : GoString} {off : Nat} {errs : List PErr}

theorem eatsB_MatchEqual {w₁ w₂ : GoString} (h1 : AllIn isWs w₁) (h2 : AllIn isWs w₂)
    (hstop : headIn isWs rest = false) (hr : VT rest) :
    EatsB rule (.ruleRef "MatchEqual") fr (w₁ ++ (kEq ++ w₂)) rest off errs fr (.mop .equal)
      (w₁.length + w₂.length + 12) := by
  have hw2 : VT (w₂ ++ rest) := (h2.asc @isWs_lt).appendV hr
  have hk : VT ((kEq ++ w₂) ++ rest) := by
    rw [List.append_assoc]; exact Asc.appendV (by decide) hw2
  obtain ⟨v1, e1⟩ := eatsB_optWs (rule := Pinned.Grammar.rule_13.shown) (fr := []) (off := off)
    (errs := errs) h1 (rest := (kEq ++ w₂) ++ rest) rfl hk
  obtain ⟨v3, e3⟩ := eatsB_optWs (rule := Pinned.Grammar.rule_13.shown) (fr := [])
    (off := off + w₁.length + kEq.length) (errs := errs) h2 hstop hr
  exact (EatsB.ref look_MatchEqual (by decide) (EatsB.action (EatsB.seq
    (EatsSeqB.cons e1 (EatsSeqB.cons (EatsB.lit kEq rfl (by decide) hw2) (EatsSeqB.one e3))))
    (by rw [act_of_sem sem_onMatchEqual1]; rfl))).mono (by simp; omega)

/-- `pre ++ q body q` bracketed the way `MatchSelectorOpValue` splits it -/
def mtext (q : UInt8) (body : GoString) : GoString :=
  [0x58] ++ (([32] ++ (kEq ++ [32])) ++ ([q] ++ (body ++ [q])))

theorem mtext_eq (q : UInt8) (body : GoString) : mtext q body = pre ++ ([q] ++ (body ++ [q])) := rfl

theorem mtext_vt (q : UInt8) (body val : GoString) (h : (ValSp.str q body val).WF) :
    VT (mtext q body) :=
  Asc.appendV (s := [0x58, 32, 61, 61, 32]) (by decide) (ValSp.text_vt _ h)

theorem eatsB_MatchSelectorOpValue (q : UInt8) (body val : GoString)
    (h : (ValSp.str q body val).WF) :
    EatsB rule (.ruleRef "MatchSelectorOpValue") fr (mtext q body) [] off errs fr
      (.expr (.match_ ⟨.bexpr, [[0x58]]⟩ .equal (some val)))
      (valBase q + 53 + 5 * body.length) := by
  have hq := h.1
  have hv : VT ([q] ++ (body ++ [q])) := ValSp.text_vt _ h
  have hv0 : VT (([q] ++ (body ++ [q])) ++ []) := hv.append VT.nil
  have hov : VT ((([32] ++ (kEq ++ [32])) ++ ([q] ++ (body ++ [q]))) ++ []) :=
    (Asc.appendV (s := [32] ++ (kEq ++ [32])) (by decide) hv).append VT.nil
  have hnows : headIn isWs (([q] ++ (body ++ [q])) ++ []) = false := by
    rcases hq with rfl | rfl <;> rfl
  have hact : E.action "onMatchSelectorOpValue1" [("value", .mval val),
      ("operator", .mop .equal), ("selector", .sel ⟨.bexpr, [[0x58]]⟩)] (mtext q body) =
      .ret (.expr (.match_ ⟨.bexpr, [[0x58]]⟩ .equal (some val))) none := by
    rw [act_of_sem sem_onMatchSelectorOpValue1]
    simp [runActionSem, Frame.get, List.find?]
  exact (EatsB.ref look_MatchSelectorOpValue (by decide) (EatsB.action (EatsB.seq
    (EatsSeqB.cons (EatsB.labeled (l := "selector") (by decide)
      (eatsB_Selector_ident (b := 0x58) (x := []) (by decide) (by decide) rfl hov))
    (EatsSeqB.cons (EatsB.labeled (l := "operator") (by decide) (EatsB.choice_hit
      (eatsB_MatchEqual (w₁ := [32]) (w₂ := [32]) (by decide) (by decide) hnows hv0)))
    (EatsSeqB.one (EatsB.labeled (l := "value") (by decide)
      (eatsB_Value_str q body val h VT.nil)))))) hact)).mono (by simp; omega)

theorem eatsB_MatchExpression (q : UInt8) (body val : GoString) (h : (ValSp.str q body val).WF) :
    EatsB rule (.ruleRef "MatchExpression") fr (mtext q body) [] off errs fr
      (.expr (.match_ ⟨.bexpr, [[0x58]]⟩ .equal (some val))) (valBase q + 55 + 5 * body.length) :=
  (EatsB.ref look_MatchExpression (by decide) (EatsB.choice_hit
    (eatsB_MatchSelectorOpValue q body val h))).mono (by omega)

/-- `NotExpression` on the match expression: `"not" …` fails at `X`, `"(" …` fails at `X` -/
theorem eatsB_Not (q : UInt8) (body val : GoString) (h : (ValSp.str q body val).WF) :
    EatsB rule (.ruleRef "NotExpression") fr (mtext q body) [] off errs fr
      (.expr (.match_ ⟨.bexpr, [[0x58]]⟩ .equal (some val)))
      (valBase q + 69 + 5 * body.length) := by
  have hall : VT (mtext q body ++ []) := (mtext_vt q body val h).append VT.nil
  have eP := EatsB.ref (rule := Pinned.Grammar.rule_3.shown) (fr := []) look_ParenthesizedExpression
    (by decide) (EatsB.choice_next
      (FailsB.action (FailsB.seq (FailsSeqB.here (FailsB.lit [40] rfl (by decide) hall rfl))))
      (EatsB.choice_hit (EatsB.action (EatsB.labeled (l := "expr") (by decide)
        (eatsB_MatchExpression (off := off) (errs := errs) q body val h))
        (act_retLabel sem_onParenthesizedExpression12 ..))))
  exact (EatsB.ref look_NotExpression (by decide) (EatsB.choice_next
    (FailsB.action (FailsB.seq (FailsSeqB.here (FailsB.lit kNot rfl (by decide) hall rfl))))
    (EatsB.choice_hit (EatsB.action (EatsB.labeled (l := "expr") (by decide) eP)
      (act_retLabel sem_onNotExpression8 ..))))).mono (by omega)

/-- the shared shape of `AndExpression` / `OrExpression` at the end of the input:
    the first alternative parses the operand, fails at `_`; the second parses it again -/
theorem eatsB_binaryLevel {lo hi : String} {r : Rule} {kw : GoString} {act2 act11 : String}
    {more : List PExpr}
    (hl : lookupRule G hi = some r) (hn : hi ≠ "")
    (he : r.expr = .choice (.action act2 (.seq [.labeled "left" (.ruleRef lo), .ruleRef "_",
        .lit (runesOf kw) false, .ruleRef "_", .labeled "right" (.ruleRef hi)]) ::
      .action act11 (.labeled "expr" (.ruleRef lo)) :: more))
    (hact : lookupSem pinSem act11 = .retLabel "expr")
    {x : GoString} {v : PVal} {B : Nat}
    (ih : ∀ (rule : String) (fr : Frame) (off : Nat) (errs : List PErr),
      EatsB rule (.ruleRef lo) fr x [] off errs fr v B)
    (rule : String) (fr : Frame) (off : Nat) (errs : List PErr) :
    EatsB rule (.ruleRef hi) fr x [] off errs fr v (2 * B + 10) := by
  apply EatsB.ref hl hn
  rw [he]
  exact (EatsB.choice_next
    (FailsB.action (FailsB.seq (FailsSeqB.later (EatsB.labeled (l := "left") (by decide)
      (ih r.shown [] off errs)) (FailsSeqB.here (failsB_ws VT.nil rfl)))))
    (EatsB.choice_hit (EatsB.action
      (EatsB.labeled (l := "expr") (by decide) (ih r.shown [] off errs))
      (act_retLabel hact ..)))).mono (by omega)

theorem eatsB_And (q : UInt8) (body val : GoString) (h : (ValSp.str q body val).WF)
    (rule : String) (fr : Frame) (off : Nat) (errs : List PErr) :
    EatsB rule (.ruleRef "AndExpression") fr (mtext q body) [] off errs fr
      (.expr (.match_ ⟨.bexpr, [[0x58]]⟩ .equal (some val)))
      (2 * (valBase q + 69 + 5 * body.length) + 10) :=
  eatsB_binaryLevel look_AndExpression (by decide) expr_AndExpression sem_onAndExpression11
    (fun rule fr off errs => eatsB_Not q body val h) rule fr off errs

theorem eatsB_Or (q : UInt8) (body val : GoString) (h : (ValSp.str q body val).WF)
    (rule : String) (fr : Frame) (off : Nat) (errs : List PErr) :
    EatsB rule (.ruleRef "OrExpression") fr (mtext q body) [] off errs fr
      (.expr (.match_ ⟨.bexpr, [[0x58]]⟩ .equal (some val)))
      (2 * (2 * (valBase q + 69 + 5 * body.length) + 10) + 10) :=
  eatsB_binaryLevel look_OrExpression (by decide) expr_OrExpression sem_onOrExpression11
    (eatsB_And q body val h) rule fr off errs

/-- the start rule: the first alternative (`_? "(" …`) fails at `X`, the second matches -/
theorem eatsB_Input (q : UInt8) (body val : GoString) (h : (ValSp.str q body val).WF)
    (rule : String) (off : Nat) (errs : List PErr) :
    ∃ fr', EatsB rule Pinned.Grammar.rule_0.expr [] (mtext q body) [] off errs fr'
      (.expr (.match_ ⟨.bexpr, [[0x58]]⟩ .equal (some val)))
      (4 * valBase q + 328 + 20 * body.length) := by
  rw [expr_Input]
  have hall : VT (mtext q body ++ []) := (mtext_vt q body val h).append VT.nil
  have hseq := (EatsSeqB.cons (rule := rule) (off := off) (errs := errs) (a := [])
    (EatsB.opt_none (fr := []) (failsB_ws (hall.append VT.nil) rfl))
    (EatsSeqB.cons (b := []) (EatsB.labeled (l := "expr") (by decide)
      (eatsB_Or q body val h _ _ _ _))
    (EatsSeqB.cons (b := []) (EatsB.opt_none (failsB_ws VT.nil rfl))
      (EatsSeqB.one eatsB_EOF)))).cast (x' := mtext q body) (by simp)
  have f1 : FailsB rule inputAlt1 [] (mtext q body ++ []) off errs 7 :=
    FailsB.action (FailsB.seq (FailsSeqB.later (a := []) (EatsB.opt_none (failsB_ws hall rfl))
      (FailsSeqB.here (FailsB.lit [40] rfl (by decide) hall rfl))))
  exact ⟨_, (EatsB.choice_next f1 (EatsB.choice_hit (EatsB.action (EatsB.seq hseq)
    (act_retLabel sem_onInput17 ..)))).mono (by simp; omega)⟩

/-- **The step count**: 576 (double quote) resp. 540 (backquote), plus 20 per byte of the body. -/
theorem acceptsIn_bound (q : UInt8) (body val : GoString) (h : (ValSp.str q body val).WF) :
    ∃ N, N ≤ 4 * valBase q + 328 + 20 * body.length ∧
      AcceptsIn E G (pre ++ ([q] ++ (body ++ [q])))
        (.expr (.match_ ⟨.bexpr, [[0x58]]⟩ .equal (some val))) N := by
  obtain ⟨fr', N, hN, hd⟩ := eatsB_Input q body val h Pinned.Grammar.rule_0.shown 0 []
  refine ⟨N, hN, Pinned.Grammar.rule_0, ptAt [] (0 + (mtext q body).length), fr', look_Input, ?_⟩
  rw [← mtext_eq, start_next, logRead_vt _ _ _ (mtext_vt q body val h)]
  rw [List.append_nil] at hd
  exact hd

end top

/-! ## 6. The bound in terms of the string -/

section len
open Bexpr.Strconv Bexpr.Utf8

theorem acceptsIn_bound_quoteX22 (s body : GoString)
    (hq : quoteX22 s = [0x22] ++ (body ++ [0x22])) (h2 : ∃ c t, body = c :: t ∧ c ≠ 47) :
    ∃ N, N ≤ 576 + 200 * s.length ∧
      AcceptsIn E G (pre ++ quoteX22 s)
        (.expr (.match_ ⟨.bexpr, [[0x58]]⟩ .equal (some s))) N := by
  obtain ⟨N, hN, h⟩ := acceptsIn_bound 0x22 body s (Props.C16.value_quoteX22_WF s body hq h2)
  have hb : body = quoteBodyWith escapedRuneX22 s.length s := by
    have : quoteX22 s = [0x22] ++ (quoteBodyWith escapedRuneX22 s.length s ++ [0x22]) := rfl
    rw [this] at hq
    exact (List.append_cancel_right (List.append_cancel_left hq)).symm
  have hl := quoteBodyWith_length_le s.length s
  rw [← hb] at hl
  refine ⟨N, ?_, by rw [hq]; exact h⟩
  have : valBase 0x22 = 62 := rfl
  omega

theorem acceptsIn_bound_backtick (s : GoString) (hs : Utf8.validString s = true)
    (hnq : ∀ c ∈ s, c ≠ 0x60 ∧ c ≠ 0x0D) :
    ∃ N, N ≤ 540 + 20 * s.length ∧
      AcceptsIn E G (pre ++ ([0x60] ++ (s ++ [0x60])))
        (.expr (.match_ ⟨.bexpr, [[0x58]]⟩ .equal (some s))) N := by
  obtain ⟨N, hN, h⟩ := acceptsIn_bound 0x60 s s (Props.C16.value_backtick_WF s hs hnq)
  refine ⟨N, ?_, h⟩
  have : valBase 0x60 = 53 := rfl
  omega

end len

end Bexpr.Proofs.C16Steps
