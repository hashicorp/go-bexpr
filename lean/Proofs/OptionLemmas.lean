/-
  Options and evaluation under an option record.  `OptKind`, `Opt.kind`, `Opt.maxArg` … and
  `lastSome` are the vocabulary of C18's statements; a component of a fold that every step
  overwrites or leaves alone holds the last value given (`foldl_lastSome`); evaluation depends on
  the hook only through `Hook.apply` (`*_hook_congr`).
-/
import Bexpr.Eval.Create

namespace Bexpr.Proofs.Options
open Bexpr Bexpr.Go Bexpr.Eval

/-! ### kinds and arguments of options -/

inductive OptKind where
  | maxExpressions | tagName | hook | unknown | nil
  deriving DecidableEq, Repr

end Bexpr.Proofs.Options

namespace Bexpr.Eval
open Bexpr.Proofs.Options Bexpr.Go

def Opt.kind : Opt → OptKind
  | .maxExpressions _ => .maxExpressions
  | .tagName _ => .tagName
  | .hookFn _ => .hook
  | .unknownValue _ => .unknown
  | .nilOpt => .nil

def Opt.maxArg : Opt → Option Nat
  | .maxExpressions n => some n
  | _ => none

def Opt.tagArg : Opt → Option GoString
  | .tagName s => some s
  | _ => none

def Opt.hookArg : Opt → Option Hook
  | .hookFn h => some h
  | _ => none

def Opt.unknownArg : Opt → Option Any
  | .unknownValue v => some v
  | _ => none

end Bexpr.Eval

namespace Bexpr.Proofs.Options
open Bexpr Bexpr.Go Bexpr.Eval

def lastSome {α β : Type} (f : α → Option β) (l : List α) : Option β := (l.filterMap f).getLast?

theorem lastSome_nil {α β : Type} (f : α → Option β) : lastSome f [] = none := rfl

theorem lastSome_cons {α β : Type} (f : α → Option β) (a : α) (l : List α) :
    lastSome f (a :: l) = (lastSome f l).or (f a) := by
  cases h : f a with
  | none => simp [lastSome, h]
  | some b => cases hl : (l.filterMap f).getLast? <;> simp [lastSome, h, hl, List.getLast?_cons]

/-- If every step either overwrites the component `get` with `arg a` or leaves it alone, then
    after a fold the component is the last argument given, else what it was at the start.
    Stated for a component of type `Option β`; `foldl_lastSome_getD` is the form for a component
    of type `β`. -/
theorem foldl_lastSome {α β σ : Type} (step : σ → α → σ) (get : σ → Option β)
    (arg : α → Option β) (h : ∀ s a, get (step s a) = (arg a).or (get s)) (l : List α) (s : σ) :
    get (l.foldl step s) = (lastSome arg l).or (get s) := by
  induction l generalizing s with
  | nil => rfl
  | cons a t ih => rw [List.foldl_cons, ih, h, lastSome_cons, Option.or_assoc]

theorem foldl_lastSome_getD {α β σ : Type} (step : σ → α → σ) (get : σ → β)
    (arg : α → Option β) (h : ∀ s a, get (step s a) = (arg a).getD (get s)) (l : List α) (s : σ) :
    get (l.foldl step s) = (lastSome arg l).getD (get s) := by
  have := foldl_lastSome step (fun s => some (get s)) arg
    (fun s a => by rw [h]; cases arg a <;> rfl) l s
  cases hl : lastSome arg l <;> rw [hl] at this <;> exact Option.some.inj this

theorem pairwise_mem {α : Type} {R : α → α → Prop} (hs : ∀ a b, R a b → R b a)
    {l : List α} (hp : l.Pairwise R) : ∀ x ∈ l, ∀ y ∈ l, x = y ∨ R x y := by
  induction hp with
  | nil => intro x hx; cases hx
  | @cons a t hab _ ih =>
    intro x hx y hy
    rcases List.mem_cons.1 hx with rfl | hx' <;> rcases List.mem_cons.1 hy with rfl | hy'
    · exact .inl rfl
    · exact .inr (hab y hy')
    · exact .inr (hs _ _ (hab x hx'))
    · exact ih x hx' y hy'

theorem apply_nil_comm (o : Options) (b : Opt) :
    Opt.apply (Opt.apply o .nilOpt) b = Opt.apply (Opt.apply o b) .nilOpt := rfl

/-! ### evaluation depends on the hook only through `Hook.apply`

    Two hooks that agree as functions are interchangeable at every level from `getStep` up to
    `evaluate`; in particular the identity hook and no hook. -/

/-- `.off` is not special: it behaves as the hook `some`. -/
theorem applyHook_eq (cfg : Config) (r : Except GetErr RV) :
    getStep.applyHook cfg r =
      match r with
      | .error e => .error e
      | .ok none => .error .hookNil
      | .ok (some v) =>
        match cfg.hook.apply v with
        | none => .error .hookNil
        | some v' => .ok (some v') := by
  unfold getStep.applyHook
  rcases r with e | (_ | v)
  · rfl
  · rfl
  · cases cfg.hook <;> rfl

theorem getStruct_hook (cfg : Config) (h : Hook) (part : GoString) (fs : List (Field × GoVal)) :
    getStruct { cfg with hook := h } part fs = getStruct cfg part fs := rfl

theorem collLoop_congr (f f' : Opts → Out) (o o' : Opts) (op : CollOp) (b : Binding)
    {ι : Type} (idx : List ι) (g g' : ι → List LocalVar)
    (h : ∀ i ∈ idx, f { o with locals := o.locals ++ g i } =
      f' { o' with locals := o'.locals ++ g' i }) :
    collLoop f o op b (idx.map g) = collLoop f' o' op b (idx.map g') := by
  induction idx with
  | nil => rfl
  | cons i rest ih =>
    simp only [List.map_cons, collLoop]
    rw [h i (List.mem_cons_self ..), ih fun j hj => h j (List.mem_cons_of_mem _ hj)]

section hooks
variable (h h' : Hook) (hh : ∀ v, h.apply v = h'.apply v)
include hh

theorem getStep_hook_congr (t part : GoString) (cur : RV) :
    getStep ⟨t, h⟩ part cur = getStep ⟨t, h'⟩ part cur := by
  unfold getStep
  split <;> simp only [applyHook_eq, hh, getStruct_hook ⟨t, h'⟩ h]

theorem getLoop_hook_congr (t : GoString) (ps : List GoString) (cur : RV) :
    getLoop ⟨t, h⟩ ps cur = getLoop ⟨t, h'⟩ ps cur := by
  induction ps generalizing cur with
  | nil => rfl
  | cons p ps ih =>
    simp only [getLoop, getStep_hook_congr h h' hh]
    split
    · rfl
    · exact ih _

theorem get_hook_congr (t : GoString) (ps : List GoString) (v : Any) :
    get ⟨t, h⟩ ps v = get ⟨t, h'⟩ ps v := by
  unfold Go.get
  split
  · rfl
  · rw [getLoop_hook_congr h h' hh]

theorem getValue_hook_congr (o : Opts) (d : Any) (path : List GoString) :
    getValue { o with hook := h } d path = getValue { o with hook := h' } d path := by
  simp only [getValue, evaluateNotPresent, Opts.cfg, get_hook_congr h h' hh]
  rfl

theorem evaluate_hook_congr (re : RegexOracle) (e : Expr) (o : Opts) (d : Any) :
    evaluate re e { o with hook := h } d = evaluate re e { o with hook := h' } d := by
  induction e generalizing o with
  | not e ih => simp only [evaluate, ih]
  | and l r ihl ihr | or l r ihl ihr => simp only [evaluate, ihl, ihr]
  | match_ sel op raw => simp only [evaluate, evaluateMatch, getValue_hook_congr h h' hh]
  | coll op sel b inner ih =>
    have hc : ∀ l, collLoop (fun o' => evaluate re inner o' d) { o with hook := h } op b l =
        collLoop (fun o' => evaluate re inner o' d) { o with hook := h' } op b l := fun l => by
      have := collLoop_congr (fun o' => evaluate re inner o' d) (fun o' => evaluate re inner o' d)
        { o with hook := h } { o with hook := h' } op b l id id
        fun bs _ => ih { o with locals := o.locals ++ bs }
      rwa [List.map_id] at this
    simp only [evaluate, getValue_hook_congr h h' hh, hc]

end hooks

end Bexpr.Proofs.Options
