/-
  Proofs.Utf8Text — well-formed UTF-8 text as the parser's `read` sees it: `RunesIn p s` (`s` is
  made of ASCII bytes and encodings of valid runes `≥ 0x80`, all runes in `p`), `VT` (no condition
  on the runes; it is Go's `utf8.ValidString`, `vt_iff_validString`), closure under `++` and under
  splitting off a well-formed prefix, the decision procedure `runesIn_iff`, and `quoteX22_body`: the
  renderer's double-quoted literal is `"`, valid text without `"`, `"` for EVERY byte string
  (invalid bytes and non-printable runes travel as ASCII escapes, printable runes as their
  encoding).
-/
import Proofs.UnquoteLemmas

namespace Bexpr.Proofs.RoundTrip
open Bexpr Bexpr.Utf8

/-! ## ASCII -/

/-- every byte of `s` is ASCII -/
def Asc (s : GoString) : Prop := ∀ b ∈ s, b.toNat < 128

theorem Asc.nil : Asc [] := by intro b hb; cases hb
theorem Asc.cons {b : UInt8} {t : GoString} (hb : b.toNat < 128) (ht : Asc t) : Asc (b :: t) := by
  intro c hc
  rcases List.mem_cons.1 hc with rfl | h
  · exact hb
  · exact ht c h
theorem Asc.head {b : UInt8} {t : GoString} (h : Asc (b :: t)) : b.toNat < 128 :=
  h b (List.mem_cons_self ..)
theorem Asc.tail {b : UInt8} {t : GoString} (h : Asc (b :: t)) : Asc t :=
  fun c hc => h c (List.mem_cons_of_mem _ hc)
theorem Asc.append {s t : GoString} (hs : Asc s) (ht : Asc t) : Asc (s ++ t) := by
  intro c hc
  rcases List.mem_append.1 hc with h | h
  · exact hs c h
  · exact ht c h
theorem Asc.left {s t : GoString} (h : Asc (s ++ t)) : Asc s :=
  fun c hc => h c (List.mem_append_left _ hc)
theorem Asc.right {s t : GoString} (h : Asc (s ++ t)) : Asc t :=
  fun c hc => h c (List.mem_append_right _ hc)

instance (s : GoString) : Decidable (Asc s) := by unfold Asc; infer_instance

/-! ## Encodings of non-ASCII runes -/

theorem encodeRune_length_ge2 {r : Nat} (h80 : 0x80 ≤ r) : 2 ≤ (encodeRune r).length := by
  obtain ⟨_, _, _, he, _⟩ := encodeRune_multibyte h80
  simp [he]

theorem encodeRune_cons {r : Nat} (h80 : 0x80 ≤ r) :
    ∃ c ch, encodeRune r = c :: ch ∧ 0x80 ≤ c.toNat ∧ ch ≠ [] := by
  obtain ⟨c, d, t, he, hge⟩ := encodeRune_multibyte h80
  exact ⟨c, d :: t, he, hge c List.mem_cons_self, List.cons_ne_nil _ _⟩

theorem encodeRune_append_inj {r r' : Nat} {t t' : GoString} (hv : validRune r = true)
    (hv' : validRune r' = true) (h : encodeRune r ++ t = encodeRune r' ++ t') :
    r = r' ∧ t = t' := by
  have h1 := decodeRune_encodeRune_valid r hv t
  have h2 := decodeRune_encodeRune_valid r' hv' t'
  rw [h, h2] at h1
  have hr : r' = r := congrArg Prod.fst h1
  subst hr
  exact ⟨rfl, List.append_cancel_left h⟩

/-! ## Text all of whose runes are well formed and satisfy `p` -/

/-- `s` is a concatenation of ASCII bytes and well-formed multi-byte encodings whose runes all
    satisfy `p` -/
inductive RunesIn (p : Nat → Bool) : GoString → Prop
  | nil : RunesIn p []
  | asc {b : UInt8} {t : GoString} : b.toNat < 128 → p b.toNat = true → RunesIn p t →
      RunesIn p (b :: t)
  | rune {r : Nat} {t : GoString} : validRune r = true → 0x80 ≤ r → p r = true → RunesIn p t →
      RunesIn p (encodeRune r ++ t)

theorem RunesIn.inv {p : Nat → Bool} {s : GoString} (h : RunesIn p s) :
    s = [] ∨ (∃ b t, s = b :: t ∧ b.toNat < 128 ∧ p b.toNat = true ∧ RunesIn p t) ∨
    (∃ r t, s = encodeRune r ++ t ∧ validRune r = true ∧ 0x80 ≤ r ∧ p r = true ∧ RunesIn p t) := by
  cases h with
  | nil => exact .inl rfl
  | asc hb hp ht => exact .inr (.inl ⟨_, _, rfl, hb, hp, ht⟩)
  | rune hv h80 hp ht => exact .inr (.inr ⟨_, _, rfl, hv, h80, hp, ht⟩)

theorem RunesIn.inv_asc {p : Nat → Bool} {b : UInt8} {t : GoString} (hb : b.toNat < 128)
    (h : RunesIn p (b :: t)) : p b.toNat = true ∧ RunesIn p t := by
  rcases h.inv with h0 | ⟨b', t', e, _, hp, ht⟩ | ⟨r, t', e, _, h80, _, _⟩
  · cases h0
  · cases e; exact ⟨hp, ht⟩
  · obtain ⟨c, ch, he, hc, _⟩ := encodeRune_cons h80
    rw [he] at e
    cases e
    omega

theorem RunesIn.inv_rune {p : Nat → Bool} {r : Nat} {t : GoString} (hv : validRune r = true)
    (h80 : 0x80 ≤ r) (h : RunesIn p (encodeRune r ++ t)) : p r = true ∧ RunesIn p t := by
  rcases h.inv with h0 | ⟨b', t', e, hb, _, _⟩ | ⟨r', t', e, hv', h80', hp, ht⟩
  · obtain ⟨c, ch, he, _, _⟩ := encodeRune_cons h80
    rw [he] at h0; cases h0
  · obtain ⟨c, ch, he, hc, _⟩ := encodeRune_cons h80
    rw [he] at e
    cases e
    omega
  · obtain ⟨rfl, rfl⟩ := encodeRune_append_inj hv hv' e
    exact ⟨hp, ht⟩

theorem RunesIn.mono {p q : Nat → Bool} (hpq : ∀ n, p n = true → q n = true) {s : GoString}
    (h : RunesIn p s) : RunesIn q s := by
  induction h with
  | nil => exact .nil
  | asc hb hp _ ih => exact .asc hb (hpq _ hp) ih
  | rune hv h80 hp _ ih => exact .rune hv h80 (hpq _ hp) ih

theorem RunesIn.append {p : Nat → Bool} {s t : GoString} (hs : RunesIn p s) (ht : RunesIn p t) :
    RunesIn p (s ++ t) := by
  induction hs with
  | nil => exact ht
  | asc hb hp _ ih => exact .asc hb hp ih
  | rune hv h80 hp _ ih => rw [List.append_assoc]; exact .rune hv h80 hp ih

theorem RunesIn.drop {p q : Nat → Bool} {s t : GoString} (hs : RunesIn p s)
    (h : RunesIn q (s ++ t)) : RunesIn q t := by
  induction hs with
  | nil => exact h
  | asc hb _ _ ih => exact ih (RunesIn.inv_asc hb h).2
  | rune hv h80 _ _ ih =>
    rw [List.append_assoc] at h
    exact ih (RunesIn.inv_rune hv h80 h).2

theorem RunesIn.take {p q : Nat → Bool} {s t : GoString} (hs : RunesIn p s)
    (h : RunesIn q (s ++ t)) : RunesIn q s := by
  induction hs with
  | nil => exact .nil
  | asc hb _ _ ih =>
    obtain ⟨h1, h2⟩ := RunesIn.inv_asc hb h
    exact .asc hb h1 (ih h2)
  | rune hv h80 _ _ ih =>
    rw [List.append_assoc] at h
    obtain ⟨h1, h2⟩ := RunesIn.inv_rune hv h80 h
    exact .rune hv h80 h1 (ih h2)

theorem RunesIn.of_asc {p : Nat → Bool} {s : GoString}
    (h : ∀ b ∈ s, b.toNat < 128 ∧ p b.toNat = true) : RunesIn p s := by
  induction s with
  | nil => exact .nil
  | cons b t ih =>
    exact .asc (h b (List.mem_cons_self ..)).1 (h b (List.mem_cons_self ..)).2
      (ih fun c hc => h c (List.mem_cons_of_mem _ hc))

/-- if `s` is in the class and is ASCII, every byte of `s` satisfies `p` (no multi-byte encoding
    is ASCII) -/
theorem RunesIn.bytes_asc {p : Nat → Bool} {s : GoString} (h : RunesIn p s) (hs : Asc s) :
    ∀ b ∈ s, p b.toNat = true := by
  induction h with
  | nil => intro b hb; cases hb
  | asc hb hp _ ih =>
    intro c hc
    rcases List.mem_cons.1 hc with rfl | hc
    · exact hp
    · exact ih hs.tail c hc
  | rune hv h80 _ _ _ =>
    obtain ⟨c, ch, he, hc, _⟩ := encodeRune_cons h80
    rw [he] at hs
    have := hs.head
    omega

/-! ## Valid text -/

/-- well-formed UTF-8 (Go's `utf8.ValidString`, see `vt_iff_validString`) -/
def VT (s : GoString) : Prop := RunesIn (fun _ => true) s

theorem VT.nil : VT [] := RunesIn.nil
theorem VT.cons {b : UInt8} {t : GoString} (hb : b.toNat < 128) (ht : VT t) : VT (b :: t) :=
  RunesIn.asc hb rfl ht
theorem VT.rune {r : Nat} {t : GoString} (hv : validRune r = true) (h80 : 0x80 ≤ r) (ht : VT t) :
    VT (encodeRune r ++ t) := RunesIn.rune hv h80 rfl ht
theorem VT.append {s t : GoString} (hs : VT s) (ht : VT t) : VT (s ++ t) := RunesIn.append hs ht
theorem VT.drop {s t : GoString} (hs : VT s) (h : VT (s ++ t)) : VT t := RunesIn.drop hs h
theorem RunesIn.vt {p : Nat → Bool} {s : GoString} (h : RunesIn p s) : VT s :=
  h.mono fun _ _ => rfl
theorem Asc.vt {s : GoString} (h : Asc s) : VT s := RunesIn.of_asc fun b hb => ⟨h b hb, rfl⟩
/-- ASCII text followed by valid text is valid text -/
theorem Asc.appendV {s t : GoString} (hs : Asc s) (ht : VT t) : VT (s ++ t) := hs.vt.append ht
theorem VT.tail {b : UInt8} {t : GoString} (hb : b.toNat < 128) (h : VT (b :: t)) : VT t :=
  (RunesIn.inv_asc hb h).2
theorem VT.right {s t : GoString} (hs : Asc s) (h : VT (s ++ t)) : VT t := VT.drop hs.vt h

/-! ## The decision procedure; `VT` is `utf8.ValidString` -/

/-- decode rune by rune (Go's `for _, r := range s`): every rune is well formed and in `p` -/
def runesInAux (p : Nat → Bool) : Nat → GoString → Bool
  | _, [] => true
  | 0, _ :: _ => false
  | fuel + 1, s@(_ :: _) =>
    let rw := decodeRune s
    if rw.1 = runeError && rw.2 = 1 then false
    else p rw.1 && runesInAux p fuel (s.drop rw.2)

def runesInB (p : Nat → Bool) (s : GoString) : Bool := runesInAux p s.length s

theorem decodeRune_asc {b : UInt8} (t : GoString) (hb : b.toNat < 128) :
    Utf8.decodeRune (b :: t) = (b.toNat, 1) := decodeRune_1 t hb

theorem runesInAux_succ (p : Nat → Bool) (f : Nat) (s : GoString) (hne : s ≠ []) :
    runesInAux p (f + 1) s =
      (if (decodeRune s).1 = runeError && (decodeRune s).2 = 1 then false
       else p (decodeRune s).1 && runesInAux p f (s.drop (decodeRune s).2)) := by
  cases s with
  | nil => exact absurd rfl hne
  | cons b t => rfl

theorem runesInAux_of {p : Nat → Bool} {s : GoString} (h : RunesIn p s) :
    ∀ fuel, s.length ≤ fuel → runesInAux p fuel s = true := by
  induction h with
  | nil => intro fuel _; cases fuel <;> rfl
  | @asc b t hb hp _ ih =>
    intro fuel hf
    cases fuel with
    | zero => simp at hf
    | succ f =>
      have hne : ¬ (b.toNat = runeError) := by simp [runeError]; omega
      simp only [runesInAux, decodeRune_asc t hb, hne, decide_false, Bool.false_and,
        Bool.false_eq_true, if_false, hp, Bool.true_and, List.drop_succ_cons, List.drop_zero]
      exact ih f (by simpa using hf)
  | @rune r t hv h80 hp _ ih =>
    intro fuel hf
    obtain ⟨c, ch, he, _, _⟩ := encodeRune_cons h80
    have hlen := encodeRune_length_ge2 h80
    have hd := decodeRune_encodeRune r hv h80 t
    cases fuel with
    | zero => rw [he] at hf; simp at hf
    | succ f =>
      have hne : encodeRune r ++ t ≠ [] := by rw [he]; simp
      have hw : ¬ ((encodeRune r).length = 1) := by omega
      rw [runesInAux_succ _ _ _ hne, hd]
      simp only [hw, decide_false, Bool.and_false, Bool.false_eq_true, if_false, hp, Bool.true_and,
        List.drop_left]
      refine ih f ?_
      simp only [List.length_append] at hf
      omega

theorem runesIn_of_aux {p : Nat → Bool} : ∀ (fuel : Nat) (s : GoString),
    runesInAux p fuel s = true → RunesIn p s := by
  intro fuel
  induction fuel with
  | zero =>
    intro s h
    cases s with
    | nil => exact .nil
    | cons b t => simp [runesInAux] at h
  | succ f ih =>
    intro s h
    cases s with
    | nil => exact .nil
    | cons b t =>
      simp only [runesInAux] at h
      split at h
      · cases h
      · rename_i hne
        simp only [Bool.and_eq_true] at h
        obtain ⟨hp, hrest⟩ := h
        by_cases hb : b.toNat < 128
        · rw [decodeRune_asc t hb] at hp hrest
          exact .asc hb hp (ih _ (by simpa using hrest))
        · rcases decodeRune_cases b t with herr | ⟨r, w, hdec, hv, hw1, hw2, henc, hasc⟩
          · rw [herr] at hne
            simp at hne
          · rw [hdec] at hp hrest
            have h80 : 0x80 ≤ r := by
              -- otherwise the one byte of `encodeRune r` is `b`, which is not ASCII
              refine Nat.le_of_not_lt fun hr => hb ?_
              obtain ⟨w', rfl⟩ : ∃ w', w = w' + 1 := ⟨w - 1, by omega⟩
              rw [encodeRune_1 (by omega), List.take_succ_cons] at henc
              rw [← (List.cons.inj henc).1, toNat_toUInt8_of_lt (by omega)]
              exact hr
            have hsplit : b :: t = encodeRune r ++ (b :: t).drop w := by
              rw [henc]; exact (List.take_append_drop w (b :: t)).symm
            rw [hsplit]
            exact .rune hv h80 hp (ih _ hrest)

theorem runesIn_iff (p : Nat → Bool) (s : GoString) : RunesIn p s ↔ runesInB p s = true :=
  ⟨fun h => runesInAux_of h _ (Nat.le_refl _), runesIn_of_aux _ _⟩

instance (p : Nat → Bool) (s : GoString) : Decidable (RunesIn p s) :=
  decidable_of_iff _ (runesIn_iff p s).symm

theorem validStringAux_eq (fuel : Nat) (s : GoString) :
    validStringAux fuel s = runesInAux (fun _ => true) fuel s := by
  induction fuel generalizing s with
  | zero => cases s <;> rfl
  | succ f ih =>
    cases s with
    | nil => rfl
    | cons b t =>
      simp only [validStringAux, runesInAux, ih, Bool.true_and]

/-- **`VT` is Go's `utf8.ValidString`.** -/
theorem vt_iff_validString (s : GoString) : VT s ↔ validString s = true := by
  unfold VT validString
  rw [validStringAux_eq]
  exact runesIn_iff _ s

instance (s : GoString) : Decidable (VT s) := decidable_of_iff _ (vt_iff_validString s).symm

/-! ## The renderer's double-quoted literal is valid text -/

open Bexpr.Strconv

theorem encodeRune_vt {r : Nat} (hv : validRune r = true) : VT (encodeRune r) := by
  by_cases h : r < 0x80
  · rw [encodeRune_1 (by omega)]
    exact VT.cons (by rw [toNat_toUInt8_of_lt (by omega)]; exact h) VT.nil
  · have := VT.rune hv (by omega) VT.nil
    simpa using this

theorem escapedRuneX22_vt {r : Nat} (hv : validRune r = true) : VT (escapedRuneX22 r) := by
  rcases escapedRuneX22_cases r with ⟨_, e⟩ | h
  · rw [e]
    exact encodeRune_vt hv
  · exact Asc.vt fun c hc => (h c hc).1

/-- the renderer's double-quoted literal: `"`, a body of valid text without `"`, `"` — for
    EVERY byte string -/
theorem quoteX22_body (s : GoString) :
    ∃ body, quoteX22 s = [0x22] ++ (body ++ [0x22]) ∧ (∀ c ∈ body, c ≠ 0x22) ∧ VT body :=
  ⟨_, rfl, quoteBodyX22_noQuote _ s,
    quoteBodyWith_induct _ VT.nil (fun _ _ => VT.append)
      (fun v => Asc.vt fun c hc => (hexEsc_bytes (escX_eq v) (by decide) c hc).1)
      (fun _ => escapedRuneX22_vt) _ s⟩

theorem quoteX22_vt (s : GoString) : VT (quoteX22 s) := by
  obtain ⟨body, e, _, hb⟩ := quoteX22_body s
  rw [e]
  exact VT.cons (by decide) (hb.append (VT.cons (by decide) VT.nil))

end Bexpr.Proofs.RoundTrip
