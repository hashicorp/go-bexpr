/-
  Proofs.TableLookup — `lookupRule` (last rule of a name) and `lookupSem` (first entry of a name)
  return the entry at position `i` for the name at position `i` once the names of the table are
  pairwise distinct; for the two pinned tables that is evaluated once, so that a lookup compares
  one pair of names instead of scanning the table.
-/
import Bexpr.Driver

namespace Bexpr.Peg

theorem foldl_lookupRule_of_not_mem {name : String} : ∀ (g : Grammar) (acc : Option Rule),
    name ∉ g.map (·.name) →
    g.foldl (fun acc r => if r.name == name then some r else acc) acc = acc
  | [], _, _ => rfl
  | a :: g, acc, h => by
    rw [List.map_cons, List.mem_cons, not_or] at h
    rw [List.foldl_cons, if_neg (fun e => h.1 (eq_of_beq e).symm)]
    exact foldl_lookupRule_of_not_mem g acc h.2

theorem foldl_lookupRule_of_getElem? {r : Rule} : ∀ (g : Grammar) (acc : Option Rule) (i : Nat),
    (g.map (·.name)).Nodup → g[i]? = some r →
    g.foldl (fun acc r' => if r'.name == r.name then some r' else acc) acc = some r
  | a :: g, acc, 0, hnd, h => by
    cases (Option.some.inj h : a = r)
    rw [List.foldl_cons, if_pos (beq_self_eq_true _)]
    exact foldl_lookupRule_of_not_mem g _ (List.nodup_cons.1 hnd).1
  | a :: g, acc, i + 1, hnd, h =>
    foldl_lookupRule_of_getElem? g _ i (List.nodup_cons.1 hnd).2 h

/-- In a grammar without two rules of one name, each rule is found under its name. -/
theorem lookupRule_of_getElem? {g : Grammar} (hnd : (g.map (·.name)).Nodup) {i : Nat} {r : Rule}
    {name : String} (h : g[i]? = some r) (hn : r.name = name) : lookupRule g name = some r :=
  hn ▸ foldl_lookupRule_of_getElem? g none i hnd h

theorem foldl_lookupRule_some {name : String} : ∀ (g : Grammar) (acc : Option Rule) {r : Rule},
    g.foldl (fun acc r => if r.name == name then some r else acc) acc = some r →
    acc = some r ∨ name ∈ g.map (·.name)
  | [], _, _, h => .inl h
  | a :: g, acc, r, h => by
    rw [List.foldl_cons] at h
    rcases foldl_lookupRule_some g _ h with h' | h'
    · by_cases e : (a.name == name) = true
      · exact .inr (List.mem_cons.2 (.inl (eq_of_beq e).symm))
      · rw [if_neg e] at h'; exact .inl h'
    · exact .inr (List.mem_cons_of_mem _ h')

theorem lookupRule_mem_names {g : Grammar} {name : String} {r : Rule}
    (h : lookupRule g name = some r) : name ∈ g.map (·.name) :=
  (foldl_lookupRule_some g none h).resolve_left nofun

theorem lookupSem_cons (p : String × ActionSem) (tbl : List (String × ActionSem)) (name : String) :
    lookupSem (p :: tbl) name = if p.1 == name then p.2 else lookupSem tbl name := by
  unfold lookupSem
  rw [List.find?_cons]
  cases p.1 == name <;> rfl

/-- In a table without two entries of one name, each entry is found under its name. -/
theorem lookupSem_of_getElem? {n : String} {s : ActionSem} :
    ∀ {tbl : List (String × ActionSem)} {i : Nat}, (tbl.map (·.1)).Nodup →
      tbl[i]? = some (n, s) → lookupSem tbl n = s
  | p :: tbl, 0, _, h => by
    cases (Option.some.inj h : p = (n, s))
    rw [lookupSem_cons, if_pos (beq_self_eq_true _)]
  | p :: tbl, i + 1, hnd, h => by
    have hn : n ∈ tbl.map (·.1) := List.mem_map.2 ⟨_, List.mem_of_getElem? h, rfl⟩
    have hp : ¬ (p.1 == n) = true := fun e => (List.nodup_cons.1 hnd).1 (show p.1 ∈ tbl.map (·.1) from eq_of_beq e ▸ hn)
    rw [lookupSem_cons, if_neg hp]
    exact lookupSem_of_getElem? (List.nodup_cons.1 hnd).2 h

end Bexpr.Peg

namespace Bexpr.Driver
open Bexpr.Peg

/-- the bytes of a name read as one base-256 number: names with distinct numbers are distinct,
    and the kernel compares numbers far more cheaply than strings -/
def nameKey (s : String) : Nat := s.toByteArray.data.toList.foldl (fun n b => 256 * n + b.toNat) 0

theorem nodup_of_nodup_map {α β : Type} (f : α → β) {l : List α} (h : (l.map f).Nodup) : l.Nodup :=
  (List.pairwise_map.1 h).imp fun hne e => hne (congrArg f e)

theorem pinGrammar_names_nodup : (pinGrammar.map (·.name)).Nodup :=
  nodup_of_nodup_map nameKey (by decide +kernel)

theorem pinSem_names_nodup : (pinSem.map (·.1)).Nodup :=
  nodup_of_nodup_map nameKey (by decide +kernel)

/-- the engine treats a reference to the rule `""` as an error -/
theorem lookupRule_pin_ne_empty {name : String} {r : Rule}
    (h : lookupRule pinGrammar name = some r) : name ≠ "" :=
  fun e => (by decide +kernel : "" ∉ pinGrammar.map (·.name)) (e ▸ lookupRule_mem_names h)

theorem lookupRule_pin (i : Nat) {r : Rule} {name : String} (h : pinGrammar[i]? = some r)
    (hn : r.name = name) : lookupRule pinGrammar name = some r :=
  lookupRule_of_getElem? pinGrammar_names_nodup h hn

/-- code block `i` is `act_i` of `Bexpr.Peg.Pinned.Actions` -/
theorem lookupSem_pin (i : Nat) {n : String} {sem : ActionSem} (h : pinSem[i]? = some (n, sem)) :
    lookupSem pinSem n = sem :=
  lookupSem_of_getElem? pinSem_names_nodup h

end Bexpr.Driver
