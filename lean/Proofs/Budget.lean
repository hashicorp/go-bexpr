/-
  Invariants of the step counter of the PEG engine (`Bexpr.Peg.eval`), for every grammar and action
  semantics.  The case analysis over the node forms is done once (`body_shape`): as a function of
  the evaluator for sub-expressions every engine function is a tree of calls (`Shape`); each
  invariant is a rule for `PRes.bind`, a lemma for `starLoop` and an induction over `Shape`.
-/
import Bexpr.Peg.Engine

namespace Bexpr.Proofs.Budget
open Bexpr Bexpr.Peg

/-- Continue with `k` after a result `ok`; pass every other result on. -/
def _root_.Bexpr.Peg.PRes.bind (r : PRes) (k : PState → Frame → PVal → Bool → PRes) : PRes :=
  match r with
  | .ok st fr v m => k st fr v m
  | r => r

theorem bind_bind (r : PRes) (k k' : PState → Frame → PVal → Bool → PRes) :
    (r.bind k).bind k' = r.bind fun st fr v m => (k st fr v m).bind k' := by
  cases r <;> rfl

theorem bind_of_match (r : PRes) (T E : PState → Frame → PVal → PRes) :
    (match r with
      | .ok st fr v true => T st fr v
      | .ok st fr v false => E st fr v
      | r => r) = r.bind fun st fr v m => bif m then T st fr v else E st fr v := by
  cases r with
  | ok _ _ _ m => cases m <;> rfl
  | _ => rfl

theorem seqLoop_cons (f : PExpr → Frame → PState → PRes) (e : PExpr) (es : List PExpr) (fr : Frame)
    (st : PState) (acc : List PVal) :
    seqLoop f (e :: es) fr st acc = (f e fr st).bind fun st' fr' v m =>
      bif m then seqLoop f es fr' st' (v :: acc) else .ok st' fr' .nil false :=
  bind_of_match _ _ _

theorem choiceLoop_cons (f : PExpr → Frame → PState → PRes) (a : PExpr) (as : List PExpr)
    (fr : Frame) (st : PState) :
    choiceLoop f (a :: as) fr st = (f a [] st).bind fun st' _ v m =>
      bif m then .ok st' fr v true else choiceLoop f as fr st' :=
  bind_of_match _ _ _

theorem starLoop_succ (f : Frame → PState → PRes) (k : Nat) (fr : Frame) (st : PState)
    (acc : List PVal) :
    starLoop f (k + 1) fr st acc = (f [] st).bind fun st' _ v m =>
      bif m then starLoop f k fr st' (v :: acc) else .ok st' fr (.list acc.reverse) true :=
  bind_of_match _ _ _

/-- The dispatch part of `eval` (after the tick and the budget check), abstracted over the closure
    `ev = eval env g max fuel` and the iteration bound `k = fuel`.  It does not mention `max`. -/
def body (env : Env) (g : Grammar) (ev : String → PExpr → Frame → PState → PRes) (k : Nat)
    (rule : String) (e : PExpr) (fr : Frame) (st : PState) : PRes :=
  match e with
  | .action name inner =>
    (ev rule inner fr st).bind fun st' fr' v m =>
      bif m then
        match env.action name fr' (sliceFrom st.pt st'.pt) with
        | .ret av none => .ok st' fr' av true
        | .ret av (some msg) => .ok (st'.addErr st.pt.off rule (.action msg)) fr' av true
        | .panic msg => .abort st' msg
      else .ok st' fr' v false
  | .andCode name =>
    match env.pred name fr with
    | .ret b none => .ok st fr .nil b
    | .ret b (some msg) => .ok (st.addErr st.pt.off rule (.action msg)) fr .nil b
    | .panic msg => .abort st msg
  | .notCode name =>
    match env.pred name fr with
    | .ret b none => .ok st fr .nil (!b)
    | .ret b (some msg) => .ok (st.addErr st.pt.off rule (.action msg)) fr .nil (!b)
    | .panic msg => .abort st msg
  | .andP inner =>
    (ev rule inner [] st).bind fun st' _ _ m => .ok { st' with pt := st.pt } fr .nil m
  | .notP inner =>
    (ev rule inner [] st).bind fun st' _ _ m => .ok { st' with pt := st.pt } fr .nil (!m)
  | .any =>
    if atEOF st.pt then .ok st fr .nil false
    else
      let st' := st.read rule
      .ok st' fr (.bytes (sliceFrom st.pt st'.pt)) true
  | .charClass chars ranges classes ignoreCase inverted =>
    if ignoreCase then .abort st "unsupported: ignoreCase class" else
    if atEOF st.pt then .ok st fr .nil false
    else
      match classMatches env chars ranges classes st.pt.rn with
      | none => .abort st "unsupported: unicode class"
      | some hit =>
        if hit != inverted then
          let st' := st.read rule
          .ok st' fr (.bytes (sliceFrom st.pt st'.pt)) true
        else .ok st fr .nil false
  | .choice alts => choiceLoop (ev rule) alts fr st
  | .labeled label inner =>
    (ev rule inner [] st).bind fun st' _ v m =>
      bif m then .ok st' (if label != "" then fr.set label v else fr) v true
      else .ok st' fr v false
  | .lit val ignoreCase =>
    if ignoreCase then .abort st "unsupported: ignoreCase literal" else
    match litLoop rule val st with
    | (st', true) => .ok st' fr (.bytes (sliceFrom st.pt st'.pt)) true
    | (st', false) => .ok { st' with pt := st.pt } fr .nil false
  | .oneOrMore inner =>
    (ev rule inner [] st).bind fun st' _ v m =>
      bif m then starLoop (ev rule inner) k fr st' [v] else .ok st' fr .nil false
  | .ruleRef name =>
    if name == "" then .abort st "invalid rule: missing name" else
    match lookupRule g name with
    | none => .ok (st.addErr st.pt.off rule (.undefinedRule name)) fr .nil false
    | some r => (ev r.shown r.expr [] st).bind fun st' _ v m => .ok st' fr v m
  | .seq es =>
    (seqLoop (ev rule) es fr st []).bind fun st' fr' v m =>
      bif m then .ok st' fr' v true else .ok { st' with pt := st.pt } fr' .nil false
  | .zeroOrMore inner => starLoop (ev rule inner) k fr st []
  | .zeroOrOne inner =>
    (ev rule inner [] st).bind fun st' _ v m =>
      bif m then .ok st' fr v true else .ok st' fr .nil true
  | .unsupported what => .abort st ("unsupported node: " ++ what)

theorem eval_zero (env : Env) (g : Grammar) (max : Nat) (rule : String) (e : PExpr)
    (fr : Frame) (st : PState) : eval env g max 0 rule e fr st = .fuelOut :=
  rfl

theorem eval_succ (env : Env) (g : Grammar) (max fuel : Nat) (rule : String) (e : PExpr)
    (fr : Frame) (st0 : PState) :
    eval env g max (fuel + 1) rule e fr st0 =
      if st0.cnt + 1 > max then .exceeded { st0 with cnt := st0.cnt + 1 }
      else body env g (eval env g max fuel) fuel rule e fr { st0 with cnt := st0.cnt + 1 } := by
  cases e with
  -- the engine matches on `ok … true` / `ok … false`, `body` has `bif` on the flag
  | action | labeled | zeroOrOne | oneOrMore =>
    exact congrArg (fun x => if st0.cnt + 1 > max then PRes.exceeded { st0 with cnt := st0.cnt + 1 }
      else x) (bind_of_match _ _ _)
  | seq es =>
    refine congrArg (fun x => if st0.cnt + 1 > max then PRes.exceeded { st0 with cnt := st0.cnt + 1 }
      else x) ?_
    dsimp only [body]
    cases seqLoop (eval env g max fuel rule) es fr { st0 with cnt := st0.cnt + 1 } [] with
    | ok _ _ _ m => cases m <;> rfl
    | _ => rfl
  | _ => rfl

/-- the last rule of that name wins -/
theorem lookupRule_eq_find (g : Grammar) (name : String) :
    lookupRule g name = g.reverse.find? (·.name == name) := by
  have : ∀ (g : Grammar) (init : Option Rule),
      g.foldl (fun acc r => if r.name == name then some r else acc) init
        = (g.reverse.find? (·.name == name)).or init := by
    intro g
    induction g with
    | nil => intro init; rfl
    | cons x xs ih =>
      intro init
      rw [List.foldl_cons, ih, List.reverse_cons, List.find?_append, Option.or_assoc]
      congr 1
      by_cases hx : (x.name == name) = true <;> simp [hx]
  rw [lookupRule, this, Option.or_none]

theorem lookupRule_some {g : Grammar} {name : String} {r : Rule}
    (h : lookupRule g name = some r) : r ∈ g ∧ r.name = name := by
  rw [lookupRule_eq_find] at h
  exact ⟨List.mem_reverse.1 (List.mem_of_find?_eq_some h), by simpa using List.find?_some h⟩

theorem lookupRule_of_mem {g : Grammar} {r : Rule} (h : r ∈ g) :
    ∃ r', lookupRule g r.name = some r' := by
  rw [lookupRule_eq_find, ← Option.isSome_iff_exists, List.find?_isSome]
  exact ⟨r, List.mem_reverse.2 h, by simp⟩

def finalCnt : PRes → Nat
  | .ok st _ _ _ => st.cnt
  | .exceeded st => st.cnt
  | .abort st _ => st.cnt
  | .fuelOut => 0

theorem read_cnt (st : PState) (rule : String) : (st.read rule).cnt = st.cnt := by
  simp only [PState.read]; split <;> rfl

theorem read_pt_eq (st : PState) (rule : String) :
    (st.read rule).pt = ⟨st.pt.rest.drop st.pt.w, st.pt.off + st.pt.w,
      (Utf8.decodeRune (st.pt.rest.drop st.pt.w)).1,
      (Utf8.decodeRune (st.pt.rest.drop st.pt.w)).2⟩ := by
  simp only [PState.read]
  split <;> rfl

theorem addErr_cnt (st : PState) (off : Nat) (rule : String) (k : ErrKind) :
    (st.addErr off rule k).cnt = st.cnt := rfl

theorem litLoop_cnt (rule : String) : ∀ ws st, (litLoop rule ws st).1.cnt = st.cnt
  | [], _ => rfl
  | w :: ws, st => by
    simp only [litLoop]
    split
    · rfl
    · rw [litLoop_cnt rule ws, read_cnt]

/-- `r` returns (`ok` or `abort`) at counter `c`: what a node does between its calls. -/
def Leaf (c : Nat) : PRes → Prop
  | .ok st _ _ _ => st.cnt = c
  | .abort st _ => st.cnt = c
  | _ => False

/-- An engine function, as a function of the evaluator `ev` and the iteration bound `k`, from a state
    with counter `c`: it returns at `c`; or it calls `ev` at `c` and, on `ok`, goes on from the state
    returned; or it is a repetition loop. -/
inductive Shape : Nat → ((String → PExpr → Frame → PState → PRes) → Nat → PRes) → Prop
  | leaf {c r} : Leaf c r → Shape c fun _ _ => r
  | call {rule e fr st}
      {K : PState → Frame → PVal → Bool → (String → PExpr → Frame → PState → PRes) → Nat → PRes} :
      (∀ st' fr' v m, Shape st'.cnt (K st' fr' v m)) →
      Shape st.cnt fun ev k => (ev rule e fr st).bind fun st' fr' v m => K st' fr' v m ev k
  | star {rule e fr st acc} : Shape st.cnt fun ev k => starLoop (ev rule e) k fr st acc

/-- `K` makes no call (the position reset of `seq`). -/
theorem seqLoop_shape (rule : String) (K : PState → Frame → PVal → Bool → PRes)
    (hK : ∀ st fr v m, Leaf st.cnt (K st fr v m)) : ∀ es fr st acc,
    Shape st.cnt fun ev _ => (seqLoop (ev rule) es fr st acc).bind K
  | [], _, _, _ => .leaf (hK _ _ _ _)
  | e :: es, fr, st, acc => by
    simp only [seqLoop_cons, bind_bind]
    refine .call fun st' fr' v m => ?_
    cases m
    · exact .leaf (hK _ _ _ _)
    · exact seqLoop_shape rule K hK es fr' st' (v :: acc)

theorem choiceLoop_shape (rule : String) : ∀ as fr st,
    Shape st.cnt fun ev _ => choiceLoop (ev rule) as fr st
  | [], _, _ => .leaf rfl
  | a :: as, fr, st => by
    simp only [choiceLoop_cons]
    refine .call fun st' fr' v m => ?_
    cases m
    · exact choiceLoop_shape rule as fr st'
    · exact .leaf rfl

theorem body_shape (env : Env) (g : Grammar) (rule : String) (e : PExpr) (fr : Frame)
    (st : PState) :
    Shape st.cnt fun ev k => body env g ev k rule e fr st := by
  cases e with
  | andP inner | notP inner => exact .call fun _ _ _ _ => .leaf rfl
  | labeled label inner | zeroOrOne inner =>
    exact .call fun _ _ _ m => by cases m <;> exact .leaf rfl
  | action name inner =>
    refine .call fun _ _ _ m => ?_
    cases m
    · exact .leaf rfl
    · refine .leaf ?_
      dsimp only [cond]
      split <;> rfl
  | oneOrMore inner =>
    refine .call fun _ _ _ m => ?_
    cases m
    · exact .leaf rfl
    · exact .star
  | zeroOrMore inner => exact .star
  | choice alts => exact choiceLoop_shape rule alts fr st
  | seq es =>
    exact seqLoop_shape rule _ (fun _ _ _ m => by cases m <;> rfl) es fr st []
  | ruleRef name =>
    dsimp only [body]
    split
    · exact .leaf rfl
    · split
      · exact .leaf rfl
      · exact .call fun _ _ _ _ => .leaf rfl
  | andCode name =>
    simp only [body]
    refine .leaf ?_
    split <;> rfl
  | notCode name =>
    simp only [body]
    refine .leaf ?_
    split <;> rfl
  | any =>
    simp only [body]
    refine .leaf ?_
    split
    · rfl
    · exact read_cnt st rule
  | charClass chars ranges classes ic inv =>
    simp only [body]
    refine .leaf ?_
    repeat' split
    all_goals first | rfl | exact read_cnt st rule
  | lit val ic =>
    simp only [body]
    refine .leaf ?_
    have h := litLoop_cnt rule val st
    repeat' split
    all_goals simp_all [Leaf]
  | unsupported what => exact .leaf rfl

variable {ev ev' : String → PExpr → Frame → PState → PRes}
  {K K' : PState → Frame → PVal → Bool → PRes} {r r' : PRes} {c max : Nat}

def CntGe (n : Nat) : PRes → Prop
  | .ok st _ _ _ => n ≤ st.cnt
  | .exceeded st => n ≤ st.cnt
  | .abort st _ => n ≤ st.cnt
  | .fuelOut => True

theorem CntGe.mono {m n : Nat} (h : m ≤ n) (hr : CntGe n r) : CntGe m r := by
  cases r <;> first | trivial | exact Nat.le_trans h hr

theorem CntGe.finalCnt {n : Nat} (hr : CntGe n r) (hne : r ≠ .fuelOut) :
    n ≤ finalCnt r := by
  cases r <;> first | exact hr | exact absurd rfl hne

theorem Leaf.finalCnt (h : Leaf c r) : finalCnt r = c := by
  cases r <;> simp only [Leaf] at h <;> exact h

theorem Leaf.cntGe (h : Leaf c r) : CntGe c r := by
  cases r <;> simp only [Leaf] at h <;> exact Nat.le_of_eq h.symm

theorem CntGe.bind (h : CntGe c r) (hK : ∀ st fr v m, CntGe st.cnt (K st fr v m)) :
    CntGe c (r.bind K) := by
  cases r with
  | ok st fr v m => exact (hK st fr v m).mono h
  | _ => exact h

theorem starLoop_cntGe (f : Frame → PState → PRes) (hf : ∀ fr st, CntGe st.cnt (f fr st)) :
    ∀ k fr st acc, CntGe st.cnt (starLoop f k fr st acc)
  | 0, _, _, _ => trivial
  | k + 1, fr, st, acc => by
    rw [starLoop_succ]
    refine (hf [] st).bind fun st' _ v m => ?_
    cases m
    · exact Nat.le_refl _
    · exact starLoop_cntGe f hf k fr st' (v :: acc)

theorem Shape.cntGe {F} (hs : Shape c F)
    (hev : ∀ rule e fr st, CntGe st.cnt (ev rule e fr st)) (k : Nat) : CntGe c (F ev k) := by
  induction hs with
  | leaf h => exact h.cntGe
  | call _ ih => exact (hev _ _ _ _).bind ih
  | star => exact starLoop_cntGe _ (hev _ _) _ _ _ _

theorem eval_cntGe (env : Env) (g : Grammar) (max : Nat) :
    ∀ fuel rule e fr st, CntGe (st.cnt + 1) (eval env g max fuel rule e fr st)
  | 0, _, _, _, _ => trivial
  | fuel + 1, rule, e, fr, st => by
    rw [eval_succ]
    split
    · exact Nat.le_refl _
    · exact (body_shape env g rule e fr _).cntGe
        (fun rule e fr st => (eval_cntGe env g max fuel rule e fr st).mono (Nat.le_succ _)) fuel

def Bnd (max : Nat) : PRes → Prop
  | .ok st _ _ _ => st.cnt ≤ max
  | .exceeded st => st.cnt = max + 1
  | .abort st _ => st.cnt ≤ max
  | .fuelOut => True

theorem Leaf.bnd (h : Leaf c r) (hc : c ≤ max) : Bnd max r := by
  cases r <;> simp only [Leaf] at h <;> exact Nat.le_trans (Nat.le_of_eq h) hc

theorem Bnd.bind (h : Bnd max r) (hK : ∀ st fr v m, st.cnt ≤ max → Bnd max (K st fr v m)) :
    Bnd max (r.bind K) := by
  cases r with
  | ok st fr v m => exact hK st fr v m h
  | _ => exact h

theorem starLoop_bnd (max : Nat) (f : Frame → PState → PRes)
    (hf : ∀ fr st, st.cnt ≤ max → Bnd max (f fr st)) :
    ∀ k fr st acc, st.cnt ≤ max → Bnd max (starLoop f k fr st acc)
  | 0, _, _, _, _ => trivial
  | k + 1, fr, st, acc, hst => by
    rw [starLoop_succ]
    refine (hf [] st hst).bind fun st' _ v m h => ?_
    cases m
    · exact h
    · exact starLoop_bnd max f hf k fr st' (v :: acc) h

theorem Shape.bnd {F} (hs : Shape c F)
    (hev : ∀ rule e fr st, st.cnt ≤ max → Bnd max (ev rule e fr st)) (k : Nat) (hc : c ≤ max) :
    Bnd max (F ev k) := by
  induction hs with
  | leaf h => exact h.bnd hc
  | call _ ih => exact (hev _ _ _ _ hc).bind ih
  | star => exact starLoop_bnd max _ (hev _ _) _ _ _ _ hc

theorem eval_bnd (env : Env) (g : Grammar) (max : Nat) :
    ∀ fuel rule e fr st, st.cnt ≤ max → Bnd max (eval env g max fuel rule e fr st)
  | 0, _, _, _, _, _ => trivial
  | fuel + 1, rule, e, fr, st, hst => by
    rw [eval_succ]
    by_cases h : st.cnt + 1 > max
    · rw [if_pos h]
      exact Nat.le_antisymm (Nat.succ_le_succ hst) h
    · rw [if_neg h]
      exact (body_shape env g rule e fr _).bnd (eval_bnd env g max fuel) fuel (Nat.le_of_not_lt h)

/-- `r'` agrees with `r` unless `r` ran out of fuel. -/
def FLe (r r' : PRes) : Prop := r ≠ .fuelOut → r' = r

theorem FLe.refl (r : PRes) : FLe r r := fun _ => rfl

theorem FLe.bind (h : FLe r r') (hK : ∀ st fr v m, FLe (K st fr v m) (K' st fr v m)) :
    FLe (r.bind K) (r'.bind K') := by
  cases r with
  | fuelOut => exact fun h => absurd rfl h
  | ok st fr v m => rw [h nofun]; exact hK st fr v m
  | exceeded s => rw [h nofun]; exact FLe.refl _
  | abort s msg => rw [h nofun]; exact FLe.refl _

theorem starLoop_fle (f f' : Frame → PState → PRes)
    (hf : ∀ fr st, FLe (f fr st) (f' fr st)) :
    ∀ k k' fr st acc, k ≤ k' → FLe (starLoop f k fr st acc) (starLoop f' k' fr st acc)
  | 0, _, _, _, _, _ => fun h => absurd rfl h
  | k + 1, 0, _, _, _, hk => absurd hk (Nat.not_succ_le_zero k)
  | k + 1, k' + 1, fr, st, acc, hk => by
    rw [starLoop_succ, starLoop_succ]
    refine (hf [] st).bind fun st' _ v m => ?_
    cases m
    · exact FLe.refl _
    · exact starLoop_fle f f' hf k k' fr st' (v :: acc) (Nat.le_of_succ_le_succ hk)

theorem Shape.fle {F} (hs : Shape c F)
    (hev : ∀ rule e fr st, FLe (ev rule e fr st) (ev' rule e fr st)) {k k' : Nat} (hk : k ≤ k') :
    FLe (F ev k) (F ev' k') := by
  induction hs with
  | leaf _ => exact FLe.refl _
  | call _ ih => exact (hev _ _ _ _).bind ih
  | star => exact starLoop_fle _ _ (hev _ _) _ _ _ _ _ hk

theorem eval_fle (env : Env) (g : Grammar) (max : Nat) :
    ∀ fuel fuel' rule e fr st, fuel ≤ fuel' →
      FLe (eval env g max fuel rule e fr st) (eval env g max fuel' rule e fr st)
  | 0, _, rule, e, fr, st, _ => fun h => absurd (eval_zero env g max rule e fr st) h
  | fuel + 1, 0, _, _, _, _, h => absurd h (Nat.not_succ_le_zero fuel)
  | fuel + 1, fuel' + 1, rule, e, fr, st, h => by
    rw [eval_succ, eval_succ]
    split
    · exact FLe.refl _
    · exact (body_shape env g rule e fr _).fle
        (fun rule e fr st =>
          eval_fle env g max fuel fuel' rule e fr st (Nat.le_of_succ_le_succ h))
        (Nat.le_of_succ_le_succ h)

/-! Every call ticks the counter and the counter of an `ok` result is at most `max`, so a run from
  counter `c` makes at most `max + 1 - c` nested or successive calls: fuel and iteration bound
  `≥ max + 1 - c` are never used up. -/

theorem Leaf.ne_fuelOut (h : Leaf c r) : r ≠ .fuelOut :=
  fun h' => by rw [h'] at h; exact h

theorem bind_ne_fuelOut (hr : r ≠ .fuelOut)
    (hK : ∀ st fr v m, r = .ok st fr v m → K st fr v m ≠ .fuelOut) : r.bind K ≠ .fuelOut := by
  cases r with
  | ok st fr v m => exact hK st fr v m rfl
  | _ => exact hr

theorem starLoop_noFuelOut (max F₀ : Nat) (f : Frame → PState → PRes)
    (hM : ∀ fr st, CntGe (st.cnt + 1) (f fr st))
    (hB : ∀ fr st, st.cnt ≤ max → Bnd max (f fr st))
    (hN : ∀ fr st, st.cnt ≤ max → max + 1 ≤ F₀ + st.cnt → f fr st ≠ .fuelOut) :
    ∀ k fr st acc, st.cnt ≤ max → max + 1 ≤ F₀ + st.cnt → max + 1 ≤ k + st.cnt →
      starLoop f k fr st acc ≠ .fuelOut
  | 0, _, _, _, _, _, _ => by omega
  | k + 1, fr, st, acc, hst, hF, hk => by
    rw [starLoop_succ]
    refine bind_ne_fuelOut (hN [] st hst hF) fun st' _ v m h => ?_
    have h1 : st.cnt + 1 ≤ st'.cnt := by simpa only [h, CntGe] using hM [] st
    have h2 : st'.cnt ≤ max := by simpa only [h, Bnd] using hB [] st hst
    cases m
    · exact nofun
    · exact starLoop_noFuelOut max F₀ f hM hB hN k fr st' (v :: acc) h2 (by omega) (by omega)

theorem Shape.noFuelOut {F} (hs : Shape c F) {F₀ : Nat}
    (hM : ∀ rule e fr st, CntGe (st.cnt + 1) (ev rule e fr st))
    (hB : ∀ rule e fr st, st.cnt ≤ max → Bnd max (ev rule e fr st))
    (hN : ∀ rule e fr st, st.cnt ≤ max → max + 1 ≤ F₀ + st.cnt → ev rule e fr st ≠ .fuelOut)
    {k : Nat} (hc : c ≤ max) (hF : max + 1 ≤ F₀ + c) (hk : max + 1 ≤ k + c) :
    F ev k ≠ .fuelOut := by
  induction hs with
  | leaf h => exact h.ne_fuelOut
  | @call rule e fr st K _ ih =>
    refine bind_ne_fuelOut (hN _ _ _ _ hc hF) fun st' fr' v m h => ?_
    have h1 : st.cnt + 1 ≤ st'.cnt := by simpa only [h, CntGe] using hM rule e fr st
    have h2 : st'.cnt ≤ max := by simpa only [h, Bnd] using hB rule e fr st hc
    exact ih st' fr' v m h2 (by omega) (by omega)
  | star => exact starLoop_noFuelOut max F₀ _ (hM _ _) (hB _ _) (hN _ _) _ _ _ _ hc hF hk

theorem eval_noFuelOut (env : Env) (g : Grammar) (max : Nat) :
    ∀ fuel rule e fr st, st.cnt ≤ max → max + 1 ≤ fuel + st.cnt →
      eval env g max fuel rule e fr st ≠ .fuelOut
  | 0, _, _, _, _, _, _ => by omega
  | fuel + 1, rule, e, fr, st, hst, hF => by
    rw [eval_succ]
    split
    · exact nofun
    · exact (body_shape env g rule e fr _).noFuelOut (eval_cntGe env g max fuel)
        (eval_bnd env g max fuel) (eval_noFuelOut env g max fuel) (k := fuel)
        (by simp only; omega) (by simp only; omega) (by simp only; omega)

/-- `r` under the smaller budget `max` against `r'` under the larger one -/
def Sim (max : Nat) (r r' : PRes) : Prop :=
  r' = .fuelOut ∨ (finalCnt r' ≤ max ∧ r = r') ∨
    (max < finalCnt r' ∧ ∃ s, r = .exceeded s ∧ s.cnt = max + 1)

theorem Sim.fuelOut : Sim max r .fuelOut := .inl rfl

theorem Sim.same (h : finalCnt r ≤ max) : Sim max r r :=
  .inr (.inl ⟨h, rfl⟩)

theorem Sim.exc {n : Nat} {s : PState} (hs : s.cnt = max + 1) (hn : max < n)
    (hge : CntGe n r') : Sim max (.exceeded s) r' := by
  cases r' with
  | fuelOut => exact .inl rfl
  | _ => exact .inr (.inr ⟨Nat.lt_of_lt_of_le hn hge, s, rfl, hs⟩)

/-- Once the smaller run has stopped, whatever the larger one goes on to do only counts up. -/
theorem Sim.bind (h : Sim max r r')
    (hK : ∀ st fr v m, st.cnt ≤ max → Sim max (K st fr v m) (K' st fr v m))
    (hM : ∀ st fr v m, CntGe st.cnt (K' st fr v m)) : Sim max (r.bind K) (r'.bind K') := by
  rcases h with rfl | ⟨hle, rfl⟩ | ⟨hlt, s, rfl, hs⟩
  · exact Sim.fuelOut
  · cases r with
    | ok st fr v m => exact hK st fr v m hle
    | _ => exact Sim.same hle
  · cases r' with
    | ok st fr v m => exact Sim.exc hs hlt (hM st fr v m)
    | fuelOut => exact Sim.fuelOut
    | _ => exact Sim.exc hs hlt (Nat.le_refl _)

theorem starLoop_sim (max : Nat) (f f' : Frame → PState → PRes)
    (hM : ∀ fr st, CntGe st.cnt (f' fr st))
    (hS : ∀ fr st, st.cnt ≤ max → Sim max (f fr st) (f' fr st)) :
    ∀ k fr st acc, st.cnt ≤ max →
      Sim max (starLoop f k fr st acc) (starLoop f' k fr st acc)
  | 0, _, _, _, _ => Sim.fuelOut
  | k + 1, fr, st, acc, hst => by
    rw [starLoop_succ, starLoop_succ]
    refine (hS [] st hst).bind (fun st' _ v m h => ?_) fun st' _ v m => ?_
    · cases m
      · exact Sim.same h
      · exact starLoop_sim max f f' hM hS k fr st' (v :: acc) h
    · cases m
      · exact Nat.le_refl _
      · exact starLoop_cntGe f' hM k fr st' (v :: acc)

theorem Shape.sim {F} (hs : Shape c F)
    (hM : ∀ rule e fr st, CntGe st.cnt (ev' rule e fr st))
    (hS : ∀ rule e fr st, st.cnt ≤ max → Sim max (ev rule e fr st) (ev' rule e fr st))
    (k : Nat) (hc : c ≤ max) : Sim max (F ev k) (F ev' k) := by
  induction hs with
  | leaf h => exact Sim.same (Nat.le_trans (Nat.le_of_eq h.finalCnt) hc)
  | call hK ih =>
    exact (hS _ _ _ _ hc).bind ih fun st' fr' v m => (hK st' fr' v m).cntGe hM k
  | star => exact starLoop_sim max _ _ (hM _ _) (hS _ _) _ _ _ _ hc

theorem eval_sim (env : Env) (g : Grammar) (max max' : Nat) (hmax : max ≤ max') :
    ∀ fuel rule e fr st, st.cnt ≤ max →
      Sim max (eval env g max fuel rule e fr st) (eval env g max' fuel rule e fr st)
  | 0, rule, e, fr, st, _ => by rw [eval_zero, eval_zero]; exact Sim.fuelOut
  | fuel + 1, rule, e, fr, st, hst => by
    by_cases h : st.cnt + 1 > max
    · rw [eval_succ env g max, if_pos h]
      exact Sim.exc (by simp only; omega) h (eval_cntGe env g max' (fuel + 1) rule e fr st)
    · rw [eval_succ, eval_succ, if_neg h, if_neg (by omega)]
      exact (body_shape env g rule e fr _).sim
        (fun rule e fr st => (eval_cntGe env g max' fuel rule e fr st).mono (Nat.le_succ _))
        (eval_sim env g max max' hmax fuel) fuel (by simp only; omega)

/-- The epilogue of `(*parser).parse`: how `run` turns the result of the start rule into the
    outcome (the final `match` of `run`). -/
def outOf : PRes → ParseOut
  | .ok st _ v true => { val := v, errs := st.errs.reverse, cnt := st.cnt }
  | .ok st _ _ false =>
    if st.errs.isEmpty then
      { val := .nil, errs := [{ off := 0, rule := "", kind := .noMatch }], cnt := st.cnt }
    else { val := .nil, errs := st.errs.reverse, cnt := st.cnt }
  | .exceeded st =>
    { val := .nil, errs := (st.addErr st.pt.off "" .maxExpr).errs.reverse, cnt := st.cnt }
  | .abort st msg =>
    { val := .nil, errs := (st.addErr st.pt.off "" (.panic msg)).errs.reverse, cnt := st.cnt }
  | .fuelOut =>
    { val := .nil, errs := [{ off := 0, rule := "", kind := .panic "fuel" }], cnt := 0 }

def initState (input : GoString) : PState :=
  PState.read { pt := { rest := input, off := 0, rn := 0, w := 0 }, cnt := 0, errs := [] } ""

theorem initState_cnt (input : GoString) : (initState input).cnt = 0 := by
  simp [initState, read_cnt]

/-- `run` with the effective budget given directly. -/
def runMax (env : Env) (g : Grammar) (max : Nat) (input : GoString) : ParseOut :=
  match g with
  | [] => { val := .nil, errs := [{ off := 0, rule := "", kind := .noRule }], cnt := 0 }
  | r0 :: _ =>
    match lookupRule g r0.name with
    | none => { val := .nil, errs := [], cnt := 0 }
    | some start =>
      outOf (eval env g max (max + 2) start.shown start.expr [] (initState input))

theorem run_eq_runMax (env : Env) (g : Grammar) (n : Nat) (input : GoString) :
    run env g n input = runMax env g (effectiveMax n) input := by
  cases g with
  | nil => rfl
  | cons r0 rs =>
    cases h : lookupRule (r0 :: rs) r0.name with
    | none => simp only [run, runMax, h]
    | some start =>
      simp only [run, runMax, h, initState]
      generalize eval env _ _ _ _ _ _ _ = R
      cases R with
      | ok st fr v m => cases m <;> rfl
      | _ => rfl

theorem outOf_cnt (r : PRes) : (outOf r).cnt = finalCnt r := by
  cases r with
  | ok st fr v m =>
    cases m
    · simp only [outOf, finalCnt]; split <;> rfl
    · rfl
  | _ => rfl

theorem Bnd.finalCnt_le (h : Bnd max r) : finalCnt r ≤ max + 1 := by
  cases r <;> simp only [Bnd] at h <;> simp only [finalCnt] <;> omega

/-- each budget with its own fuel `max + 2`, as in `run` -/
theorem eval_two_budgets (env : Env) (g : Grammar) (max max' : Nat) (hmax : max ≤ max')
    (rule : String) (e : PExpr) (fr : Frame) (st : PState) (hst : st.cnt = 0) :
    Sim max (eval env g max (max + 2) rule e fr st) (eval env g max' (max' + 2) rule e fr st) ∧
      eval env g max' (max' + 2) rule e fr st ≠ .fuelOut := by
  have hN := eval_noFuelOut env g max (max + 2) rule e fr st (by omega) (by omega)
  have hN' := eval_noFuelOut env g max' (max' + 2) rule e fr st (by omega) (by omega)
  have hF : eval env g max (max' + 2) rule e fr st = eval env g max (max + 2) rule e fr st :=
    eval_fle env g max (max + 2) (max' + 2) rule e fr st (by omega) hN
  have hS := eval_sim env g max max' hmax (max' + 2) rule e fr st (by omega)
  rw [hF] at hS
  exact ⟨hS, hN'⟩

theorem outOf_exceeded (s : PState) :
    (outOf (.exceeded s)).val = .nil ∧ ∃ e ∈ (outOf (.exceeded s)).errs, e.kind = .maxExpr :=
  ⟨rfl, { off := s.pt.off, rule := "", kind := .maxExpr }, by simp [outOf, PState.addErr], rfl⟩

theorem outOf_sim (h : Sim max r r') (hne : r' ≠ .fuelOut) :
    ((outOf r').cnt ≤ max → outOf r = outOf r') ∧
    (max < (outOf r').cnt →
      (outOf r).val = .nil ∧ (∃ e ∈ (outOf r).errs, e.kind = .maxExpr) ∧
        (outOf r).cnt = max + 1) := by
  rw [outOf_cnt]
  rcases h with h | ⟨hle, h⟩ | ⟨hlt, s, h, hs⟩
  · exact absurd h hne
  · exact ⟨fun _ => by rw [h], fun hlt => by omega⟩
  · subst h
    exact ⟨fun hle => by omega, fun _ => ⟨(outOf_exceeded s).1, (outOf_exceeded s).2, hs⟩⟩

theorem runMax_sim (env : Env) (g : Grammar) (max max' : Nat) (hmax : max ≤ max')
    (input : GoString) :
    ((runMax env g max' input).cnt ≤ max → runMax env g max input = runMax env g max' input) ∧
    (max < (runMax env g max' input).cnt →
      (runMax env g max input).val = .nil ∧
      (∃ e ∈ (runMax env g max input).errs, e.kind = .maxExpr) ∧
      (runMax env g max input).cnt = max + 1) := by
  cases g with
  | nil => exact ⟨fun _ => rfl, fun h => by simp [runMax] at h⟩
  | cons r0 rs =>
    simp only [runMax]
    split
    · exact ⟨fun _ => rfl, fun h => by simp at h⟩
    · rename_i start _
      have h := eval_two_budgets env (r0 :: rs) max max' hmax start.shown start.expr []
        (initState input) (initState_cnt input)
      exact outOf_sim h.1 h.2

theorem runMax_cnt_le (env : Env) (g : Grammar) (max : Nat) (input : GoString) :
    (runMax env g max input).cnt ≤ max + 1 := by
  cases g with
  | nil => simp [runMax]
  | cons r0 rs =>
    simp only [runMax]
    split
    · simp
    · rename_i start _
      rw [outOf_cnt]
      exact (eval_bnd env (r0 :: rs) max (max + 2) start.shown start.expr [] (initState input)
        (by rw [initState_cnt]; omega)).finalCnt_le

end Bexpr.Proofs.Budget
