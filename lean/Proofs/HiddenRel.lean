/-
  An instance of the two-run theorems of `Proofs/Relational.lean`: values equal except inside
  hidden struct fields (C08).

  A field is hidden under tag name `tn` iff it is unexported or its `tn` tag (cut at the first
  comma) is "-" (`hiddenIn`, Proofs/Relational.lean); `tn = tagNameOf tag` is how `getStruct`
  reads the configured tag name (`""` means `"pointer"`; `Rel.effTag` on the configuration).

  `HiddenEq tag strict v v'`: same shape, same field metadata, visible fields related, hidden
  fields arbitrary; recursively through pointers, interfaces, slices, arrays, map values and
  struct fields.  Map KEYS are equal: data that differ inside a key are not related.  With
  `strict = true` the first field of every struct named `main.Wrap` must additionally be visible:
  the harness' `unwrap` hook replaces such a struct by its first field whatever its visibility
  (true of the Go type `Wrap struct{ V interface{} }`).
-/
import Proofs.Relational

namespace Bexpr.Proofs.HiddenRel
open Bexpr Bexpr.Go Bexpr.Eval Bexpr.Proofs.Rel
open Bexpr.Proofs.Keys (fieldAct structLoop_cons fieldAct_spec hits)

/-- the tag name `getStruct` reads when `tag` is configured -/
def tagNameOf (tag : GoString) : GoString :=
  if tag.isEmpty then GoString.ofString "pointer" else tag

/-- the first field (if any) is visible -/
def headVisible (tn : GoString) : List (Field × GoVal) → Bool
  | [] => true
  | (f, _) :: _ => !hiddenIn tn f

inductive HiddenEq (tag : GoString) (strict : Bool) : GoVal → GoVal → Prop
  | bool n b : HiddenEq tag strict (.bool n b) (.bool n b)
  | int k n v : HiddenEq tag strict (.int k n v) (.int k n v)
  | uint k n v : HiddenEq tag strict (.uint k n v) (.uint k n v)
  | float k n v : HiddenEq tag strict (.float k n v) (.float k n v)
  | complex k n : HiddenEq tag strict (.complex k n) (.complex k n)
  | str n s : HiddenEq tag strict (.str n s) (.str n s)
  | other k n nl : HiddenEq tag strict (.other k n nl) (.other k n nl)
  | ptr e {x x'} : OptRel (HiddenEq tag strict) x x' → HiddenEq tag strict (.ptr e x) (.ptr e x')
  | iface {x x'} : OptRel (HiddenEq tag strict) x x' → HiddenEq tag strict (.iface x) (.iface x')
  | slice n e nl {xs xs'} : ListRel (HiddenEq tag strict) xs xs' →
      HiddenEq tag strict (.slice n e nl xs) (.slice n e nl xs')
  | array e {xs xs'} : ListRel (HiddenEq tag strict) xs xs' →
      HiddenEq tag strict (.array e xs) (.array e xs')
  | map n kt vt nl {es es'} : EntRel (HiddenEq tag strict) es es' →
      HiddenEq tag strict (.map n kt vt nl es) (.map n kt vt nl es')
  /-- same field list (names, exportedness, tags); visible fields related, hidden ones free -/
  | struct n {fs fs'} : FieldsRel (HiddenEq tag strict) (hiddenIn (tagNameOf tag)) fs fs' →
      (strict = true → n = "main.Wrap" → headVisible (tagNameOf tag) fs = true) →
      HiddenEq tag strict (.struct n fs) (.struct n fs')

variable {tag : GoString} {strict : Bool}

theorem hiddenEq_inv (cfg : Config) (hc : cfg.tagName = tag) {v v'} (h : HiddenEq tag strict v v') :
    Shape (HiddenEq tag strict) cfg v v' := by
  cases h with
  | map n kt vt nl he => exact .map n kt vt nl (mapObs_of_ent he)
  | struct n hf _ =>
    refine .struct n (fun part => getStruct_rel (hid := hiddenIn (tagNameOf tag)) ?_ hf part)
    intro f hf
    subst hc; exact hf
  -- the other constructors are those of `Shape`, with the same components
  | _ => constructor <;> assumption

theorem hiddenEq_wrap {fs fs'}
    (h : HiddenEq tag true (.struct "main.Wrap" fs) (.struct "main.Wrap" fs')) :
    HeadRel (HiddenEq tag true) fs fs' := by
  cases h with
  | struct _ hf hw =>
    cases hf with
    | nil => exact .nil
    | hidden hh _ =>
      have := hw rfl rfl
      simp only [headVisible, hh] at this
      cases this
    | visible hv _ => exact .cons hv

/-! ## Reflexivity -/

mutual
/-- every struct named `main.Wrap` inside the value has a visible first field -/
def wrapOk (tn : GoString) : GoVal → Bool
  | .ptr _ (some v) => wrapOk tn v
  | .slice _ _ _ xs => wrapOkList tn xs
  | .array _ xs => wrapOkList tn xs
  | .map _ _ _ _ es => wrapOkEntries tn es
  | .struct n fs => (n != "main.Wrap" || headVisible tn fs) && wrapOkFields tn fs
  | .iface (some v) => wrapOk tn v
  | _ => true
def wrapOkList (tn : GoString) : List GoVal → Bool
  | [] => true
  | x :: xs => wrapOk tn x && wrapOkList tn xs
def wrapOkEntries (tn : GoString) : List (GoVal × GoVal) → Bool
  | [] => true
  | (_, v) :: es => wrapOk tn v && wrapOkEntries tn es
def wrapOkFields (tn : GoString) : List (Field × GoVal) → Bool
  | [] => true
  | (_, v) :: fs => wrapOk tn v && wrapOkFields tn fs
end

/-- side condition of reflexivity: nothing for `strict = false` -/
def ReflOk (_tag : GoString) (strict : Bool) (ok : Bool) : Prop := strict = false ∨ ok = true

theorem ReflOk.left {tag strict a b} (h : ReflOk tag strict (a && b)) : ReflOk tag strict a :=
  h.imp id fun h => (Bool.and_eq_true_iff.1 h).1

theorem ReflOk.right {tag strict a b} (h : ReflOk tag strict (a && b)) : ReflOk tag strict b :=
  h.imp id fun h => (Bool.and_eq_true_iff.1 h).2

mutual
theorem hiddenEq_refl (tag : GoString) (strict : Bool) : ∀ v,
    ReflOk tag strict (wrapOk (tagNameOf tag) v) → HiddenEq tag strict v v
  | .bool n b, _ => .bool n b
  | .int k n v, _ => .int k n v
  | .uint k n v, _ => .uint k n v
  | .float k n v, _ => .float k n v
  | .complex k n, _ => .complex k n
  | .str n s, _ => .str n s
  | .other k n nl, _ => .other k n nl
  | .ptr e none, _ => .ptr e .none
  | .ptr e (some v), h => .ptr e (.some (hiddenEq_refl tag strict v h))
  | .iface none, _ => .iface .none
  | .iface (some v), h => .iface (.some (hiddenEq_refl tag strict v h))
  | .slice n e nl xs, h => .slice n e nl (hiddenEqList_refl tag strict xs h)
  | .array e xs, h => .array e (hiddenEqList_refl tag strict xs h)
  | .map n kt vt nl es, h => .map n kt vt nl (hiddenEqEntries_refl tag strict es h)
  | .struct n fs, h =>
    .struct n (hiddenEqFields_refl tag strict fs h.right) fun hs hn => by
      rcases h.left with h | h
      · rw [h] at hs; cases hs
      · simpa [hn] using h
theorem hiddenEqList_refl (tag : GoString) (strict : Bool) : ∀ xs,
    ReflOk tag strict (wrapOkList (tagNameOf tag) xs) → ListRel (HiddenEq tag strict) xs xs
  | [], _ => .nil
  | x :: xs, h =>
    .cons (hiddenEq_refl tag strict x h.left) (hiddenEqList_refl tag strict xs h.right)
theorem hiddenEqEntries_refl (tag : GoString) (strict : Bool) : ∀ es,
    ReflOk tag strict (wrapOkEntries (tagNameOf tag) es) → EntRel (HiddenEq tag strict) es es
  | [], _ => .nil
  | (_, v) :: es, h =>
    .cons (hiddenEq_refl tag strict v h.left) (hiddenEqEntries_refl tag strict es h.right)
theorem hiddenEqFields_refl (tag : GoString) (strict : Bool) : ∀ fs,
    ReflOk tag strict (wrapOkFields (tagNameOf tag) fs) →
    FieldsRel (HiddenEq tag strict) (hiddenIn (tagNameOf tag)) fs fs
  | [], _ => .nil
  | (_, v) :: fs, h =>
    .visible (hiddenEq_refl tag strict v h.left) (hiddenEqFields_refl tag strict fs h.right)
end

/-- `unwrap` needs `strict` -/
theorem hiddenEq_hyps (cfg : Config) (hc : cfg.tagName = tag)
    (hs : cfg.hook = .unwrap → strict = true) : RelHyps (HiddenEq tag strict) cfg :=
  relHyps_of (fun _ _ h => hiddenEq_inv cfg hc h)
    (fun hu => by cases hs hu; exact fun _ _ => hiddenEq_wrap)
    fun v hv => hiddenEq_refl tag strict v (.inr (by cases v <;> first | rfl | cases hv))

def anyWrapOk (tn : GoString) : Any → Bool
  | none => true
  | some v => wrapOk tn v

theorem anyRel_refl (tag : GoString) (strict : Bool) {d : Any}
    (h : ReflOk tag strict (anyWrapOk (tagNameOf tag) d)) : AnyRel (HiddenEq tag strict) d d := by
  cases d with
  | none => exact .none
  | some v => exact .some (hiddenEq_refl tag strict v h)

/-- side condition on the options for `strict = true`; trivially true for `strict = false` -/
def OptsOk (tag : GoString) (strict : Bool) (o : Opts) : Prop :=
  (∀ u, o.unknown = some u → ReflOk tag strict (anyWrapOk (tagNameOf tag) u)) ∧
  ∀ lv ∈ o.locals, ReflOk tag strict (anyWrapOk (tagNameOf tag) lv.value)

theorem optsOk_false (tag : GoString) (o : Opts) : OptsOk tag false o :=
  ⟨fun _ _ => .inl rfl, fun _ _ => .inl rfl⟩

theorem optsRel_refl {o : Opts} (h : OptsOk tag strict o) :
    OptsRel (HiddenEq tag strict) o.cfg o o :=
  .refl (fun u hu => anyRel_refl tag strict (h.1 u hu)) fun lv hlv => anyRel_refl tag strict (h.2 lv hlv)

/-! ## Selecting a hidden / renamed field -/

theorem structLoop_no_hit (tn part : GoString) (fs : List (Field × GoVal))
    (h : ∀ e ∈ fs, ¬ hits tn part e.1)
    (found ign : Bool) (hfi : found = true → ign = true) :
      structLoop tn part fs none found ign = .error .notFound ∨
      structLoop tn part fs none found ign = .error .ignored ∨
      structLoop tn part fs none found ign = .error .tagBar := by
  cases hs : structLoop tn part fs none found ign with
  | error e => rcases Keys.structLoop_error _ _ _ _ _ _ _ hs with rfl | rfl | rfl <;> simp
  | ok r =>
    rcases Keys.structLoop_ok _ _ _ _ _ _ _ hs with ⟨_, hf, hi⟩ | ⟨e, he, _, hit⟩
    · rw [hfi hf] at hi; cases hi
    · exact absurd hit (h e he)

theorem structLoop_all_skip (tn part : GoString) : ∀ (fs : List (Field × GoVal)),
    (∀ e ∈ fs, fieldAct tn part e.1 = .skip ∨ fieldAct tn part e.1 = .bar) →
      structLoop tn part fs none false false = .error .notFound ∨
      structLoop tn part fs none false false = .error .tagBar
  | [], _ => .inl rfl
  | (f, v) :: fs, h => by
    have ih := structLoop_all_skip tn part fs (fun e he => h e (by simp [he]))
    rw [structLoop_cons]
    rcases h (f, v) (by simp) with ha | ha <;> rw [ha]
    · exact ih
    · exact .inr rfl

/-- the selector part `part` names field `f`: by its tag if it has one, else by its Go name -/
def names (tn part : GoString) (f : Field) : Prop :=
  if (f.tag tn).isEmpty then f.goName = part else tagHead (f.tag tn) = part

theorem fieldAct_hit_names {tn part : GoString} {f : Field}
    (h : hits tn part f) : names tn part f := by
  have hs := fieldAct_spec tn part f
  unfold names
  rcases h with h | h <;> rw [h] at hs
  · rw [hs.2.1, if_neg Bool.false_ne_true]; exact hs.2.2.2
  · rw [hs.2.1, if_pos rfl]; exact hs.2.2

end Bexpr.Proofs.HiddenRel
