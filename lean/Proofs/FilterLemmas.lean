/-
  `(*Filter).Execute` in closed form: `keepSpec` is what both element loops compute, `runLoop`
  what `execute` makes of it for slices, arrays and maps alike.  The facts about one run are
  stated for these with an arbitrary element type; those about two runs are in
  `Proofs/Relational.lean`.
-/
import Bexpr.Eval.Create

namespace Bexpr.Proofs.Filter
open Bexpr Bexpr.Go Bexpr.Eval

/-- What the element loops of `Execute` compute, `g` being the filter's outcome on an element: the
    first outcome that is not a boolean aborts the loop; otherwise the elements with outcome `true`
    are kept, in iteration order. -/
def keepSpec {α} (g : α → Out) (xs : List α) : Except Out (List α) :=
  match (xs.map g).find? fun o => o != .val true && o != .val false with
  | some o => .error o
  | none => .ok (xs.filter fun x => g x == .val true)

/-- Any function with the recursion equations of `execSliceLoop` / `execMapLoop` computes `keepSpec`. -/
theorem loop_eq_keepSpec {α} (g : α → Out) (L : List α → List α → Except Out (List α))
    (hnil : ∀ acc, L [] acc = .ok acc.reverse)
    (hcons : ∀ x xs acc, L (x :: xs) acc =
      match g x with
      | .val true => L xs (x :: acc)
      | .val false => L xs acc
      | o => .error o) :
    ∀ xs acc, L xs acc = (keepSpec g xs).map (acc.reverse ++ ·)
  | [], acc => by rw [hnil]; exact congrArg Except.ok (List.append_nil _).symm
  | x :: xs, acc => by
    have ih := loop_eq_keepSpec g L hnil hcons xs
    rw [hcons]
    unfold keepSpec at ih ⊢
    rw [List.map_cons, List.find?_cons, List.filter_cons]
    cases hgx : g x with
    | val b =>
      cases b
      · exact ih acc
      · rw [ih]
        cases (xs.map g).find? _
        · exact congrArg Except.ok (by rw [List.reverse_cons]; exact List.append_assoc _ [x] _)
        · rfl
    | _ => rfl

theorem execSliceLoop_eq (f : Any → Out) (xs : List GoVal) :
    execSliceLoop f xs [] = keepSpec (fun x => f x.toAny) xs := by
  rw [loop_eq_keepSpec (fun x => f x.toAny) (execSliceLoop f) (fun _ => rfl) (fun _ _ _ => rfl)]
  cases keepSpec _ xs <;> simp [Except.map]

theorem execMapLoop_eq (f : Any → Out) (es : List (GoVal × GoVal)) :
    execMapLoop f es [] = keepSpec (fun e => f e.2.toAny) es := by
  rw [loop_eq_keepSpec (fun e => f e.2.toAny) (execMapLoop f) (fun _ => rfl) (fun _ _ _ => rfl)]
  cases keepSpec _ es <;> simp [Except.map]

theorem outToExec_not_ok (o : Out) (v : Any) : outToExec o ≠ .ok v := by
  cases o <;> simp [outToExec]

theorem outToExec_failure (o : Out) :
    (∀ r, outToExec o ≠ .ok r) ∧ (∀ b, o = .err b → outToExec o = .err) ∧
    (o = .panic → outToExec o = .panic) :=
  ⟨outToExec_not_ok o, fun _ h => h ▸ rfl, fun h => h ▸ rfl⟩

theorem filter_idem {α : Type} (p : α → Bool) (l : List α) :
    (l.filter p).filter p = l.filter p := by
  simp [List.filter_filter]

section gen
variable {α : Type} (g : α → Out)

/-- the test of `keepSpec` fails exactly on the boolean outcomes -/
theorem not_bool_eq_false (o : Out) :
    (o != .val true && o != .val false) = false ↔ ∃ b, o = .val b := by
  cases o with
  | val b => cases b <;> simp
  | _ => simp

theorem keepSpec_of_all_val (xs : List α) (h : ∀ x ∈ xs, ∃ b, g x = .val b) :
    keepSpec g xs = .ok (xs.filter fun x => g x == .val true) := by
  have hn : (xs.map g).find? (fun o => o != .val true && o != .val false) = none := by
    rw [List.find?_eq_none]
    intro o ho
    obtain ⟨x, hx, rfl⟩ := List.mem_map.1 ho
    rw [(not_bool_eq_false _).2 (h x hx)]
    exact Bool.false_ne_true
  rw [keepSpec, hn]

theorem keepSpec_first_error (pre : List α) (x : α) (post : List α)
    (hpre : ∀ y ∈ pre, ∃ b, g y = .val b) (hx : ∀ b, g x ≠ .val b) :
    keepSpec g (pre ++ x :: post) = .error (g x) := by
  have hp : (pre.map g).find? (fun o => o != .val true && o != .val false) = none := by
    rw [List.find?_eq_none]
    intro o ho
    obtain ⟨y, hy, rfl⟩ := List.mem_map.1 ho
    rw [(not_bool_eq_false _).2 (hpre y hy)]
    exact Bool.false_ne_true
  have hgx : (g x != .val true && g x != .val false) = true := by
    cases hb : (g x != .val true && g x != .val false)
    · obtain ⟨b, e⟩ := (not_bool_eq_false _).1 hb
      exact absurd e (hx b)
    · rfl
  rw [keepSpec, List.map_append, List.map_cons, List.find?_append, hp, Option.none_or,
    List.find?_cons_of_pos (l := post.map g) hgx]

theorem split_first_nonval (xs : List α) :
    (∀ x ∈ xs, ∃ b, g x = .val b) ∨
    ∃ pre x post, xs = pre ++ x :: post ∧ (∀ y ∈ pre, ∃ b, g y = .val b) ∧ ∀ b, g x ≠ .val b := by
  induction xs with
  | nil => exact .inl (fun _ h => nomatch h)
  | cons y xs ih =>
    by_cases hy : ∃ b, g y = .val b
    · rcases ih with h | ⟨pre, x, post, e, hp, hx⟩
      · exact .inl (List.forall_mem_cons.2 ⟨hy, h⟩)
      · exact .inr ⟨y :: pre, x, post, by rw [e, List.cons_append], List.forall_mem_cons.2 ⟨hy, hp⟩, hx⟩
    · exact .inr ⟨[], y, xs, rfl, (fun _ h => nomatch h), fun b hb => hy ⟨b, hb⟩⟩

/-- What `execute` makes of the loop over the elements `xs` of a container: the kept elements are
    put into a container again by `mk`, a failure is translated by `outToExec`. -/
def runLoop (mk : List α → GoVal) (xs : List α) : ExecOut :=
  match keepSpec g xs with
  | .ok kept => .ok (some (mk kept))
  | .error o => outToExec o

variable (mk : List α → GoVal)

theorem runLoop_of_ok {xs kept : List α} (h : keepSpec g xs = .ok kept) :
    runLoop g mk xs = .ok (some (mk kept)) := by
  rw [runLoop, h]

theorem runLoop_of_error {xs : List α} {o : Out} (h : keepSpec g xs = .error o) :
    runLoop g mk xs = outToExec o := by
  rw [runLoop, h]

theorem runLoop_of_all_val (xs : List α) (h : ∀ x ∈ xs, ∃ b, g x = .val b) :
    runLoop g mk xs = .ok (some (mk (xs.filter fun x => g x == .val true))) := by
  rw [runLoop, keepSpec_of_all_val g xs h]

theorem runLoop_first_error (pre : List α) (x : α) (post : List α)
    (hpre : ∀ y ∈ pre, ∃ b, g y = .val b) (hx : ∀ b, g x ≠ .val b) :
    runLoop g mk (pre ++ x :: post) = outToExec (g x) := by
  rw [runLoop, keepSpec_first_error g pre x post hpre hx]

theorem runLoop_ok (xs : List α) (r : Any) (h : runLoop g mk xs = .ok r) :
    (∀ x ∈ xs, ∃ b, g x = .val b) ∧ r = some (mk (xs.filter fun x => g x == .val true)) := by
  rcases split_first_nonval g xs with hv | ⟨pre, x, post, rfl, hp, hx⟩
  · rw [runLoop_of_all_val g mk xs hv] at h
    exact ⟨hv, (ExecOut.ok.inj h).symm⟩
  · rw [runLoop_first_error g mk pre x post hp hx] at h
    exact absurd h (outToExec_not_ok _ _)

/-- a statement about failure that does not mention the order of the elements -/
theorem runLoop_err_iff (xs : List α) (hve : ∀ x ∈ xs, (∃ b, g x = .val b) ∨ ∃ b, g x = .err b) :
    runLoop g mk xs = .err ↔ ∃ x ∈ xs, ∃ b, g x = .err b := by
  rcases split_first_nonval g xs with hv | ⟨pre, y, post, rfl, hp, hy⟩
  · rw [runLoop_of_all_val g mk xs hv]
    refine ⟨(fun h => nomatch h), fun ⟨x, hx, b, hb⟩ => ?_⟩
    obtain ⟨b', hb'⟩ := hv x hx
    rw [hb] at hb'
    cases hb'
  · have hy' : y ∈ pre ++ y :: post := List.mem_append_right _ (List.mem_cons_self ..)
    rw [runLoop_first_error g mk pre y post hp hy]
    rcases hve y hy' with ⟨b, hb⟩ | ⟨b, hb⟩
    · exact absurd hb (hy b)
    · rw [hb]
      exact ⟨fun _ => ⟨y, hy', b, hb⟩, fun _ => rfl⟩

theorem runLoop_idem (xs : List α) (r : Any) (h : runLoop g mk xs = .ok r) :
    ∃ kept, r = some (mk kept) ∧ runLoop g mk kept = .ok r := by
  obtain ⟨_, rfl⟩ := runLoop_ok g mk xs r h
  refine ⟨_, rfl, ?_⟩
  rw [runLoop_of_all_val g mk _ fun x hx => ⟨true, eq_of_beq (List.mem_filter.1 hx).2⟩, filter_idem]

theorem runLoop_partition (gN : α → Out) (hneg : ∀ x b, g x = .val b → gN x = .val (!b))
    (xs : List α) (r rN : Any) (h : runLoop g mk xs = .ok r) (hN : runLoop gN mk xs = .ok rN) :
    ∃ k kN, r = some (mk k) ∧ rN = some (mk kN) ∧
      (k ++ kN).Perm xs ∧ k.length + kN.length = xs.length := by
  obtain ⟨hv, rfl⟩ := runLoop_ok g mk xs r h
  obtain ⟨_, rfl⟩ := runLoop_ok gN mk xs rN hN
  have hc : xs.filter (fun x => gN x == .val true) = xs.filter (fun x => !(g x == .val true)) := by
    apply List.filter_congr
    intro x hx
    obtain ⟨b, hb⟩ := hv x hx
    rw [hneg x b hb, hb]
    cases b <;> rfl
  have hp := List.filter_append_perm (fun x => g x == .val true) xs
  rw [hc]
  exact ⟨_, _, rfl, rfl, hp, by rw [← List.length_append]; exact hp.length_eq⟩

end gen

theorem execute_slice_eq (re : RegexOracle) (ev : Evaluator) name elem isNil xs :
    execute re (some ev) (some (.slice name elem isNil xs)) =
      runLoop (fun x : GoVal => ev.evaluate re x.toAny) (.slice name elem false) xs := by
  simp only [execute, valueOf, execSliceLoop_eq, runLoop]
  cases keepSpec _ xs <;> rfl

/-- An array is filtered into a slice of the unnamed type `[]elem`. -/
theorem execute_array_eq (re : RegexOracle) (ev : Evaluator) elem xs :
    execute re (some ev) (some (.array elem xs)) =
      runLoop (fun x : GoVal => ev.evaluate re x.toAny) (.slice "" elem false) xs := by
  simp only [execute, valueOf, execSliceLoop_eq, runLoop]
  cases keepSpec _ xs <;> rfl

theorem execute_map_eq (re : RegexOracle) (ev : Evaluator) name kt vt isNil es :
    execute re (some ev) (some (.map name kt vt isNil es)) =
      runLoop (fun e : GoVal × GoVal => ev.evaluate re e.2.toAny) (.map name kt vt false) es := by
  simp only [execute, valueOf, execMapLoop_eq, runLoop]
  cases keepSpec _ es <;> rfl

end Bexpr.Proofs.Filter
