/-
  Proofs.StrconvLemmas — lemmas about the `strconv` model (`Bexpr.Strconv`), core Lean only:
  the digits of a number (`digitBytes b n`, the text of `strconv.FormatUint`) are read back by
  `ParseUint` / `ParseInt` / `readFloat`, and `bitsOfNat f n`, the bit pattern of the integer
  `n`, is what `ParseFloat` yields on the decimal text of `n`.
-/
import Bexpr.Strconv

namespace Bexpr.Strconv
open Bexpr Bexpr.GoString

/-! ## Digit strings -/

/-- The lower-case digit byte of a digit value (`'0'..'9'`, `'a'..'f'`). -/
def digitByte (d : Nat) : UInt8 := byteOfChar (Nat.digitChar d)

/-- The digits of `n` in base `b`, most significant first, as lower-case bytes
(`strconv.FormatUint(n, b)` for `2 ≤ b ≤ 16`). -/
def digitBytes (b n : Nat) : GoString := (Nat.toDigits b n).map byteOfChar

theorem natToDec_eq_digitBytes (n : Nat) : natToDec n = digitBytes 10 n := rfl

theorem digitBytes_of_lt {b n : Nat} (h : n < b) : digitBytes b n = [digitByte n] := by
  simp [digitBytes, digitByte, Nat.toDigits_of_lt_base h]

theorem digitBytes_of_ge {b n : Nat} (hb : 1 < b) (h : b ≤ n) :
    digitBytes b n = digitBytes b (n / b) ++ [digitByte (n % b)] := by
  simp [digitBytes, digitByte, Nat.toDigits_of_base_le hb h]

theorem digitBytes_ne_nil (b n : Nat) : digitBytes b n ≠ [] := by
  simp [digitBytes]

theorem mem_digitBytes {b : Nat} (hb : 1 < b) {n : Nat} {c : UInt8} :
    c ∈ digitBytes b n → ∃ d, d < b ∧ c = digitByte d := by
  induction n using Nat.strongRecOn with
  | _ n ih =>
    by_cases h : n < b
    · rw [digitBytes_of_lt h]
      intro hc
      exact ⟨n, h, by simpa using hc⟩
    · rw [digitBytes_of_ge hb (by omega)]
      intro hc
      rcases List.mem_append.mp hc with hc | hc
      · exact ih (n / b) (Nat.div_lt_self (by omega) hb) hc
      · exact ⟨n % b, Nat.mod_lt _ (by omega), by simpa using hc⟩

/-- A digit string starts with a digit below the base, which is non-zero unless the
number is zero (no leading zeros). -/
theorem digitBytes_head {b : Nat} (hb : 1 < b) (n : Nat) :
    ∃ d t, d < b ∧ (0 < n → 0 < d) ∧ digitBytes b n = digitByte d :: t := by
  induction n using Nat.strongRecOn with
  | _ n ih =>
    by_cases h : n < b
    · exact ⟨n, [], h, id, digitBytes_of_lt h⟩
    · have hlt : n / b < n := Nat.div_lt_self (by omega) hb
      have hpos : 0 < n / b := Nat.div_pos (by omega) (by omega)
      obtain ⟨d, t, hd, hd0, heq⟩ := ih (n / b) hlt
      refine ⟨d, t ++ [digitByte (n % b)], hd, fun _ => hd0 hpos, ?_⟩
      rw [digitBytes_of_ge hb (by omega), heq]
      rfl

/-! ## Facts about the sixteen digit bytes -/

theorem digitVal_digitByte : ∀ d, d < 16 → digitVal (digitByte d) = some d := by decide

theorem digitByte_ne_underscore : ∀ d, d < 16 → (digitByte d == underscore) = false := by decide

theorem digitByte_ne_minus : ∀ d, d < 16 → (digitByte d == 0x2D) = false := by decide

theorem digitByte_ne_plus : ∀ d, d < 16 → (digitByte d == 0x2B) = false := by decide

theorem digitByte_eq_zero_iff : ∀ d, d < 16 → (digitByte d = 0x30 ↔ d = 0) := by decide

theorem isDecDigit_digitByte : ∀ d, d < 10 → isDecDigit (digitByte d) = true := by decide

theorem toNat_digitByte : ∀ d, d < 10 → (digitByte d).toNat - 0x30 = d := by decide

theorem digitByte_not_prefix_letter :
    ∀ d, d < 10 → isB (digitByte d) = false ∧ isO (digitByte d) = false ∧ isX (digitByte d) = false := by
  decide

theorem digitBytes_no_underscore {b : Nat} (hb : 1 < b) (hb16 : b ≤ 16) (n : Nat) :
    (digitBytes b n).contains underscore = false := by
  rw [Bool.eq_false_iff]
  intro hc
  have hmem : underscore ∈ digitBytes b n := by simpa using hc
  obtain ⟨d, hd, he⟩ := mem_digitBytes hb hmem
  have := digitByte_ne_underscore d (by omega)
  rw [← he] at this
  simp at this

/-! ## The digit loop of `ParseUint` -/

/-- The loop is a left fold with early exit: running it over `xs ++ ys` is running
it over `xs` and, on success, over `ys` from the value reached. -/
theorem uintLoop_append (base bits : Nat) (b0 : Bool) (xs ys : GoString) (n : Nat) :
    uintLoop base bits b0 (xs ++ ys) n =
      match uintLoop base bits b0 xs n with
      | .ok m => uintLoop base bits b0 ys m
      | .error e => .error e := by
  induction xs generalizing n with
  | nil => simp [uintLoop]
  | cons c cs ih =>
    simp only [List.cons_append, uintLoop]
    split
    · exact ih n
    · split
      · rfl
      · split
        · rfl
        · split
          · rfl
          · exact ih _

theorem uintLoop_digit {base bits : Nat} {b0 : Bool} {d : Nat} (hd : d < base) (h16 : base ≤ 16)
    (m : Nat) :
    uintLoop base bits b0 [digitByte d] m =
      if m * base + d < 2 ^ bits then .ok (m * base + d) else .error .range := by
  have h1 := digitVal_digitByte d (by omega)
  have h2 := digitByte_ne_underscore d (by omega)
  simp only [uintLoop, h1, h2, Bool.false_and]
  have : ¬ d ≥ base := by omega
  simp only [Bool.false_eq_true, if_false, this]
  by_cases h : m * base + d < 2 ^ bits
  · simp [h, Nat.not_le.mpr h]
  · simp [h, Nat.not_lt.mp h]

/-- **Digit accumulation rebuilds the number.**  Reading the base-`b` digits of `n`
(`2 ≤ b ≤ 16`) yields `n` when it fits in `bits` bits and a range error otherwise;
this holds with or without underscore skipping. -/
theorem uintLoop_digitBytes {b : Nat} (hb : 2 ≤ b) (h16 : b ≤ 16) (bits : Nat) (b0 : Bool)
    (n : Nat) :
    uintLoop b bits b0 (digitBytes b n) 0 =
      if n < 2 ^ bits then .ok n else .error .range := by
  induction n using Nat.strongRecOn with
  | _ n ih =>
    by_cases h : n < b
    · rw [digitBytes_of_lt h, uintLoop_digit h h16]
      simp
    · have hlt : n / b < n := Nat.div_lt_self (by omega) (by omega)
      have hdm : n / b * b + n % b = n := by
        rw [Nat.mul_comm]; exact Nat.div_add_mod n b
      rw [digitBytes_of_ge (by omega) (by omega), uintLoop_append, ih (n / b) hlt]
      by_cases hq : n / b < 2 ^ bits
      · simp only [hq, if_true]
        rw [uintLoop_digit (Nat.mod_lt _ (by omega)) h16, hdm]
      · simp only [hq, if_false]
        have : ¬ n < 2 ^ bits := fun hn => hq (Nat.lt_of_le_of_lt (Nat.div_le_self _ _) hn)
        simp [this]

/-! ## `splitBase0` -/

theorem splitBase0_of_ne_zero {c : UInt8} (t : GoString) (hc : c ≠ 0x30) :
    splitBase0 (c :: t) = (10, c :: t) := by
  unfold splitBase0
  split
  · rename_i heq; exact absurd (List.cons.inj heq).1 hc
  · rename_i heq; exact absurd (List.cons.inj heq).1 hc
  · rfl

theorem splitBase0_prefix (p d : UInt8) (t : GoString) :
    splitBase0 (0x30 :: p :: d :: t) =
      if isB p then (2, d :: t) else if isO p then (8, d :: t)
      else if isX p then (16, d :: t) else (8, p :: d :: t) := by
  rfl

/-! ## `underscoreOK` on strings without underscores -/

theorem underscoreLoop_no_underscore (hex : Bool) (s : GoString) (saw : Saw)
    (hs : ∀ c ∈ s, c ≠ underscore) (hsaw : saw ≠ .underscore) :
    underscoreLoop hex s saw = true := by
  induction s generalizing saw with
  | nil => cases saw <;> first | rfl | exact absurd rfl hsaw
  | cons c cs ih =>
    have hc : (c == underscore) = false := by
      simpa using hs c (List.mem_cons_self)
    have hcs : ∀ x ∈ cs, x ≠ underscore := fun x hx => hs x (List.mem_cons_of_mem _ hx)
    unfold underscoreLoop
    split
    · exact ih _ hcs (by decide)
    · simp only [hc, Bool.false_eq_true, if_false]
      have : (saw == Saw.underscore) = false := by cases saw <;> first | rfl | exact absurd rfl hsaw
      simp only [this, Bool.false_eq_true, if_false]
      exact ih _ hcs (by decide)

theorem underscoreOK_body_no_underscore (s1 : GoString) (hs : ∀ c ∈ s1, c ≠ underscore) :
    (match (generalizing := false) s1 with
      | 0x30 :: p :: t =>
        if isB p || isO p || isX p then underscoreLoop (isX p) t .digit
        else underscoreLoop false s1 .start
      | _ => underscoreLoop false s1 .start) = true := by
  split
  · rename_i p t
    split
    · exact underscoreLoop_no_underscore _ _ _
        (fun x hx => hs x (List.mem_cons_of_mem _ (List.mem_cons_of_mem _ hx))) (by decide)
    · exact underscoreLoop_no_underscore _ _ _ hs (by decide)
  · exact underscoreLoop_no_underscore _ _ _ hs (by decide)

theorem underscoreOK_no_underscore (s : GoString) (hs : ∀ c ∈ s, c ≠ underscore) :
    underscoreOK s = true := by
  cases s with
  | nil => rfl
  | cons c t =>
    unfold underscoreOK
    by_cases hsign : (c == 0x2D || c == 0x2B) = true
    · simp only [hsign, if_true]
      exact underscoreOK_body_no_underscore t (fun x hx => hs x (List.mem_cons_of_mem _ hx))
    · have hsign' : (c == 0x2D || c == 0x2B) = false := by simpa using hsign
      simp only [hsign', Bool.false_eq_true, if_false]
      exact underscoreOK_body_no_underscore (c :: t) hs

/-! ## `parseUint` reduced to its digit loop -/

/-- `ParseUint(s, 0, 64)` when the digits after the base prefix contain no
underscore: the result of the digit loop. -/
theorem parseUint_base0 {s ds : GoString} {b : Nat} (hne : s ≠ [])
    (hsplit : splitBase0 s = (b, ds)) (hus : ds.contains underscore = false) :
    parseUint s 0 64 = uintLoop b 64 true ds 0 := by
  unfold parseUint
  have : s.isEmpty = false := by cases s <;> simp_all
  simp [this, hsplit]
  split
  · rename_i e he; rw [he]
  · rename_i n hn
    have : underscore ∉ ds := by simpa using hus
    simp [hn, this]

theorem parseUint_base {s : GoString} {b : Nat} (hne : s ≠ []) (hb : 2 ≤ b) (hb36 : b ≤ 36) :
    parseUint s b 64 = uintLoop b 64 false s 0 := by
  unfold parseUint
  have : s.isEmpty = false := by cases s <;> simp_all
  have hb0 : (b == 0) = false := by simp; omega
  simp [this, hb0, hb, hb36]
  split
  · rename_i e he; rw [he]
  · rename_i n hn; rw [hn]

theorem parseUint_digitBytes10_base0 (n : Nat) :
    parseUint (digitBytes 10 n) 0 64 = if n < 2 ^ 64 then .ok n else .error .range := by
  by_cases h0 : n = 0
  · subst h0; rfl
  · obtain ⟨d, t, hd, hd0, heq⟩ := digitBytes_head (b := 10) (by omega) n
    have hdne : digitByte d ≠ 0x30 := by
      intro h
      have := (digitByte_eq_zero_iff d (by omega)).mp h
      have := hd0 (by omega)
      omega
    rw [parseUint_base0 (b := 10) (ds := digitBytes 10 n) (digitBytes_ne_nil _ _)
      (by rw [heq]; exact splitBase0_of_ne_zero t hdne)
      (digitBytes_no_underscore (by omega) (by omega) n)]
    exact uintLoop_digitBytes (by omega) (by omega) 64 true n

theorem parseUint_digitBytes_base {b : Nat} (hb : 2 ≤ b) (h16 : b ≤ 16) (n : Nat) :
    parseUint (digitBytes b n) b 64 = if n < 2 ^ 64 then .ok n else .error .range := by
  rw [parseUint_base (digitBytes_ne_nil _ _) hb (by omega)]
  exact uintLoop_digitBytes hb h16 64 false n

/-- A base prefix `0` + `p` (one of `b o x B O X`) in front of the digits of `n`
in the corresponding base, read with base 0. -/
theorem parseUint_prefixed {b : Nat} (hb : 2 ≤ b) (h16 : b ≤ 16) (p : UInt8)
    (hp : (if isB p then 2 else if isO p then 8 else if isX p then 16 else 0) = b) (n : Nat) :
    parseUint (0x30 :: p :: digitBytes b n) 0 64 =
      if n < 2 ^ 64 then .ok n else .error .range := by
  obtain ⟨d, t, _, _, heq⟩ := digitBytes_head (b := b) (by omega) n
  have hsplit : splitBase0 (0x30 :: p :: digitBytes b n) = (b, digitBytes b n) := by
    rw [heq, splitBase0_prefix]
    by_cases h1 : isB p = true
    · simp [h1] at hp ⊢; omega
    · by_cases h2 : isO p = true
      · simp [h1, h2] at hp ⊢; omega
      · by_cases h3 : isX p = true
        · simp [h1, h2, h3] at hp ⊢; omega
        · simp [h1, h2, h3] at hp; omega
  rw [parseUint_base0 (by simp) hsplit (digitBytes_no_underscore (by omega) h16 n)]
  exact uintLoop_digitBytes hb h16 64 true n

/-! ## `parseInt` on an optional sign followed by an unsigned spelling -/

/-- `ParseInt(s, base, 64)` for an `s` whose first byte is not a sign, given what
`ParseUint` answers on it. -/
theorem parseInt_unsigned {c : UInt8} {t : GoString} {base n : Nat}
    (hm : (c == 0x2D) = false) (hp : (c == 0x2B) = false)
    (hu : parseUint (c :: t) base 64 = if n < 2 ^ 64 then .ok n else .error .range) :
    parseInt (c :: t) base 64 = if n < 2 ^ 63 then .ok (n : Int) else .error .range := by
  unfold parseInt
  simp only [hm, hp, Bool.or_self, Bool.false_eq_true, if_false, hu]
  by_cases h64 : n < 2 ^ 64
  · simp only [h64, if_true]
    by_cases h63 : n < 2 ^ 63
    · simp [h63, Nat.not_le.mpr h63]
    · simp [h63, Nat.not_lt.mp h63]
  · have h63 : ¬ n < 2 ^ 63 := by omega
    simp [h64, h63]

theorem parseInt_minus {u : GoString} {base n : Nat}
    (hu : parseUint u base 64 = if n < 2 ^ 64 then .ok n else .error .range) :
    parseInt (0x2D :: u) base 64 = if n ≤ 2 ^ 63 then .ok (-(n : Int)) else .error .range := by
  have hrest : (if ((0x2D : UInt8) == 0x2B || (0x2D : UInt8) == 0x2D) = true then u
      else 0x2D :: u) = u := by simp
  simp only [parseInt]
  rw [hrest, hu]
  by_cases h64 : n < 2 ^ 64
  · simp only [h64, if_true]
    by_cases h63 : n ≤ 2 ^ 63
    · simp [h63, Nat.not_lt.mpr h63]
    · simp [h63, Nat.not_le.mp h63]
  · have h63 : ¬ n ≤ 2 ^ 63 := by omega
    simp [h64, h63]

/-! ## `readFloat` on digit strings -/

theorem forall_uint8 (P : UInt8 → Prop) (h : ∀ n, n < 256 → P (UInt8.ofNat n)) : ∀ c, P c :=
  fun c => by
    have := h c.toNat (UInt8.toNat_lt c)
    simpa using this

theorem decDigit_facts : ∀ c : UInt8, isDecDigit c = true →
    isX c = false ∧ (c == underscore) = false ∧ (c == 0x2E) = false ∧ (c == 0x2B) = false ∧
    (c == 0x2D) = false ∧ isE c = false ∧ (c == 0x69 || c == 0x49) = false ∧
    (c == 0x6E || c == 0x4E) = false := by
  apply forall_uint8
  decide +kernel

theorem special_digit {d : Nat} (hd : d < 10) (t : GoString) : special (digitByte d :: t) = none := by
  obtain ⟨_, _, _, h1, h2, _, h3, h4⟩ := decDigit_facts _ (isDecDigit_digitByte d hd)
  simp [special, h1, h2, h3, h4]

theorem scanMant_allDec (xs rest : GoString) (st : MantScan) (hx : ∀ c ∈ xs, isDecDigit c = true) :
    scanMant false (xs ++ rest) st =
      scanMant false rest
        { mant := xs.foldl (fun n c => n * 10 + (c.toNat - 0x30)) st.mant
          sawDot := st.sawDot
          sawDigits := st.sawDigits || !xs.isEmpty
          fracDigits := if st.sawDot then st.fracDigits + xs.length else st.fracDigits } := by
  induction xs generalizing st with
  | nil => cases st; simp
  | cons c cs ih =>
    obtain ⟨_, h2, h3, _⟩ := decDigit_facts c (hx c List.mem_cons_self)
    have h4 := hx c List.mem_cons_self
    simp only [List.cons_append, scanMant, h2, h3, h4, Bool.false_eq_true, if_false, if_true]
    rw [ih _ (fun c hc => hx c (List.mem_cons_of_mem _ hc))]
    congr 1
    cases hsd : st.sawDot
    · simp [MantScan.push, hsd]
    · simp [MantScan.push, hsd]; omega

/-- `readFloat`'s test for a hex mantissa (`0x`/`0X` and at least one more byte) fails on a
text that has no `x`/`X` in second place. -/
theorem hexBody_none {s1 : GoString} (h : ∀ x d r, s1 = 0x30 :: x :: d :: r → isX x = false) :
    readFloat.match_1 (fun _ => Option GoString) s1
      (fun x d r => if isX x = true then some (d :: r) else none) (fun _ => none) = none := by
  split
  · rename_i x d r
    rw [h x d r rfl]; rfl
  · rfl

/-- What `readFloat` answers after the mantissa loop stopped in state `st` in front of `tail`
(decimal, no sign, no underscores). -/
def plainResult (st : MantScan) : GoString → Option ReadFloat
  | [] => some ⟨false, false, st.mant, 0 - (st.fracDigits : Int)⟩
  | e :: rest =>
    if isE e then
      match scanExp rest with
      | none => none
      | some er =>
        if er.2.isEmpty then some ⟨false, false, st.mant, er.1 - (st.fracDigits : Int)⟩ else none
    else none

theorem readFloat_plain (c : UInt8) (t : GoString)
    (hp : (c == 0x2B) = false) (hm : (c == 0x2D) = false)
    (hnx : ∀ x ∈ c :: t, isX x = false) (hnu : ∀ x ∈ c :: t, (x == underscore) = false)
    (st : MantScan) (tail : GoString) (hscan : scanMant false (c :: t) {} = (st, tail))
    (hdig : st.sawDigits = true) :
    readFloat (c :: t) = plainResult st tail := by
  have hus : (c :: t).contains underscore = false := by
    rw [Bool.eq_false_iff]
    intro h
    have hmem : underscore ∈ c :: t := by simpa using h
    have := hnu _ hmem
    simp at this
  unfold readFloat
  simp only [hp, hm, Bool.or_self, Bool.false_eq_true, if_false]
  rw [hexBody_none fun x d r heq => hnx x (by rw [heq]; simp)]
  simp only [Option.isSome_none, Option.getD_none, hscan, hdig, hus, Bool.not_true,
    Bool.false_eq_true, if_false, Bool.false_and]
  cases tail with
  | nil => simp [plainResult]
  | cons e rest =>
    simp only [plainResult]
    split
    · cases scanExp rest with
      | none => rfl
      | some er => cases h : er.2.isEmpty <;> simp [h]
    · rfl

theorem foldl_dec_digitBytes (n : Nat) :
    (digitBytes 10 n).foldl (fun m c => m * 10 + (c.toNat - 0x30)) 0 = n := by
  induction n using Nat.strongRecOn with
  | _ n ih =>
    by_cases h : n < 10
    · rw [digitBytes_of_lt h]
      exact (Nat.zero_add _).trans (toNat_digitByte n h)
    · rw [digitBytes_of_ge (by omega) (by omega), List.foldl_append, ih (n / 10) (by omega)]
      simp only [List.foldl_cons, List.foldl_nil, toNat_digitByte (n % 10) (Nat.mod_lt _ (by omega))]
      omega

theorem readFloat_digitBytes (n : Nat) :
    readFloat (digitBytes 10 n) = some { neg := false, hex := false, mant := n, exp := 0 } := by
  obtain ⟨d, t, hd, _, heq⟩ := digitBytes_head (b := 10) (by omega) n
  have hdec : ∀ c ∈ digitBytes 10 n, isDecDigit c = true := fun c hc => by
    obtain ⟨d, hd, rfl⟩ := mem_digitBytes (b := 10) (by omega) hc
    exact isDecDigit_digitByte d hd
  have hscan := scanMant_allDec (digitBytes 10 n) [] {} hdec
  rw [List.append_nil, foldl_dec_digitBytes] at hscan
  rw [heq] at hdec hscan ⊢
  rw [readFloat_plain (digitByte d) t (digitByte_ne_plus d (by omega))
    (digitByte_ne_minus d (by omega)) (fun x hx => (decDigit_facts x (hdec x hx)).1)
    (fun x hx => (decDigit_facts x (hdec x hx)).2.1) _ _ hscan (by simp)]
  simp [plainResult]

/-! ## The pattern of an integer, and `ParseFloat` on its decimal text -/

/-- Bit pattern of the float of format `f` whose value is exactly the integer `n`
(`0 < n < 2^(mantBits+1)`): biased exponent `log2 n + bias` and the significand `n`
shifted left so that its leading bit is the implicit one.  (`log2 n - emin` is the
biased exponent minus one; adding the significand with its leading bit supplies the
missing one.) -/
def bitsOfNat (f : FloatFmt) (n : Nat) : Nat :=
  if n = 0 then 0
  else ((Nat.log2 n : Int) - f.emin).toNat * 2 ^ f.mantBits + n * 2 ^ (f.mantBits - Nat.log2 n)

theorem bitsOfNat_of_emin (f : FloatFmt) (c : Nat) (hc : f.emin = -(c : Int)) (n : Nat) :
    bitsOfNat f n = if n = 0 then 0
      else (Nat.log2 n + c) * 2 ^ f.mantBits + n * 2 ^ (f.mantBits - Nat.log2 n) := by
  rw [bitsOfNat, hc, Int.sub_neg, ← Int.natCast_add, Int.toNat_natCast]

theorem shifted_bounds (n M : Nat) (hn : n ≠ 0) (hL : Nat.log2 n ≤ M) :
    2 ^ M ≤ n * 2 ^ (M - Nat.log2 n) ∧ n * 2 ^ (M - Nat.log2 n) < 2 ^ (M + 1) := by
  have h1 : 2 ^ Nat.log2 n ≤ n := Nat.log2_self_le hn
  have h2 : n < 2 ^ (Nat.log2 n + 1) := Nat.lt_log2_self
  have hpos : 0 < 2 ^ (M - Nat.log2 n) := Nat.pow_pos Nat.zero_lt_two
  constructor
  · calc 2 ^ M = 2 ^ (Nat.log2 n + (M - Nat.log2 n)) := by congr 1; omega
      _ = 2 ^ Nat.log2 n * 2 ^ (M - Nat.log2 n) := Nat.pow_add ..
      _ ≤ n * 2 ^ (M - Nat.log2 n) := Nat.mul_le_mul_right _ h1
  · calc n * 2 ^ (M - Nat.log2 n) < 2 ^ (Nat.log2 n + 1) * 2 ^ (M - Nat.log2 n) :=
          Nat.mul_lt_mul_of_pos_right h2 hpos
      _ = 2 ^ (Nat.log2 n + 1 + (M - Nat.log2 n)) := (Nat.pow_add ..).symm
      _ = 2 ^ (M + 1) := by congr 1; omega

/-- With exponent offset `c` (`= -emin`) the pattern `(log2 n + c) * 2^M + n * 2^(M - log2 n)` has
exponent field `log2 n + c + 1`: it lies between the patterns of `2^log2 n` and `2^(log2 n + 1)`. -/
theorem intPattern_bounds (M c n : Nat) (hn : n ≠ 0) (h : n < 2 ^ (M + 1)) :
    (Nat.log2 n + c + 1) * 2 ^ M ≤ (Nat.log2 n + c) * 2 ^ M + n * 2 ^ (M - Nat.log2 n) ∧
    (Nat.log2 n + c) * 2 ^ M + n * 2 ^ (M - Nat.log2 n) < (Nat.log2 n + c + 2) * 2 ^ M ∧
    Nat.log2 n ≤ M := by
  have hL : Nat.log2 n < M + 1 := (Nat.log2_lt hn).mpr h
  have hb := shifted_bounds n M hn (by omega)
  rw [Nat.pow_succ] at hb
  rw [Nat.add_mul _ 1, Nat.add_mul _ 2, Nat.one_mul]
  omega

/-- `hE`: the exponent range reaches `2^(mantBits + 1)` (true of binary32 and binary64). -/
theorem bitsOfNat_finite (f : FloatFmt) (c : Nat) (hc : f.emin = -(c : Int))
    (hE : (f.mantBits + c + 2) * 2 ^ f.mantBits ≤ f.infBits) (n : Nat)
    (h : n < 2 ^ (f.mantBits + 1)) : bitsOfNat f n < f.infBits := by
  rw [bitsOfNat_of_emin f c hc]
  split
  · exact Nat.lt_of_lt_of_le (Nat.mul_pos (by omega) (Nat.pow_pos Nat.zero_lt_two)) hE
  · rename_i hn
    obtain ⟨_, h2, hL⟩ := intPattern_bounds f.mantBits c n hn h
    exact Nat.lt_of_lt_of_le h2 (Nat.le_trans (Nat.mul_le_mul_right _ (by omega)) hE)

theorem fields_build (f : FloatFmt) (x r : Nat) (hx : x < 2 ^ f.expBits) (hr : r < 2 ^ f.mantBits) :
    f.fracOf (x * 2 ^ f.mantBits + r) = r ∧ f.expOf (x * 2 ^ f.mantBits + r) = x := by
  unfold FloatFmt.fracOf FloatFmt.expOf
  rw [Nat.add_comm, Nat.add_mul_mod_self_right, Nat.add_mul_div_right _ _ (Nat.pow_pos Nat.zero_lt_two),
    Nat.div_eq_of_lt hr, Nat.mod_eq_of_lt hr, Nat.zero_add, Nat.mod_eq_of_lt hx]
  exact ⟨rfl, rfl⟩

/-- `bitsOfNat f n` decodes to the integer `n`; `hE`: the exponent field has room. -/
theorem bitsOfNat_value (f : FloatFmt) (c : Nat) (hc : f.emin = -(c : Int))
    (hE : f.mantBits + c + 1 < 2 ^ f.expBits) (n : Nat) (h : n < 2 ^ (f.mantBits + 1)) :
    (finiteToRat f (bitsOfNat f n)).1 = n * (finiteToRat f (bitsOfNat f n)).2 := by
  have hb : f.bias = c + 1 := by unfold FloatFmt.emin at hc; omega
  rw [bitsOfNat_of_emin f c hc]
  by_cases hn : n = 0
  · obtain ⟨hf, he⟩ := fields_build f 0 0 (Nat.pow_pos Nat.zero_lt_two) (Nat.pow_pos Nat.zero_lt_two)
    rw [Nat.zero_mul] at hf he
    rw [hn, if_pos rfl, Nat.zero_mul]
    unfold finiteToRat
    simp only [hf, he, beq_self_eq_true, if_true]
    split <;> simp
  · have hL : Nat.log2 n < f.mantBits + 1 := (Nat.log2_lt hn).mpr h
    obtain ⟨b1, b2⟩ := shifted_bounds n f.mantBits hn (by omega)
    rw [Nat.pow_succ] at b2
    have e : (Nat.log2 n + c) * 2 ^ f.mantBits + n * 2 ^ (f.mantBits - Nat.log2 n) =
        (Nat.log2 n + c + 1) * 2 ^ f.mantBits + (n * 2 ^ (f.mantBits - Nat.log2 n) - 2 ^ f.mantBits) := by
      rw [Nat.add_mul _ 1, Nat.one_mul]; omega
    obtain ⟨hf, he⟩ := fields_build f (Nat.log2 n + c + 1)
      (n * 2 ^ (f.mantBits - Nat.log2 n) - 2 ^ f.mantBits) (by omega) (by omega)
    rw [if_neg hn, e]
    unfold finiteToRat
    simp only [hf, he, hb, Nat.add_sub_cancel' b1,
      show (Nat.log2 n + c + 1 == 0) = false from rfl, Bool.false_eq_true, if_false]
    by_cases hLM : Nat.log2 n = f.mantBits
    · have : ((Nat.log2 n + c + 1 : Nat) : Int) - ((c + 1 : Nat) : Int) - (f.mantBits : Int) = 0 := by omega
      simp only [this, ge_iff_le, Int.le_refl, if_true, Int.toNat_zero, Nat.pow_zero, Nat.mul_one]
      rw [hLM, Nat.sub_self, Nat.pow_zero, Nat.mul_one]
    · have : ¬ ((Nat.log2 n + c + 1 : Nat) : Int) - ((c + 1 : Nat) : Int) - (f.mantBits : Int) ≥ 0 := by omega
      have e2 : (-(((Nat.log2 n + c + 1 : Nat) : Int) - ((c + 1 : Nat) : Int) - (f.mantBits : Int))).toNat =
          f.mantBits - Nat.log2 n := by omega
      simp only [this, if_false, e2]

theorem roundHalfEven_one (x : Nat) : roundHalfEven x 1 = x := by
  simp [roundHalfEven, Nat.mod_one]

theorem floorLog2Rat_nat (n : Nat) (hn : n ≠ 0) : floorLog2Rat n 1 = (Nat.log2 n : Int) := by
  have h1 : Nat.log2 1 = 0 := by decide
  have hle : 2 ^ Nat.log2 n ≤ n := Nat.log2_self_le hn
  simp only [floorLog2Rat, h1, Int.natCast_zero, Int.sub_zero, scalePow2]
  simp [hle]

theorem roundRat_nat (f : FloatFmt) (c n : Nat) (hc : f.emin = -(c : Int))
    (hfit : n < 2 ^ (f.mantBits + 1)) : roundRat f n 1 = bitsOfNat f n := by
  by_cases hn : n = 0
  · simp [hn, bitsOfNat, roundRat]
  have hL : Nat.log2 n < f.mantBits + 1 := (Nat.log2_lt hn).mpr hfit
  have hn0 : (n == 0) = false := by simpa using hn
  unfold roundRat
  rw [bitsOfNat, if_neg hn]
  simp only [hn0, Bool.false_eq_true, if_false, floorLog2Rat_nat n hn]
  have hlt : ¬ ((Nat.log2 n : Int) < f.emin) := by omega
  simp only [hlt, if_false]
  congr 1
  unfold scalePow2
  by_cases he : (Nat.log2 n : Int) - (f.mantBits : Int) ≥ 0
  · have : Nat.log2 n = f.mantBits := by omega
    simp only [this]
    simp [roundHalfEven_one]
  · simp only [he, if_false, roundHalfEven_one]
    congr 2
    omega

/-- `hE` as in `bitsOfNat_finite`. -/
theorem parseFloat_digitBytes (bitSize c n : Nat)
    (hfit : n < 2 ^ ((fmtOf bitSize).mantBits + 1)) (hc : (fmtOf bitSize).emin = -(c : Int))
    (hE : ((fmtOf bitSize).mantBits + c + 2) * 2 ^ (fmtOf bitSize).mantBits ≤
      (fmtOf bitSize).infBits) :
    parseFloat (digitBytes 10 n) bitSize = .ok (bitsOfNat (fmtOf bitSize) n) := by
  obtain ⟨d, t, hd, _, heq⟩ := digitBytes_head (b := 10) (by omega) n
  have hs : special (digitBytes 10 n) = none := by rw [heq]; exact special_digit hd t
  have hfin := bitsOfNat_finite (fmtOf bitSize) c hc hE n hfit
  rw [← roundRat_nat (fmtOf bitSize) c n hc hfit] at hfin ⊢
  simp only [parseFloat, hs, readFloat_digitBytes n, ReadFloat.toRat]
  simp [Nat.not_le.mpr hfin]

end Bexpr.Strconv
