/-
  Lemmas for C19.  Used there: the string literals of `Dump.dump` split at their newline
  (`s_append` and its instances), `GoString.join` as a flattened `intersperse`, injectivity of a
  function on a finite table.  Facts that say what `repeatStr` (`strings.Repeat`), `GoString.join`
  and two one-byte literals are, which nothing else uses: `repeatStr_*`, `join_nil`, `join_single`,
  `s_nl`, `s_closeBrace`.
-/
import Bexpr.Eval.Dump
import Proofs.UnquoteLemmas

namespace Bexpr.Proofs.Dump
open Bexpr Bexpr.Dump

theorem s_append (a b : String) : s (a ++ b) = s a ++ s b := by
  simp only [s, GoString.ofString_eq, String.toByteArray_append, ByteArray.data_append,
    Array.toList_append]

theorem s_not : s "Not {\n" = s "Not {" ++ s "\n" := s_append "Not {" "\n"
theorem s_and : s "And {\n" = s "And {" ++ s "\n" := s_append "And {" "\n"
theorem s_or : s "Or {\n" = s "Or {" ++ s "\n" := s_append "Or {" "\n"
theorem s_open : s " {\n" = s " {" ++ s "\n" := s_append " {" "\n"
theorem s_close : s "}\n" = s "}" ++ s "\n" := s_append "}" "\n"

theorem s_nl : s "\n" = [10] := by rw [s, GoString.ofString_eq]; decide
theorem s_closeBrace : s "}" = [125] := by rw [s, GoString.ofString_eq]; decide


theorem repeatStr_zero (indent : GoString) : repeatStr indent 0 = [] := rfl

theorem repeatStr_succ (indent : GoString) (n : Nat) :
    repeatStr indent (n + 1) = indent ++ repeatStr indent n := rfl

theorem repeatStr_add (indent : GoString) (m n : Nat) :
    repeatStr indent (m + n) = repeatStr indent m ++ repeatStr indent n := by
  induction m with
  | zero => simp [repeatStr]
  | succ m ih => rw [Nat.succ_add, repeatStr_succ, repeatStr_succ, ih, List.append_assoc]

theorem repeatStr_length (indent : GoString) (n : Nat) :
    (repeatStr indent n).length = n * indent.length := by
  induction n with
  | zero => simp [repeatStr]
  | succ n ih => rw [repeatStr_succ, List.length_append, ih, Nat.succ_mul, Nat.add_comm]

theorem repeatStr_eq_replicate (indent : GoString) (n : Nat) :
    repeatStr indent n = (List.replicate n indent).flatten := by
  induction n with
  | zero => rfl
  | succ n ih => rw [repeatStr_succ, List.replicate_succ, List.flatten_cons, ih]


theorem join_nil (sep : GoString) : GoString.join sep [] = [] := rfl
theorem join_single (sep p : GoString) : GoString.join sep [p] = p := rfl
theorem join_cons_cons (sep p q : GoString) (rest : List GoString) :
    GoString.join sep (p :: q :: rest) = p ++ sep ++ GoString.join sep (q :: rest) := rfl

theorem join_eq_flatten_intersperse (sep : GoString) (l : List GoString) :
    GoString.join sep l = (l.intersperse sep).flatten := by
  induction l with
  | nil => rfl
  | cons p t ih =>
    cases t with
    | nil => simp [GoString.join]
    | cons q r =>
      rw [join_cons_cons, ih]
      simp [List.intersperse, List.append_assoc]

/-- Injectivity of a function on a type whose elements can be listed, from the check of all pairs
    of the list (which `decide` can make for a concrete table). -/
theorem injective_of_list {α β : Type} (f : α → β) (l : List α) (hall : ∀ x, x ∈ l)
    (h : ∀ a ∈ l, ∀ b ∈ l, f a = f b → a = b) (a b : α) (hab : f a = f b) : a = b :=
  h a (hall a) b (hall b) hab

end Bexpr.Proofs.Dump
