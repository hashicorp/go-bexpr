/-
  Lemmas for property C01 (`Evaluate` agrees with the reference semantics `Eval.Spec`): `Get` over
  a concatenated path, the single walk of the specification against `get` and the parent test,
  selector resolution of the code (`finish`, bindings by path) against the specification's
  (`LocalsRel`, bindings by value), the elements a quantifier aliases, and a size bound that gives
  the hypothesis `short` of `Props/C01.Hyps`.
-/
import Bexpr.Eval.Spec
import Proofs.StrconvLemmas
import Proofs.Total
import Props.C06

namespace Bexpr.Proofs.SpecLemmas
open Bexpr Bexpr.Go Bexpr.Eval
open Bexpr.Props

/-! ## The decimal index round trip `ParseInt(Itoa(i)) = i` -/

namespace IndexRoundTrip
open Bexpr.Strconv

theorem parseInt_natToDec (n : Nat) (h : n < 2 ^ 63) :
    Strconv.parseInt (GoString.natToDec n) 0 64 = .ok (n : Int) := by
  rw [natToDec_eq_digitBytes]
  obtain ⟨d, t, hd, _, heq⟩ := digitBytes_head (b := 10) (by omega) n
  have hu := parseUint_digitBytes10_base0 n
  rw [heq] at hu ⊢
  rw [parseInt_unsigned (digitByte_ne_minus d (by omega)) (digitByte_ne_plus d (by omega)) hu,
    if_pos h]

end IndexRoundTrip

/-! ## `get` by steps -/

/-- a step does not see whether the current value is boxed in an interface -/
theorem getStep_toAny (cfg : Config) (part : GoString) (r : GoVal) :
    getStep cfg part (valueOf r.toAny) = getStep cfg part (some r) := by
  have : unwrapForStep (valueOf r.toAny) = unwrapForStep (some r) := by
    cases r <;> try rfl
    rename_i x
    cases x <;> simp [GoVal.toAny, valueOf, unwrapForStep, unwrapIfaceV]
  unfold getStep
  rw [this]

theorem getLoop_toAny (cfg : Config) (ps : List GoString) (r : GoVal) (h : ps ≠ []) :
    getLoop cfg ps (valueOf r.toAny) = getLoop cfg ps (some r) := by
  cases ps with
  | nil => exact absurd rfl h
  | cons p ps => simp only [getLoop, getStep_toAny]

theorem get_cons (cfg : Config) (part : GoString) (rest : List GoString) (v : Any) :
    get cfg (part :: rest) v =
      match getStep cfg part (valueOf v) with
      | .error e => .error e
      | .ok none => .error .hookNil
      | .ok (some r) => get cfg rest r.toAny := by
  simp only [Go.get, getLoop]
  cases hs : getStep cfg part (valueOf v) with
  | error e => rfl
  | ok cur =>
    cases cur with
    | none => exact absurd hs (Keys.getStep_ne_ok_none cfg part _)
    | some r =>
      cases rest with
      | nil => simp [getLoop]
      | cons q qs =>
        simp only []
        rw [getLoop_toAny cfg (q :: qs) r (by simp)]

/-- C01 `get_append`.  Holds for every hook (the hook is applied per step) and in the corner cases
    `p = []` (`Get` returns the datum itself) and `q = []`. -/
theorem get_append (cfg : Config) (p q : List GoString) (d : Any) :
    get cfg (p ++ q) d =
      match get cfg p d with
      | .ok v => get cfg q v
      | .error e => .error e := by
  induction p generalizing d with
  | nil => simp [Go.get]
  | cons part rest ih =>
    simp only [List.cons_append, get_cons]
    cases getStep cfg part (valueOf d) with
    | error e => rfl
    | ok cur =>
      cases cur with
      | none => rfl
      | some r => exact ih r.toAny

theorem get_append_bind (cfg : Config) (p q : List GoString) (d : Any) :
    get cfg (p ++ q) d = (get cfg p d).bind (get cfg q) := by
  rw [get_append]; cases get cfg p d <;> rfl

/-! ## The single walk of the specification -/

theorem get_eq_walk (cfg : Config) (p : List GoString) (v : Any) :
    get cfg p v =
      match Spec.walk cfg p v with
      | .ok r => .ok r
      | .error s => .error s.err := by
  induction p generalizing v with
  | nil => simp [Go.get, Spec.walk]
  | cons part rest ih =>
    rw [get_cons]
    simp only [Spec.walk]
    cases getStep cfg part (valueOf v) with
    | error e => rfl
    | ok cur =>
      cases cur with
      | none => rfl
      | some r => exact ih r.toAny

/-- a stuck walk, on the path without its last part: it arrives at the parent if it was stuck
    at the last part, and is stuck, too, if it was stuck before -/
theorem walk_dropLast (cfg : Config) (p : List GoString) (v : Any) (s : Spec.Stuck)
    (h : Spec.walk cfg p v = .error s) :
    (s.atLast = true → Spec.walk cfg p.dropLast v = .ok s.parent) ∧
    (s.atLast = false → ∃ s', Spec.walk cfg p.dropLast v = .error s') := by
  induction p generalizing v with
  | nil => simp [Spec.walk] at h
  | cons part rest ih =>
    cases rest with
    | nil =>
      simp only [Spec.walk] at h
      cases hs : getStep cfg part (valueOf v) with
      | error e => rw [hs] at h; cases h; exact ⟨fun _ => rfl, fun hl => by simp at hl⟩
      | ok cur =>
        rw [hs] at h
        cases cur with
        | none => cases h; exact ⟨fun _ => rfl, fun hl => by simp at hl⟩
        | some r => simp at h
    | cons q qs =>
      simp only [List.dropLast_cons_cons] at ih ⊢
      simp only [Spec.walk] at h ⊢
      cases hs : getStep cfg part (valueOf v) with
      | error e => rw [hs] at h; cases h; exact ⟨fun hl => by simp at hl, fun _ => ⟨_, rfl⟩⟩
      | ok cur =>
        rw [hs] at h
        cases cur with
        | none => cases h; exact ⟨fun hl => by simp at hl, fun _ => ⟨_, rfl⟩⟩
        | some r => exact ih r.toAny h

theorem walk_error_ne_nil (cfg : Config) (p : List GoString) (v : Any) (s : Spec.Stuck)
    (h : Spec.walk cfg p v = .error s) : p ≠ [] := by
  intro hp; subst hp; simp [Spec.walk] at h

theorem evaluateNotPresent_walk (cfg : Config) (pre p : List GoString) (d v : Any)
    (s : Spec.Stuck) (hpre : get cfg pre d = .ok v) (h : Spec.walk cfg p v = .error s) :
    evaluateNotPresent cfg (pre ++ p) d =
      (decide (2 ≤ (pre ++ p).length) && s.atLast && RV.kind s.parent == .map) := by
  have hp := walk_error_ne_nil cfg p v s h
  unfold evaluateNotPresent
  by_cases hlen : (pre ++ p).length < 2
  · have h2 : decide (2 ≤ (pre ++ p).length) = false := by
      simp only [decide_eq_false_iff_not]; omega
    rw [if_pos hlen, h2]; rfl
  · have h2 : 2 ≤ (pre ++ p).length := by omega
    simp only [hlen, if_false, h2, decide_true, Bool.true_and]
    rw [List.dropLast_append_of_ne_nil hp, get_append, hpre]
    simp only []
    rw [get_eq_walk]
    cases hl : s.atLast with
    | true =>
      rw [(walk_dropLast cfg p v s h).1 hl]
      cases hpar : s.parent with
      | none => simp [RV.kind]
      | some w => simp [RV.kind]
    | false =>
      obtain ⟨s', hs'⟩ := (walk_dropLast cfg p v s h).2 hl
      rw [hs']; simp

/-! ## The local-variable scan over an extended path -/

/-- a scan that ends with a path (no key/index binding hit) only rewrites a prefix: parts
    appended to the path are appended to the result -/
theorem resolveLocals_append_path (ls : List LocalVar) (p q r : List GoString) (hp : p ≠ [])
    (h : resolveLocals ls p = .ok (.inr q)) :
    resolveLocals ls (p ++ r) = .ok (.inr (q ++ r)) ∧ q ≠ [] := by
  induction ls generalizing p with
  | nil =>
    simp only [resolveLocals, Except.ok.injEq, Sum.inr.injEq] at h
    subst h; exact ⟨by simp [resolveLocals], hp⟩
  | cons lv older ih =>
    cases p with
    | nil => exact absurd rfl hp
    | cons n t =>
      simp only [List.cons_append, resolveLocals] at h ⊢
      by_cases hn : (n == lv.name) = true
      · simp only [hn, if_true] at h ⊢
        by_cases hpe : lv.path.isEmpty = true
        · simp only [hpe, if_true] at h
          split at h <;> simp at h
        · simp only [hpe, Bool.false_eq_true, if_false] at h ⊢
          have hne : lv.path ++ t ≠ [] := by
            cases hq : lv.path with
            | nil => simp [hq] at hpe
            | cons a as => simp
          have := ih (lv.path ++ t) hne h
          simpa [List.append_assoc] using this
      · simp only [hn, Bool.false_eq_true, if_false] at h ⊢
        have := ih (n :: t) (by simp) h
        simpa using this

/-! ## Selector resolution: the code against the specification -/

/-- the part of `getValue` after the scan -/
def finish (cfg : Config) (unknown : Option Any) (d : Any) :
    Except Unit (Sum Any (List GoString)) → GetValue
  | .error () => .error
  | .ok (.inl v) => .present v
  | .ok (.inr path) =>
    match get cfg path d with
    | .ok v => .present v
    | .error .unmodelled => .unmodelled
    | .error .panic => .error
    | .error .notFound =>
      match unknown with
      | some u => .present u
      | none => if evaluateNotPresent cfg path d then .absent else .error
    | .error _ => .error

theorem getValue_eq_finish (o : Opts) (d : Any) (path : List GoString) :
    getValue o d path = finish o.cfg o.unknown d (resolveLocals o.locals.reverse path) := by
  unfold getValue finish
  cases resolveLocals o.locals.reverse path with
  | error e => rfl
  | ok r => cases r <;> rfl

theorem finish_inr_eq_classify (cfg : Config) (unknown : Option Any) (d v : Any)
    (pre p : List GoString) (minParts : Nat) (hpre : get cfg pre d = .ok v)
    (hmin : p ≠ [] → (minParts ≤ p.length ↔ 2 ≤ (pre ++ p).length)) :
    finish cfg unknown d (.ok (.inr (pre ++ p))) =
      Spec.classify unknown minParts p (Spec.walk cfg p v) := by
  unfold finish
  simp only []
  rw [get_append, hpre]
  simp only []
  rw [get_eq_walk]
  cases hw : Spec.walk cfg p v with
  | ok r => rfl
  | error s =>
    have hp := walk_error_ne_nil cfg p v s hw
    simp only [Spec.classify]
    cases he : s.err <;> simp only []
    cases unknown with
    | some u => rfl
    | none =>
      simp only []
      rw [evaluateNotPresent_walk cfg pre p d v s hpre hw]
      have : decide (minParts ≤ p.length) = decide (2 ≤ (pre ++ p).length) := by
        rw [decide_eq_decide]; exact hmin hp
      rw [this]
      cases s.atLast <;> cases decide (2 ≤ (pre ++ p).length) <;> rfl

/-- the scan-order local variables of the code against the bindings of the specification:
    a key/index binding holds the same value; an alias binding's path resolves — through the
    OLDER bindings and then from the root — to the value the specification holds -/
inductive LocalsRel (cfg : Config) (d : Any) :
    List LocalVar → List (GoString × Spec.Bound) → Prop
  | nil : LocalsRel cfg d [] []
  | key (k : GoString) (v : Any) {ls vs} : LocalsRel cfg d ls vs → ¬ C06.Iterable v →
      LocalsRel cfg d ({ name := k, path := [], value := v } :: ls) ((k, .key v) :: vs)
  | elem (x : GoString) (path : List GoString) (val : Any) (full : List GoString) (v : Any)
      {ls vs} : LocalsRel cfg d ls vs → path ≠ [] →
      resolveLocals ls path = .ok (.inr full) → get cfg full d = .ok v →
      LocalsRel cfg d ({ name := x, path := path, value := val } :: ls) ((x, .elem v) :: vs)

/-- a quantifier pushes a binding only for a name that is set (`c`: the name is empty) -/
theorem LocalsRel.pushIf {cfg : Config} {d : Any} {ls : List LocalVar}
    {vs : List (GoString × Spec.Bound)} (c : Bool) (lv : LocalVar) (bd : GoString × Spec.Bound)
    (h : LocalsRel cfg d ls vs) (hc : c = false → LocalsRel cfg d (lv :: ls) (bd :: vs)) :
    LocalsRel cfg d ((if (!c) = true then [lv] else []).reverse ++ ls)
      ((if c = true then [] else [bd]) ++ vs) := by
  cases c
  · exact hc rfl
  · exact h

theorem select_cons_ne (cfg : Config) (unknown : Option Any) (root : Any)
    (y : GoString) (bd : Spec.Bound) (vs : List (GoString × Spec.Bound)) (x : GoString)
    (rest : List GoString) (h : (x == y) = false) :
    Spec.select { cfg := cfg, unknown := unknown, root := root, vars := (y, bd) :: vs } (x :: rest)
      = Spec.select { cfg := cfg, unknown := unknown, root := root, vars := vs } (x :: rest) := by
  have hne : x ≠ y := by simpa using h
  have h' : (y == x) = false := by simpa using Ne.symm hne
  simp [Spec.select, Spec.Env.lookup, List.find?, h']

theorem select_cons_eq (cfg : Config) (unknown : Option Any) (root : Any)
    (y : GoString) (bd : Spec.Bound) (vs : List (GoString × Spec.Bound)) (rest : List GoString) :
    Spec.select { cfg := cfg, unknown := unknown, root := root, vars := (y, bd) :: vs } (y :: rest)
      = match bd with
        | .key v => if rest.isEmpty then .present v else .error
        | .elem v => Spec.classify unknown 1 rest (Spec.walk cfg rest v) := by
  simp only [Spec.select, Spec.Env.lookup, List.find?, beq_self_eq_true]
  cases bd <;> rfl

theorem finish_eq_select (cfg : Config) (unknown : Option Any) (d : Any)
    (ls : List LocalVar) (vs : List (GoString × Spec.Bound)) (hr : LocalsRel cfg d ls vs)
    (path : List GoString) :
    finish cfg unknown d (resolveLocals ls path) =
      Spec.select { cfg := cfg, unknown := unknown, root := d, vars := vs } path := by
  cases path with
  | nil => rw [C06.resolveLocals_nil_path]; simp [finish, Go.get, Spec.select]
  | cons x rest =>
    -- the scan and the lookup go through the bindings in the same order, newest first
    induction hr with
    | nil =>
      simp only [resolveLocals]
      have := finish_inr_eq_classify cfg unknown d d [] (x :: rest) 2 (by simp [Go.get])
        (by intro _; simp)
      simp only [List.nil_append] at this
      rw [this]
      simp [Spec.select, Spec.Env.lookup]
    | key k v hrel _ ih =>
      by_cases hx : (x == k) = true
      · have hxk : x = k := by simpa using hx
        subst hxk
        rw [select_cons_eq]
        simp only [resolveLocals, beq_self_eq_true, if_true, List.isEmpty_nil]
        cases rest <;> simp [finish]
      · have hx' : (x == k) = false := by simpa using hx
        rw [select_cons_ne _ _ _ _ _ _ _ _ hx']
        simp only [resolveLocals, hx', Bool.false_eq_true, if_false]
        exact ih
    | elem y apath val full v hrel hne hres hget ih =>
      by_cases hx : (x == y) = true
      · have hxy : x = y := by simpa using hx
        subst hxy
        rw [select_cons_eq]
        have hpe : apath.isEmpty = false := by cases apath <;> simp_all
        simp only [resolveLocals, beq_self_eq_true, if_true, hpe, Bool.false_eq_true, if_false]
        obtain ⟨h1, hfull⟩ := resolveLocals_append_path _ apath full rest hne hres
        rw [h1]
        exact finish_inr_eq_classify cfg unknown d v full rest 1 hget (by
          intro hr
          have : 0 < full.length := List.length_pos_iff.mpr hfull
          have : 0 < rest.length := List.length_pos_iff.mpr hr
          simp only [List.length_append]; omega)
      · have hx' : (x == y) = false := by simpa using hx
        rw [select_cons_ne _ _ _ _ _ _ _ _ hx']
        simp only [resolveLocals, hx', Bool.false_eq_true, if_false]
        exact ih

/-! ## Quantifiers -/

theorem fold_eq_foldColl (op : CollOp) (outs : List Out) :
    Spec.fold op outs = C06.foldColl op outs := by
  induction outs with
  | nil => rfl
  | cons x rest ih =>
    cases x with
    | val r => cases op <;> cases r <;> simp [Spec.fold, C06.foldColl, ih]
    | err _ => rfl
    | panic => rfl
    | unmodelled => rfl

/-- element `i` of a list, boxed; nil past the end -/
def elemAt (xs : List GoVal) (i : Nat) : Any :=
  match xs[i]? with
  | some x => x.toAny
  | none => none

theorem listItems_eq (xs : List GoVal) (k : Nat) :
    Spec.listItems xs k =
      (List.range xs.length).map fun i =>
        ({ pos := .int .int "" ((k + i : Nat) : Int), val := elemAt xs i } : Spec.Item) := by
  induction xs generalizing k with
  | nil => rfl
  | cons x xs ih =>
    simp only [Spec.listItems, List.length_cons, List.range_succ_eq_map, List.map_cons,
      List.map_map]
    congr 1
    rw [ih (k + 1)]
    apply List.map_congr_left
    intro i _
    simp only [Function.comp, elemAt, List.getElem?_cons_succ]
    congr 2
    omega

/-- key/index bindings never hold an iterable value, so a scan that ends in one cannot be the
    collection of a quantifier -/
theorem resolveLocals_inl_not_iterable (cfg : Config) (d : Any) (ls : List LocalVar)
    (vs : List (GoString × Spec.Bound)) (hr : LocalsRel cfg d ls vs) (p : List GoString)
    (v : Any) (h : resolveLocals ls p = .ok (.inl v)) : ¬ C06.Iterable v := by
  obtain ⟨lv, hm, hp, rfl⟩ := Total.resolveLocals_inl ls p v h
  clear h
  induction hr with
  | nil => cases hm
  | key k w _ hni ih =>
    rcases List.mem_cons.mp hm with rfl | hm
    · exact hni
    · exact ih hm
  | elem x path _ _ _ _ hne _ _ ih =>
    rcases List.mem_cons.mp hm with rfl | hm
    · exact absurd (List.isEmpty_iff.mp hp) hne
    · exact ih hm

theorem present_iterable_inv (cfg : Config) (unknown : Option Any) (d : Any) (ls : List LocalVar)
    (vs : List (GoString × Spec.Bound)) (hr : LocalsRel cfg d ls vs) (p : List GoString)
    (v : Any) (h : finish cfg unknown d (resolveLocals ls p) = .present v)
    (hit : C06.Iterable v) (hu : ∀ u, unknown = some u → ¬ C06.Iterable u) :
    ∃ full, resolveLocals ls p = .ok (.inr full) ∧ get cfg full d = .ok v := by
  cases hres : resolveLocals ls p with
  | error e => rw [hres] at h; simp [finish] at h
  | ok r =>
    rw [hres] at h
    cases r with
    | inl w =>
      simp only [finish, GetValue.present.injEq] at h
      subst h
      exact absurd hit (resolveLocals_inl_not_iterable cfg d ls vs hr p _ hres)
    | inr full =>
      refine ⟨full, rfl, ?_⟩
      simp only [finish] at h
      cases hg : get cfg full d with
      | ok w => rw [hg] at h; simp only [GetValue.present.injEq] at h; rw [h]
      | error e =>
        rw [hg] at h
        cases e <;> simp only [] at h <;> try cases h
        cases hun : unknown with
        | none => rw [hun] at h; simp only [] at h; split at h <;> cases h
        | some u =>
          rw [hun] at h
          simp only [GetValue.present.injEq] at h
          subst h
          exact absurd hit (hu u hun)

/-- the hooks under which the element a quantifier aliases is the element itself -/
def plainHook (h : Hook) : Prop := h = .off ∨ h = .identity

theorem applyHook_plain (cfg : Config) (hh : plainHook cfg.hook) (x : GoVal) :
    getStep.applyHook cfg (.ok (some x)) = .ok (some x) := by
  unfold getStep.applyHook
  rcases hh with h | h <;> simp [h, Hook.apply]

theorem natToDec_isEmpty (i : Nat) : (GoString.natToDec i).isEmpty = false := by
  have := @Nat.toDigits_ne_nil i 10
  cases h : Nat.toDigits 10 i with
  | nil => exact absurd h this
  | cons c cs => simp [GoString.natToDec, h]

theorem getSlice_natToDec (xs : List GoVal) (i : Nat) (hi : i < xs.length) (h63 : i < 2 ^ 63) :
    getSlice (GoString.natToDec i) xs = .ok (some xs[i]) := by
  unfold getSlice
  simp only [natToDec_isEmpty, Bool.false_eq_true, if_false,
    IndexRoundTrip.parseInt_natToDec i h63]
  have h1 : ¬ ((i : Int) < 0) := by omega
  have h2 : ¬ ((i : Int) ≥ (xs.length : Int)) := by omega
  simp [h1, h2, hi]

theorem get_index (cfg : Config) (hh : plainHook cfg.hook) (v : Any) (xs : List GoVal)
    (hl : C06.IsList v xs) (i : Nat) (hi : i < xs.length) (h63 : i < 2 ^ 63) :
    get cfg [GoString.natToDec i] v = .ok (elemAt xs i) := by
  rw [get_cons]
  have hstep : getStep cfg (GoString.natToDec i) (valueOf v) = .ok (some xs[i]) := by
    rcases hl with ⟨n, e, nl, rfl⟩ | ⟨e, rfl⟩
    all_goals
      simp only [getStep, valueOf, unwrapForStep, unwrapIfaceV, unwrapPtrV,
        getSlice_natToDec xs i hi h63]
      exact applyHook_plain cfg hh _
  rw [hstep]
  simp [Go.get, elemAt, hi]

theorem get_key (cfg : Config) (hh : plainHook cfg.hook) (n : String) (vt : GoType) (nl : Bool)
    (es : List (GoVal × GoVal)) (k : GoString)
    (hfound : (es.find? fun e => fkeyEq e.1 (.str "" k)).isSome = true) :
    get cfg [k] (some (.map n GoType.stringT vt nl es)) = .ok (Spec.entry es k) := by
  rw [get_cons]
  cases hf : es.find? (fun e => fkeyEq e.1 (.str "" k)) with
  | none => rw [hf] at hfound; cases hfound
  | some e =>
    obtain ⟨ek, ev⟩ := e
    have hstep : getStep cfg k (valueOf (some (.map n GoType.stringT vt nl es))) =
        .ok (some ev) := by
      simp only [getStep, valueOf, unwrapForStep, unwrapIfaceV, unwrapPtrV, getMap, coerceKey,
        GoType.stringT, hf]
      exact applyHook_plain cfg hh _
    rw [hstep]
    simp [Go.get, Spec.entry, hf]

theorem str_of_stringT (v : GoVal) (ht : v.typeOf = GoType.stringT)
    (hw : (v.wf || isNEIfaceKey v) = true) : ∃ s, v = .str "" s := by
  cases v with
  | str n s => cases ht; exact ⟨s, rfl⟩
  -- a scalar constructor with kind `string` is not well-formed
  | int | uint | float | complex => cases ht; cases hw
  | _ => cases ht

theorem key_found (n : String) (vt : GoType) (nl : Bool) (es : List (GoVal × GoVal))
    (hwf : Any.wf (some (.map n GoType.stringT vt nl es)) = true) (k : GoString)
    (hk : k ∈ sortKeys (es.map fun e => strKey e.1)) :
    (es.find? fun e => fkeyEq e.1 (.str "" k)).isSome = true := by
  have hk' : k ∈ es.map fun e => strKey e.1 := (List.mergeSort_perm _ _).mem_iff.mp hk
  obtain ⟨e, he, hke⟩ := List.mem_map.mp hk'
  have hent : wfEntries GoType.stringT vt es = true := by
    simp only [Any.wf, GoVal.wf, Bool.and_eq_true] at hwf
    exact hwf.2.1
  obtain ⟨ht, hw, _⟩ := Total.wfEntries_mem hent he
  obtain ⟨s, hs⟩ := str_of_stringT e.1 ht hw
  rw [List.find?_isSome]
  refine ⟨e, he, ?_⟩
  rw [hs] at hke ⊢
  simp only [strKey] at hke
  subst hke
  simp [fkeyEq, keyEq, unboxKey, keyEqV]

/-! ## A bound on the size of the datum bounds the lists a selector can reach

  Under a plain hook `Get` only ever returns sub-values (`Props/C01.Hyps.short`). -/

def rvSize : RV → Nat
  | none => 0
  | some v => v.size

theorem size_pos (v : GoVal) : 0 < v.size := by
  cases v with
  | ptr e x => cases x <;> simp [GoVal.size]
  | iface x => cases x <;> simp [GoVal.size]
  | _ => simp [GoVal.size]

theorem sizeList_mem {xs : List GoVal} {x : GoVal} (h : x ∈ xs) : x.size ≤ sizeList xs := by
  induction xs with
  | nil => cases h
  | cons y ys ih =>
    simp only [sizeList]
    rcases List.mem_cons.mp h with rfl | h
    · omega
    · have := ih h; omega

theorem length_le_sizeList (xs : List GoVal) : xs.length ≤ sizeList xs := by
  induction xs with
  | nil => simp [sizeList]
  | cons y ys ih => have := size_pos y; simp only [sizeList, List.length_cons]; omega

theorem sizeEntries_mem {es : List (GoVal × GoVal)} {e : GoVal × GoVal} (h : e ∈ es) :
    e.2.size ≤ sizeEntries es := by
  induction es with
  | nil => cases h
  | cons y ys ih =>
    obtain ⟨k, v⟩ := y
    simp only [sizeEntries]
    rcases List.mem_cons.mp h with rfl | h
    · simp only; omega
    · have := ih h; omega

theorem sizeFields_mem {fs : List (Field × GoVal)} {e : Field × GoVal} (h : e ∈ fs) :
    e.2.size ≤ sizeFields fs := by
  induction fs with
  | nil => cases h
  | cons y ys ih =>
    obtain ⟨k, v⟩ := y
    simp only [sizeFields]
    rcases List.mem_cons.mp h with rfl | h
    · simp only; omega
    · have := ih h; omega

theorem unwrapForStep_size (cur : RV) (w : GoVal) (hs : unwrapForStep cur = some w) :
    w.size ≤ rvSize cur := by
  cases cur with
  | none => cases hs
  | some v =>
    refine Keys.unwrapForStep_keeps (P := (·.size ≤ v.size)) (fun x hx => ?_) (fun e x hx => ?_)
      (Nat.le_refl _) hs
    all_goals simp only [GoVal.size] at hx; omega

theorem children_size {w x : GoVal} (hx : x ∈ Keys.children w) : x.size < w.size := by
  cases w with
  | map n kt vt nl es =>
    obtain ⟨e, he, rfl⟩ := List.mem_map.mp hx
    exact Nat.lt_succ_of_le (sizeEntries_mem he)
  | slice | array => exact Nat.lt_succ_of_le (sizeList_mem hx)
  | struct n fs =>
    obtain ⟨e, he, rfl⟩ := List.mem_map.mp hx
    exact Nat.lt_succ_of_le (sizeFields_mem he)
  | _ => cases hx

theorem getStep_size (cfg : Config) (hh : plainHook cfg.hook) (part : GoString) (cur r : RV)
    (hg : getStep cfg part cur = .ok r) : rvSize r ≤ rvSize cur := by
  obtain ⟨w, x, v', hu, hx, rfl, hv⟩ := Keys.getStep_ok _ _ _ _ hg
  have h1 := unwrapForStep_size _ _ hu
  have h2 := children_size hx
  -- a plain hook returns the child itself
  have hv' : v' = x := by
    rcases hv with hv | hv
    · exact hv
    · rcases hh with hh | hh <;> rw [hh] at hv <;> exact (Option.some.inj hv).symm
  subst hv'
  show v'.size ≤ rvSize cur
  omega

theorem toAny_size (r : GoVal) : rvSize r.toAny ≤ r.size := by
  cases r <;> try exact Nat.le_refl _
  rename_i x
  cases x <;> simp [GoVal.toAny, rvSize, GoVal.size]

theorem get_size (cfg : Config) (hh : plainHook cfg.hook) (p : List GoString) (v r : Any)
    (hg : get cfg p v = .ok r) : rvSize r ≤ rvSize v := by
  induction p generalizing v with
  | nil => simp only [Go.get, Except.ok.injEq] at hg; subst hg; exact Nat.le_refl _
  | cons part rest ih =>
    rw [get_cons] at hg
    cases hs : getStep cfg part (valueOf v) with
    | error e => rw [hs] at hg; cases hg
    | ok cur =>
      rw [hs] at hg
      cases cur with
      | none => cases hg
      | some x =>
        have h1 := getStep_size cfg hh part _ _ hs
        have h2 := ih x.toAny hg
        have h3 := toAny_size x
        simp only [rvSize, valueOf] at h1 h2 h3 ⊢
        exact Nat.le_trans h2 (Nat.le_trans h3 h1)

theorem short_of_size (cfg : Config) (hh : plainHook cfg.hook) (d : Any)
    (hsz : rvSize d ≤ 2 ^ 63) (p : List GoString) (v : Any) (xs : List GoVal)
    (hg : get cfg p d = .ok v) (hl : C06.IsList v xs) : xs.length ≤ 2 ^ 63 := by
  have h2 := length_le_sizeList xs
  -- a list value has one node more than its elements together
  rcases hl with ⟨n, e, nl, rfl⟩ | ⟨e, rfl⟩
  all_goals
    have h1 : sizeList xs + 1 ≤ rvSize d := get_size cfg hh p d _ hg
    omega

end Bexpr.Proofs.SpecLemmas
