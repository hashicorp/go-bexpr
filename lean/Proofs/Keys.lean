/-
  One step of `pointerstructure.Get`, and map keys of every type: `coerceKey` / `getMap` answer
  on EVERY key type, never `unmodelled`, and the library's panic is decided by the key type alone.

  `mapstructure.decodeArray` starts with `valArray.Interface() == reflect.Zero(t).Interface()`, a
  runtime panic when the array type is not comparable.  An array type that is a map key (or sits in
  one) is comparable, but BELOW A POINTER anything goes: `map[*[1][]int]V`, `map[**[2]func()]V`,
  `map[[1]*[1]map[string]int]V`, `map[*[][1][]int]V` … make every lookup panic (`decodePanics`).
-/
import Bexpr.Go.WF

namespace Bexpr.Proofs.Keys
open Bexpr Bexpr.Go

/-- Decoding a path part into a fresh value of type `t` panics.  Independent of the part. -/
def decodePanics : GoType → Bool
  | .ptr e => decodePanics e
  | .array n e => !e.comparable || (n != 0 && decodePanics e)
  | .slice _ e => e.kind != .uint8 && decodePanics e
  | _ => false

/-- not a pointer type, nor an array of … of pointers; slices, maps and structs are not looked
    into -/
def ptrFree : GoType → Bool
  | .ptr _ => false
  | .array _ e => ptrFree e
  | _ => true

theorem convOr_cases {α : Type} (r : Except Strconv.PErr α) (f : α → GoVal) :
    (∃ v, convOr r f = .ok v) ∨ convOr r f = .error .convert := by
  cases r with
  | ok a => exact .inl ⟨_, rfl⟩
  | error _ => exact .inr rfl

theorem decodeBasic_cases (part : GoString) (k : Kind) (name : String) :
    (∃ v, decodeBasic part k name = .ok v) ∨ decodeBasic part k name = .error .convert := by
  -- every leaf of the `if` chain is a value, a `convOr` or "couldn't convert" (`split` on the
  -- chain itself is slow to check)
  have ite {c : Prop} [Decidable c] {a b : Except GetErr GoVal}
      (ha : (∃ v, a = .ok v) ∨ a = .error .convert) (hb : (∃ v, b = .ok v) ∨ b = .error .convert) :
      (∃ v, (if c then a else b) = .ok v) ∨ (if c then a else b) = .error .convert := by
    split <;> assumption
  unfold decodeBasic
  refine ite (.inl ⟨_, rfl⟩) (ite ?_ (ite (convOr_cases _ _) (ite (convOr_cases _ _)
    (ite (convOr_cases _ _) (.inr rfl)))))
  cases Strconv.parseBool part with
  | ok b => exact .inl ⟨_, rfl⟩
  | error _ => exact ite (.inl ⟨_, rfl⟩) (.inr rfl)

theorem decodeInto_total (part : GoString) (t : GoType) :
    (decodePanics t = true ∧ decodeInto part t = .error .panic) ∨
    (decodePanics t = false ∧
      ((∃ v, decodeInto part t = .ok v) ∨ decodeInto part t = .error .convert)) := by
  induction t with
  | basic k n => exact .inr ⟨rfl, by simpa only [decodeInto] using decodeBasic_cases part k n⟩
  | ptr e ih =>
    rcases ih with ⟨hp, h⟩ | ⟨hp, ⟨v, h⟩ | h⟩ <;> simp [decodeInto, decodePanics, hp, h]
  | slice n e ih =>
    by_cases hk : e.kind = .uint8
    · simp [decodeInto, decodePanics, hk]
    · rcases ih with ⟨hp, h⟩ | ⟨hp, ⟨v, h⟩ | h⟩ <;> simp [decodeInto, decodePanics, hk, hp, h]
  | array n e ih =>
    by_cases hc : e.comparable = true
    · by_cases hn : n = 0
      · simp [decodeInto, decodePanics, hc, hn]
      · rcases ih with ⟨hp, h⟩ | ⟨hp, ⟨v, h⟩ | h⟩ <;>
          simp [decodeInto, decodePanics, hc, hn, hp, h]
    · simp [decodeInto, decodePanics, hc]
  | map | struct | iface | other => simp [decodeInto, decodePanics]

theorem decodeInto_panic_iff (part : GoString) (t : GoType) :
    decodeInto part t = .error .panic ↔ decodePanics t = true := by
  rcases decodeInto_total part t with ⟨hp, h⟩ | ⟨hp, ⟨v, h⟩ | h⟩ <;> simp [hp, h]

theorem coerceKey_total (part : GoString) (kt : GoType) :
    (decodePanics kt = true ∧ coerceKey part kt = .error .panic) ∨
    (decodePanics kt = false ∧
      ((∃ v, coerceKey part kt = .ok v) ∨ coerceKey part kt = .error .convert)) := by
  unfold coerceKey
  split
  · exact .inr ⟨rfl, .inl ⟨_, rfl⟩⟩
  · exact .inr ⟨rfl, .inl ⟨_, rfl⟩⟩
  · exact decodeInto_total part _

theorem coerceKey_cases (part : GoString) (kt : GoType) :
    (∃ v, coerceKey part kt = .ok v) ∨ coerceKey part kt = .error .convert ∨
      coerceKey part kt = .error .panic := by
  rcases coerceKey_total part kt with ⟨_, h⟩ | ⟨_, h | h⟩
  · exact .inr (.inr h)
  · exact .inl h
  · exact .inr (.inl h)

/-- A comparable type without pointers inside never makes the decoder panic: the panic needs a
    pointer (only below a pointer may an array type be uncomparable). -/
theorem decodePanics_of_ptrFree (t : GoType) (hc : t.comparable = true) (hp : ptrFree t = true) :
    decodePanics t = false := by
  induction t with
  | ptr e _ => simp [ptrFree] at hp
  | slice n e _ => simp [GoType.comparable] at hc
  | array n e ih =>
    simp only [GoType.comparable] at hc
    simp only [ptrFree] at hp
    simp [decodePanics, hc, ih hc hp]
  | _ => simp [decodePanics]

/-! ## `getMap` is total -/

theorem getMap_spec (part : GoString) (kt : GoType) (es : List (GoVal × GoVal)) :
    (decodePanics kt = true ∧ getMap part kt es = .error .panic) ∨
    (decodePanics kt = false ∧
      ((∃ e, e ∈ es ∧ getMap part kt es = .ok (some e.2)) ∨ getMap part kt es = .error .notFound ∨
        getMap part kt es = .error .convert)) := by
  unfold getMap
  rcases coerceKey_total part kt with ⟨hp, h⟩ | ⟨hp, ⟨key, h⟩ | h⟩
  · exact .inl ⟨hp, by rw [h]⟩
  · simp only [h]
    cases hf : es.find? (fun e => fkeyEq e.1 key) with
    | none => exact .inr ⟨hp, .inr (.inl rfl)⟩
    | some e => exact .inr ⟨hp, .inl ⟨e, List.mem_of_find?_eq_some hf, rfl⟩⟩
  · exact .inr ⟨hp, .inr (.inr (by rw [h]))⟩

theorem getMap_total (part : GoString) (kt : GoType) (es : List (GoVal × GoVal)) :
    (∃ e, e ∈ es ∧ getMap part kt es = .ok (some e.2)) ∨ getMap part kt es = .error .notFound ∨
      getMap part kt es = .error .convert ∨
      (getMap part kt es = .error .panic ∧ decodePanics kt = true) := by
  rcases getMap_spec part kt es with ⟨hp, h⟩ | ⟨_, h | h | h⟩
  · exact .inr (.inr (.inr ⟨h, hp⟩))
  · exact .inl h
  · exact .inr (.inl h)
  · exact .inr (.inr (.inl h))

theorem getMap_panic_iff (part : GoString) (kt : GoType) (es : List (GoVal × GoVal)) :
    getMap part kt es = .error .panic ↔ decodePanics kt = true := by
  rcases getMap_spec part kt es with ⟨hp, h⟩ | ⟨hp, ⟨e, _, h⟩ | h | h⟩ <;> simp [hp, h]

/-- in particular (`decodePanics_of_ptrFree`) for every comparable key type without pointers
    inside, and every pointer type not leading to an uncomparable array -/
theorem getMap_total_keys (part : GoString) (kt : GoType) (es : List (GoVal × GoVal))
    (hk : decodePanics kt = false) :
    (∃ e, e ∈ es ∧ getMap part kt es = .ok (some e.2)) ∨ getMap part kt es = .error .notFound ∨
      getMap part kt es = .error .convert := by
  rcases getMap_spec part kt es with ⟨hp, _⟩ | ⟨_, h⟩
  · rw [hk] at hp; cases hp
  · exact h

theorem getMap_total_wf (part : GoString) (n : String) (kt vt : GoType) (nl : Bool)
    (es : List (GoVal × GoVal)) (hw : (GoVal.map n kt vt nl es).wf = true)
    (hp : ptrFree kt = true) :
    (∃ e, e ∈ es ∧ getMap part kt es = .ok (some e.2)) ∨ getMap part kt es = .error .notFound ∨
      getMap part kt es = .error .convert := by
  simp only [GoVal.wf, Bool.and_eq_true] at hw
  exact getMap_total_keys part kt es (decodePanics_of_ptrFree kt hw.2 hp)

theorem getMap_ne_unmodelled (part : GoString) (kt : GoType) (es : List (GoVal × GoVal)) :
    getMap part kt es ≠ .error .unmodelled := by
  rcases getMap_spec part kt es with ⟨_, h⟩ | ⟨_, ⟨e, _, h⟩ | h | h⟩ <;> simp [h]

/-! ## The other getters of a step: slices, the field loop of `getStruct`, the hook -/

theorem getSlice_spec (part : GoString) (xs : List GoVal) :
    (∃ v, v ∈ xs ∧ getSlice part xs = .ok (some v)) ∨ getSlice part xs = .error .convert ∨
      getSlice part xs = .error .outOfRange := by
  unfold getSlice
  simp only []
  split
  · exact .inr (.inl rfl)
  · split
    · exact .inr (.inr rfl)
    · split
      · next v hv => exact .inl ⟨v, List.mem_of_getElem? hv, rfl⟩
      · exact .inr (.inr rfl)

/-- what the loop of `getStruct` does with one field (in `fieldAct`, 124 is `'|'`) -/
inductive FieldAct where
  | skip            -- `continue`
  | bar             -- error: tag contains '|'
  | ignore          -- "-" tag on the field named by the part: found = ignored = true
  | tagHit          -- tag equals the part: `return`s this field
  | nameHit         -- untagged, Go name equals the part: remembered as `foundField`

def fieldAct (tagName part : GoString) (f : Field) : FieldAct :=
  if !f.exported then .skip else
  if !(f.tag tagName).isEmpty then
    if (tagHead (f.tag tagName)).contains 124 then .bar
    else if tagHead (f.tag tagName) == GoString.ofString "-" then
      (if f.goName == part then .ignore else .skip)
    else if tagHead (f.tag tagName) == part then .tagHit else .skip
  else if f.goName == part then .nameHit else .skip

theorem structLoop_cons (tagName part : GoString) (f : Field) (v : GoVal)
    (rest : List (Field × GoVal)) (ff : Option GoVal) (found ignored : Bool) :
    structLoop tagName part ((f, v) :: rest) ff found ignored =
      match fieldAct tagName part f with
      | .skip => structLoop tagName part rest ff found ignored
      | .bar => .error .tagBar
      | .ignore => structLoop tagName part rest ff true true
      | .tagHit => .ok (some v)
      | .nameHit => structLoop tagName part rest (some v) true ignored := by
  simp only [structLoop, fieldAct]
  cases (!f.exported)
  · cases (!(f.tag tagName).isEmpty)
    · cases (f.goName == part) <;> rfl
    · cases (tagHead (f.tag tagName)).contains 124
      · cases (tagHead (f.tag tagName) == GoString.ofString "-")
        · cases (tagHead (f.tag tagName) == part) <;> rfl
        · cases (f.goName == part) <;> rfl
      · rfl
  · rfl

theorem fieldAct_spec (tagName part : GoString) (f : Field) :
    match fieldAct tagName part f with
    | .skip => True
    | .bar => f.exported = true ∧ (tagHead (f.tag tagName)).contains 124 = true
    | .ignore => f.exported = true ∧ tagHead (f.tag tagName) = GoString.ofString "-" ∧ f.goName = part
    | .tagHit => f.exported = true ∧ (f.tag tagName).isEmpty = false ∧
        tagHead (f.tag tagName) ≠ GoString.ofString "-" ∧ tagHead (f.tag tagName) = part
    | .nameHit => f.exported = true ∧ (f.tag tagName).isEmpty = true ∧ f.goName = part := by
  unfold fieldAct
  cases he : f.exported
  · trivial
  · cases ht : (f.tag tagName).isEmpty
    · cases hb : (tagHead (f.tag tagName)).contains 124
      · cases hd : tagHead (f.tag tagName) == GoString.ofString "-"
        · cases hp : tagHead (f.tag tagName) == part
          · trivial
          · exact ⟨rfl, rfl, ne_of_beq_false hd, eq_of_beq hp⟩
        · cases hp : f.goName == part
          · trivial
          · exact ⟨rfl, eq_of_beq hd, eq_of_beq hp⟩
      · exact ⟨rfl, rfl⟩
    · cases hp : f.goName == part
      · trivial
      · exact ⟨rfl, rfl, eq_of_beq hp⟩

theorem structLoop_nil (tagName part : GoString) (ff : Option GoVal) (found ignored : Bool) :
    structLoop tagName part [] ff found ignored =
      if !found then .error .notFound else if ignored then .error .ignored else .ok ff := by
  simp only [structLoop]

/-- the part names the field: the loop returns it (by tag) or remembers it (by Go name) -/
def hits (tagName part : GoString) (f : Field) : Prop :=
  fieldAct tagName part f = .tagHit ∨ fieldAct tagName part f = .nameHit

/-- the remembered field comes back only if nothing was found or ignored on the way -/
theorem structLoop_ok (tagName part : GoString) (fs : List (Field × GoVal)) (ff : Option GoVal)
    (found ignored : Bool) (r : RV) (h : structLoop tagName part fs ff found ignored = .ok r) :
    (r = ff ∧ found = true ∧ ignored = false) ∨
      ∃ e, e ∈ fs ∧ r = some e.2 ∧ hits tagName part e.1 := by
  induction fs generalizing ff found ignored with
  | nil =>
    rw [structLoop_nil] at h
    cases found <;> cases ignored <;> cases h
    exact .inl ⟨rfl, rfl, rfl⟩
  | cons e rest ih =>
    obtain ⟨f, v⟩ := e
    have tail : (∃ e, e ∈ rest ∧ r = some e.2 ∧ hits tagName part e.1) →
        ∃ e, e ∈ (f, v) :: rest ∧ r = some e.2 ∧ hits tagName part e.1 :=
      fun ⟨e, he, hr⟩ => ⟨e, .tail _ he, hr⟩
    rw [structLoop_cons] at h
    cases ha : fieldAct tagName part f <;> rw [ha] at h <;> simp only [] at h
    case skip => exact (ih _ _ _ h).imp_right tail
    case bar => cases h
    case ignore =>
      rcases ih _ _ _ h with ⟨_, _, hi⟩ | h'
      · cases hi
      · exact .inr (tail h')
    case tagHit => cases h; exact .inr ⟨(f, v), .head _, rfl, .inl ha⟩
    case nameHit =>
      rcases ih _ _ _ h with ⟨hr, _, _⟩ | h'
      · exact .inr ⟨(f, v), .head _, hr, .inr ha⟩
      · exact .inr (tail h')

theorem structLoop_error (tagName part : GoString) (fs : List (Field × GoVal))
    (ff : Option GoVal) (found ignored : Bool) (e : GetErr)
    (h : structLoop tagName part fs ff found ignored = .error e) :
    e = .notFound ∨ e = .ignored ∨ e = .tagBar := by
  induction fs generalizing ff found ignored with
  | nil =>
    rw [structLoop_nil] at h
    cases found <;> cases ignored <;> cases h <;> simp
  | cons e' rest ih =>
    rw [structLoop_cons] at h
    cases ha : fieldAct tagName part e'.1 <;> rw [ha] at h <;> simp only [] at h
    case skip | ignore | nameHit => exact ih _ _ _ h
    case bar => cases h; simp
    case tagHit => cases h

/-- the hook only adds the error `hookNil` -/
theorem applyHook_error (cfg : Config) (r : Except GetErr RV) (e : GetErr)
    (h : getStep.applyHook cfg r = .error e) : r = .error e ∨ e = .hookNil := by
  unfold getStep.applyHook at h
  split at h
  · exact .inl h
  · cases h; exact .inr rfl
  · split at h
    · cases h
    · split at h
      · cases h; exact .inr rfl
      · cases h

theorem applyHook_ok (cfg : Config) (r : Except GetErr RV) (r' : RV)
    (hg : getStep.applyHook cfg r = .ok r') :
    ∃ v v', r = .ok (some v) ∧ r' = some v' ∧ (v' = v ∨ cfg.hook.apply v = some v') := by
  unfold getStep.applyHook at hg
  split at hg
  · cases hg
  · cases hg
  · next v =>
    split at hg
    · cases hg; exact ⟨v, v, rfl, rfl, .inl rfl⟩
    · split at hg
      · cases hg
      · next v' hv' => cases hg; exact ⟨v, v', rfl, rfl, .inr hv'⟩

/-! ## Unwrapping keeps what is handed down through interface boxes and pointers -/

theorem unwrapIfaceV_keeps {P : GoVal → Prop} (hi : ∀ v, P (.iface (some v)) → P v)
    {v w : GoVal} (h : P v) (hs : unwrapIfaceV v = some w) : P w := by
  fun_induction unwrapIfaceV v with
  | case1 v ih => exact ih (hi v h) hs
  | case2 => cases hs
  | case3 v h1 h2 => cases hs; exact h

theorem unwrapPtrV_keeps {P : GoVal → Prop} (hp : ∀ e v, P (.ptr e (some v)) → P v)
    {v w : GoVal} (h : P v) (hs : unwrapPtrV v = some w) : P w := by
  fun_induction unwrapPtrV v with
  | case1 e v ih => exact ih (hp e v h) hs
  | case2 => cases hs
  | case3 v h1 h2 => cases hs; exact h

theorem stripIP_keeps {P : GoVal → Prop} (hi : ∀ v, P (.iface (some v)) → P v)
    (hp : ∀ e v, P (.ptr e (some v)) → P v) {v w : GoVal} (h : P v)
    (hs : stripIP v = some w) : P w := by
  fun_induction stripIP v with
  | case1 v ih => exact ih (hi v h) hs
  | case2 => cases hs
  | case3 e v ih => exact ih (hp e v h) hs
  | case4 => cases hs
  | case5 v h1 h2 h3 h4 => cases hs; exact h

theorem unwrapForStep_keeps {P : GoVal → Prop} (hi : ∀ v, P (.iface (some v)) → P v)
    (hp : ∀ e v, P (.ptr e (some v)) → P v) {v w : GoVal} (h : P v)
    (hs : unwrapForStep (some v) = some w) : P w := by
  simp only [unwrapForStep] at hs
  cases hv : unwrapIfaceV v with
  | none => rw [hv] at hs; cases hs
  | some v' => rw [hv] at hs; exact unwrapPtrV_keeps hp (unwrapIfaceV_keeps hi h hv) hs

/-! ## The step -/

/-- the values one step below a container -/
def children : GoVal → List GoVal
  | .map _ _ _ _ es => es.map (·.2)
  | .slice _ _ _ xs => xs
  | .array _ xs => xs
  | .struct _ fs => fs.map (·.2)
  | _ => []

theorem getStep_ok (cfg : Config) (part : GoString) (cur r : RV)
    (h : getStep cfg part cur = .ok r) :
    ∃ w x v', unwrapForStep cur = some w ∧ x ∈ children w ∧ r = some v' ∧
      (v' = x ∨ cfg.hook.apply x = some v') := by
  unfold getStep at h
  split at h
  · next n kt vt nl es hu =>
    obtain ⟨x, v', hg, rfl, hv⟩ := applyHook_ok _ _ _ h
    rcases getMap_spec part kt es with ⟨_, h'⟩ | ⟨_, ⟨e, he, h'⟩ | h' | h'⟩ <;> rw [h'] at hg <;>
      cases hg
    exact ⟨_, _, v', hu, List.mem_map_of_mem he, rfl, hv⟩
  case h_2 xs hu | h_3 xs hu =>
    obtain ⟨x, v', hg, rfl, hv⟩ := applyHook_ok _ _ _ h
    rcases getSlice_spec part xs with ⟨y, hy, h'⟩ | h' | h' <;> rw [h'] at hg <;> cases hg
    exact ⟨_, _, v', hu, hy, rfl, hv⟩
  · next fs hu =>
    obtain ⟨x, v', hg, rfl, hv⟩ := applyHook_ok _ _ _ h
    rcases structLoop_ok _ _ _ _ _ _ _ hg with ⟨_, h', _⟩ | ⟨e, he, h', _⟩ <;> cases h'
    exact ⟨_, _, v', hu, List.mem_map_of_mem he, rfl, hv⟩
  · cases h

theorem getStep_ne_ok_none (cfg : Config) (part : GoString) (cur : RV) :
    getStep cfg part cur ≠ .ok none := by
  intro h
  obtain ⟨_, _, _, _, _, h', _⟩ := getStep_ok _ _ _ _ h
  cases h'

theorem getStep_error (cfg : Config) (part : GoString) (cur : RV) (e : GetErr)
    (h : getStep cfg part cur = .error e) :
    (∃ n kt vt nl es, unwrapForStep cur = some (.map n kt vt nl es) ∧
      getMap part kt es = .error e) ∨ (e ≠ .unmodelled ∧ e ≠ .panic) := by
  unfold getStep at h
  split at h
  · next n kt vt nl es hu =>
    rcases applyHook_error _ _ _ h with h | rfl
    · exact .inl ⟨n, kt, vt, nl, es, hu, h⟩
    · exact .inr (by decide)
  case h_2 | h_3 =>
    rcases applyHook_error _ _ _ h with h | rfl
    · rcases getSlice_spec part _ with ⟨_, _, h'⟩ | h' | h' <;> rw [h'] at h <;> cases h <;>
        exact .inr (by decide)
    · exact .inr (by decide)
  · rcases applyHook_error _ _ _ h with h | rfl
    · rcases structLoop_error _ _ _ _ _ _ _ h with rfl | rfl | rfl <;> exact .inr (by decide)
    · exact .inr (by decide)
  · cases h; exact .inr (by decide)

/-! ## `Get` never answers `unmodelled`; a step panics only in `getMap` -/

theorem getStep_ne_unmodelled (cfg : Config) (part : GoString) (cur : RV) :
    getStep cfg part cur ≠ .error .unmodelled := by
  intro h
  rcases getStep_error _ _ _ _ h with ⟨_, _, _, _, _, _, hm⟩ | ⟨hu, _⟩
  · exact getMap_ne_unmodelled _ _ _ hm
  · exact hu rfl

theorem getStep_panic (cfg : Config) (part : GoString) (cur : RV)
    (h : getStep cfg part cur = .error .panic) :
    ∃ n kt vt nl es, unwrapForStep cur = some (.map n kt vt nl es) ∧ decodePanics kt = true := by
  rcases getStep_error _ _ _ _ h with ⟨n, kt, vt, nl, es, hu, hm⟩ | ⟨_, hp⟩
  · exact ⟨n, kt, vt, nl, es, hu, (getMap_panic_iff part kt es).1 hm⟩
  · exact absurd rfl hp

theorem getLoop_ne_unmodelled (cfg : Config) (parts : List GoString) (cur : RV) :
    getLoop cfg parts cur ≠ .error .unmodelled := by
  induction parts generalizing cur with
  | nil => simp [getLoop]
  | cons p ps ih =>
    unfold getLoop
    split
    · rename_i e he
      intro h
      cases h
      exact getStep_ne_unmodelled _ _ _ he
    · exact ih _

theorem get_ne_unmodelled (cfg : Config) (parts : List GoString) (v : Any) :
    Go.get cfg parts v ≠ .error .unmodelled := by
  unfold Go.get
  split
  · simp
  · split
    · rename_i e he
      intro h
      cases h
      exact getLoop_ne_unmodelled _ _ _ he
    · simp
    · simp

end Bexpr.Proofs.Keys
