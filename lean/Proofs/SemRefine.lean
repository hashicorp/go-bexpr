/-
  The engine (`Bexpr.Peg.eval`) refines the declarative semantics (`Bexpr.Peg.Sem`):
  soundness (every engine result is a derivation), completeness (every derivation is found by
  the engine, in a definite number of steps, whenever budget and fuel allow), determinism.
-/
import Bexpr.Peg.Engine
import Bexpr.Peg.Sem
import Proofs.Budget

namespace Bexpr.Proofs.SemRefine
open Bexpr Bexpr.Peg Bexpr.Proofs.Budget

theorem read_eq (st : PState) (rule : String) :
    st.read rule = { pt := st.pt.next, cnt := st.cnt, errs := logRead rule st.pt.next st.errs } := by
  simp only [PState.read, Pt.next, logRead]
  split <;> simp_all

theorem addErr_eq (st : PState) (off : Nat) (rule msg : String) :
    (st.addErr off rule (.action msg)).errs = logAct off rule (some msg) st.errs := rfl

/-! ## Soundness -/

/-- `ok` holds of the parts of an `ok` result and `ab` of the message of an `abort`; nothing is
    claimed of a run cut short by the budget or the fuel. -/
def Lift (ok : PState → Frame → PVal → Bool → Prop) (ab : String → Prop) : PRes → Prop
  | .ok st fr v m => ok st fr v m
  | .abort _ msg => ab msg
  | _ => True

theorem Lift.bind {ok₁ ok : PState → Frame → PVal → Bool → Prop} {ab₁ ab : String → Prop}
    {r : PRes} {k : PState → Frame → PVal → Bool → PRes} (h : Lift ok₁ ab₁ r)
    (hok : ∀ st fr v m, ok₁ st fr v m → Lift ok ab (k st fr v m))
    (hab : ∀ msg, ab₁ msg → ab msg) : Lift ok ab (r.bind k) := by
  cases r with
  | ok st fr v m => exact hok st fr v m h
  | abort s msg => exact hab msg h
  | _ => trivial

theorem Lift.imp {ok₁ ok : PState → Frame → PVal → Bool → Prop} {ab₁ ab : String → Prop} {r : PRes}
    (h : Lift ok₁ ab₁ r) (hok : ∀ st fr v m, ok₁ st fr v m → ok st fr v m)
    (hab : ∀ msg, ab₁ msg → ab msg) : Lift ok ab r := by
  cases r with
  | ok st fr v m => exact hok st fr v m h
  | abort s msg => exact hab msg h
  | _ => trivial

def Snd (env : Env) (g : Grammar) (rule : String) (e : PExpr) (fr : Frame) (st : PState) :
    PRes → Prop :=
  Lift (fun st' fr' v m => Sem env g rule e fr st.pt st.errs (.res st'.pt st'.errs fr' v m))
    (fun msg => Sem env g rule e fr st.pt st.errs (.abort msg))

/-- `acc`: the values of the elements before `es`, newest first -/
def SndSeq (env : Env) (g : Grammar) (rule : String) (es : List PExpr) (fr : Frame) (st : PState)
    (acc : List PVal) :
    PRes → Prop :=
  Lift (fun st' fr' v m =>
      match m with
      | true => ∃ vs, v = .list (acc.reverse ++ vs) ∧
          SemSeq env g rule es fr st.pt st.errs (.ok st'.pt st'.errs fr' vs)
      | false => v = .nil ∧ SemSeq env g rule es fr st.pt st.errs (.fail st'.pt st'.errs fr'))
    (fun msg => SemSeq env g rule es fr st.pt st.errs (.abort msg))

def SndChoice (env : Env) (g : Grammar) (rule : String) (as : List PExpr) (fr : Frame)
    (st : PState) : PRes → Prop :=
  Lift (fun st' fr' v m => SemChoice env g rule as fr st.pt st.errs (.res st'.pt st'.errs fr' v m))
    (fun msg => SemChoice env g rule as fr st.pt st.errs (.abort msg))

def SndStar (env : Env) (g : Grammar) (rule : String) (e : PExpr) (fr : Frame) (st : PState)
    (acc : List PVal) :
    PRes → Prop :=
  Lift (fun st' fr' v m => m = true ∧ fr' = fr ∧ ∃ vs, v = .list (acc.reverse ++ vs) ∧
      SemStar env g rule e st.pt st.errs (.done st'.pt st'.errs vs))
    (fun msg => SemStar env g rule e st.pt st.errs (.abort msg))

theorem litLoop_sound (rule : String) : ∀ ws st,
    SemLit rule ws st.pt st.errs (litLoop rule ws st).1.pt (litLoop rule ws st).1.errs
      (litLoop rule ws st).2
  | [], _ => .nil
  | w :: ws, st => by
    simp only [litLoop]
    split
    · rename_i h
      exact .mismatch (by simpa using h)
    · rename_i h
      have := litLoop_sound rule ws (st.read rule)
      simp only [read_eq] at this ⊢
      exact .step (by simpa using h) this

variable {env : Env} {g : Grammar}

theorem SndSeq.cons {rule e es fr st acc st' fr' v r}
    (h1 : Sem env g rule e fr st.pt st.errs (.res st'.pt st'.errs fr' v true))
    (h2 : SndSeq env g rule es fr' st' (v :: acc) r) : SndSeq env g rule (e :: es) fr st acc r := by
  refine h2.imp (fun _ _ _ m h => ?_) fun _ h => .cons h1 h
  cases m
  · exact ⟨h.1, .cons h1 h.2⟩
  · obtain ⟨vs, hv, hs⟩ := h
    exact ⟨v :: vs, by simp [hv], .cons h1 hs⟩

theorem seqLoop_sound (rule : String) (f : PExpr → Frame → PState → PRes)
    (hf : ∀ e fr st, Snd env g rule e fr st (f e fr st)) :
    ∀ es fr st acc, SndSeq env g rule es fr st acc (seqLoop f es fr st acc)
  | [], _, _, _ => ⟨[], by simp, .nil⟩
  | e :: es, fr, st, acc => by
    rw [seqLoop_cons]
    refine (hf e fr st).bind (fun st' fr' v m h1 => ?_) fun msg h => .abort h
    cases m
    · exact ⟨rfl, .fail h1⟩
    · exact (seqLoop_sound rule f hf es fr' st' (v :: acc)).cons h1

theorem SndChoice.next {rule a as fr st st' fr' v r}
    (h1 : Sem env g rule a [] st.pt st.errs (.res st'.pt st'.errs fr' v false))
    (h2 : SndChoice env g rule as fr st' r) : SndChoice env g rule (a :: as) fr st r :=
  h2.imp (fun _ _ _ _ h => .next h1 h) fun _ h => .next h1 h

theorem choiceLoop_sound (rule : String) (f : PExpr → Frame → PState → PRes)
    (hf : ∀ e fr st, Snd env g rule e fr st (f e fr st)) :
    ∀ as fr st, SndChoice env g rule as fr st (choiceLoop f as fr st)
  | [], _, _ => .exhausted
  | a :: as, fr, st => by
    rw [choiceLoop_cons]
    refine (hf a [] st).bind (fun st' fr' v m h1 => ?_) fun msg h => .abortAlt h
    cases m
    · exact (choiceLoop_sound rule f hf as fr st').next h1
    · exact .hit h1

theorem SndStar.more {rule e fr st acc st' fr' v r}
    (h1 : Sem env g rule e [] st.pt st.errs (.res st'.pt st'.errs fr' v true))
    (h2 : SndStar env g rule e fr st' (v :: acc) r) : SndStar env g rule e fr st acc r :=
  h2.imp (fun _ _ _ _ ⟨hm, hfr, vs, hv, hs⟩ => ⟨hm, hfr, v :: vs, by simp [hv], .more h1 hs⟩)
    fun _ h => .more h1 h

theorem starLoop_sound (rule : String) (e : PExpr) (f : Frame → PState → PRes)
    (hf : ∀ st, Snd env g rule e [] st (f [] st)) :
    ∀ k fr st acc, SndStar env g rule e fr st acc (starLoop f k fr st acc)
  | 0, _, _, _ => trivial
  | k + 1, fr, st, acc => by
    rw [starLoop_succ]
    refine (hf st).bind (fun st' fr' v m h1 => ?_) fun msg h => .abortIter h
    cases m
    · exact ⟨rfl, rfl, [], by simp, .stop h1⟩
    · exact (starLoop_sound rule e f hf k fr st' (v :: acc)).more h1

theorem body_sound (ev : String → PExpr → Frame → PState → PRes)
    (hev : ∀ rule e fr st, Snd env g rule e fr st (ev rule e fr st))
    (k : Nat) (rule : String) (e : PExpr) (fr : Frame) (st : PState) :
    Snd env g rule e fr st (body env g ev k rule e fr st) := by
  cases e with
  | action name inner =>
    refine (hev rule inner fr st).bind (fun st' fr' v m h1 => ?_) fun msg h => .action_abort h
    cases m
    · exact Sem.action_fail h1
    · dsimp only [cond]
      cases h2 : env.action name fr' (sliceFrom st.pt st'.pt) with
      | ret av err => cases err <;> exact Sem.action_ret h1 h2
      | panic msg => exact Sem.action_panic h1 h2
  | andP inner =>
    exact (hev rule inner [] st).bind (fun _ _ _ _ h1 => Sem.andP_res h1) fun _ h => .andP_abort h
  | notP inner =>
    exact (hev rule inner [] st).bind (fun _ _ _ _ h1 => Sem.notP_res h1) fun _ h => .notP_abort h
  | labeled label inner =>
    refine (hev rule inner [] st).bind (fun st' fr' v m h1 => ?_) fun _ h => .labeled_abort h
    cases m
    · exact Sem.labeled_fail h1
    · exact Sem.labeled_ok h1
  | zeroOrOne inner =>
    refine (hev rule inner [] st).bind (fun st' fr' v m h1 => ?_) fun _ h => .opt_abort h
    cases m
    · exact Sem.opt_none h1
    · exact Sem.opt_some h1
  | oneOrMore inner =>
    refine (hev rule inner [] st).bind (fun st' fr' v m h1 => ?_) fun _ h => .plus_abort_first h
    cases m
    · exact Sem.plus_none h1
    · refine (starLoop_sound rule inner _ (fun st => hev rule inner [] st) k fr st' [v]).imp
        ?_ fun _ h => Sem.plus_abort h1 h
      rintro st'' fr'' v' m' ⟨rfl, rfl, vs, hv, hs⟩
      simp only [List.reverse_cons, List.reverse_nil, List.nil_append, List.singleton_append]
        at hv
      subst hv
      exact Sem.plus_done h1 hs
  | zeroOrMore inner =>
    refine (starLoop_sound rule inner _ (fun st => hev rule inner [] st) k fr st []).imp
      ?_ fun _ h => Sem.star_abort h
    rintro st' fr' v m ⟨rfl, rfl, vs, rfl, hs⟩
    exact Sem.star_done hs
  | seq es =>
    refine (seqLoop_sound rule _ (hev rule) es fr st []).bind (fun st' fr' v m h => ?_)
      fun _ h => .seq_abort h
    cases m
    · exact Sem.seq_fail h.2
    · obtain ⟨vs, rfl, hs⟩ := h
      exact Sem.seq_ok hs
  | choice alts =>
    exact (choiceLoop_sound rule _ (hev rule) alts fr st).imp (fun _ _ _ _ h => .choice h)
      fun _ h => .choice h
  | ruleRef name =>
    dsimp only [body]
    by_cases hn : name = ""
    · subst hn; exact Sem.ruleRef_noName
    · rw [if_neg (by simpa using hn)]
      cases hl : lookupRule g name with
      | none => exact Sem.ruleRef_undefined hn hl
      | some r =>
        exact (hev r.shown r.expr [] st).bind (fun _ _ _ _ h1 => Sem.ruleRef_res hn hl h1)
          fun _ h => .ruleRef_abort hn hl h
  | andCode name =>
    simp only [body]
    cases h : env.pred name fr with
    | ret b err => cases err <;> exact Sem.andCode_ret h
    | panic msg => exact Sem.andCode_panic h
  | notCode name =>
    simp only [body]
    cases h : env.pred name fr with
    | ret b err => cases err <;> exact Sem.notCode_ret h
    | panic msg => exact Sem.notCode_panic h
  | any =>
    simp only [body]
    cases h : atEOF st.pt
    · simp only [Bool.false_eq_true, if_false, Snd, Lift, read_eq]
      exact Sem.any_ok h
    · simp only [if_true]
      exact Sem.any_eof h
  | charClass chars ranges classes ic inv =>
    simp only [body]
    cases ic
    · simp only [Bool.false_eq_true, if_false]
      cases h : atEOF st.pt
      · simp only [Bool.false_eq_true, if_false]
        cases hc : classMatches env chars ranges classes st.pt.rn with
        | none => exact Sem.class_unknown h hc
        | some hit =>
          simp only
          by_cases hh : hit = inv
          · simp only [hh, bne_self_eq_false, Bool.false_eq_true, if_false]
            exact Sem.class_fail h hc hh
          · have : (hit != inv) = true := by simpa using hh
            simp only [this, if_true, Snd, Lift, read_eq]
            exact Sem.class_ok h hc hh
      · simp only [if_true]
        exact Sem.class_eof h
    · exact Sem.class_ignoreCase
  | lit val ic =>
    simp only [body]
    cases ic
    · simp only [Bool.false_eq_true, if_false]
      have hl := litLoop_sound rule val st
      cases h : litLoop rule val st with
      | mk st' b =>
        rw [h] at hl
        cases b
        · exact Sem.lit_fail hl
        · exact Sem.lit_ok hl
    · exact Sem.lit_ignoreCase
  | unsupported what => exact Sem.unsupported

theorem eval_snd (env : Env) (g : Grammar) (max : Nat) : ∀ fuel rule e fr st,
    Snd env g rule e fr st (eval env g max fuel rule e fr st)
  | 0, _, _, _, _ => trivial
  | fuel + 1, rule, e, fr, st => by
    rw [eval_succ]
    split
    · trivial
    · exact body_sound _ (eval_snd env g max fuel) fuel rule e fr { st with cnt := st.cnt + 1 }

/-! ## Completeness -/

/-- `r` is the engine result for outcome `o` with final counter `c` (position and log of an `abort`
    are not part of a `SemOut`, hence the `∃`) -/
def CmpRes (o : SemOut) (c : Nat) (r : PRes) : Prop :=
  match o with
  | .res pt' errs' fr' v m => r = .ok { pt := pt', cnt := c, errs := errs' } fr' v m
  | .abort msg => ∃ pt' errs', r = .abort { pt := pt', cnt := c, errs := errs' } msg

def CmpSeqRes (o : SeqOut) (c : Nat) (acc : List PVal) (r : PRes) : Prop :=
  match o with
  | .ok pt' errs' fr' vs =>
    r = .ok { pt := pt', cnt := c, errs := errs' } fr' (.list (acc.reverse ++ vs)) true
  | .fail pt' errs' fr' => r = .ok { pt := pt', cnt := c, errs := errs' } fr' .nil false
  | .abort msg => ∃ pt' errs', r = .abort { pt := pt', cnt := c, errs := errs' } msg

def CmpStarRes (o : StarOut) (c : Nat) (fr : Frame) (acc : List PVal) (r : PRes) : Prop :=
  match o with
  | .done pt' errs' vs =>
    r = .ok { pt := pt', cnt := c, errs := errs' } fr (.list (acc.reverse ++ vs)) true
  | .abort msg => ∃ pt' errs', r = .abort { pt := pt', cnt := c, errs := errs' } msg

/-- From every counter `cnt` with `cnt + N ≤ max` and with `N ≤ fuel`, `eval` returns exactly the
    outcome `o` and the counter `cnt + N`. -/
def CmpN (env : Env) (g : Grammar) (rule : String) (e : PExpr) (fr : Frame) (pt : Pt)
    (errs : List PErr) (o : SemOut) (N : Nat) : Prop :=
  1 ≤ N ∧ ∀ max fuel cnt, cnt + N ≤ max → N ≤ fuel →
    CmpRes o (cnt + N) (eval env g max fuel rule e fr { pt := pt, cnt := cnt, errs := errs })

def CmpSeqN (env : Env) (g : Grammar) (rule : String) (es : List PExpr) (fr : Frame) (pt : Pt)
    (errs : List PErr) (o : SeqOut) (N : Nat) : Prop :=
  ∀ max fuel cnt acc, cnt + N ≤ max → N ≤ fuel →
    CmpSeqRes o (cnt + N) acc
      (seqLoop (eval env g max fuel rule) es fr { pt := pt, cnt := cnt, errs := errs } acc)

def CmpChoiceN (env : Env) (g : Grammar) (rule : String) (as : List PExpr) (fr : Frame)
    (pt : Pt) (errs : List PErr) (o : SemOut) (N : Nat) : Prop :=
  ∀ max fuel cnt, cnt + N ≤ max → N ≤ fuel →
    CmpRes o (cnt + N)
      (choiceLoop (eval env g max fuel rule) as fr { pt := pt, cnt := cnt, errs := errs })

def CmpStarN (env : Env) (g : Grammar) (rule : String) (e : PExpr) (pt : Pt) (errs : List PErr)
    (o : StarOut) (N : Nat) : Prop :=
  1 ≤ N ∧ ∀ max fuel k cnt fr acc, cnt + N ≤ max → N ≤ fuel → N ≤ k →
    CmpStarRes o (cnt + N) fr acc
      (starLoop (eval env g max fuel rule e) k fr { pt := pt, cnt := cnt, errs := errs } acc)

section
variable {rule : String} {e : PExpr} {fr : Frame} {pt : Pt} {errs : List PErr}

theorem CmpN.node {o N₁}
    (hb : ∀ max fuel cnt, cnt + 1 + N₁ ≤ max → N₁ ≤ fuel →
      CmpRes o (cnt + 1 + N₁) (body env g (eval env g max fuel) fuel rule e fr
        { pt := pt, cnt := cnt + 1, errs := errs })) :
    CmpN env g rule e fr pt errs o (N₁ + 1) := by
  refine ⟨by omega, fun max fuel cnt hm hf => ?_⟩
  obtain ⟨fuel, rfl⟩ : ∃ f, fuel = f + 1 := ⟨fuel - 1, by omega⟩
  rw [eval_succ, if_neg (by simp only; omega), show cnt + (N₁ + 1) = cnt + 1 + N₁ by omega]
  exact hb max fuel cnt (by omega) (by omega)

theorem CmpN.leaf {o}
    (h : ∀ ev k c, CmpRes o c (body env g ev k rule e fr { pt := pt, cnt := c, errs := errs })) :
    CmpN env g rule e fr pt errs o 1 :=
  CmpN.node (N₁ := 0) fun _ _ _ _ _ => h _ _ _

theorem CmpN.wrap {o rule₁ e₁ fr₁ o₁ N₁}
    (h1 : CmpN env g rule₁ e₁ fr₁ pt errs o₁ N₁)
    (hb : ∀ ev k c c', CmpRes o₁ c' (ev rule₁ e₁ fr₁ { pt := pt, cnt := c, errs := errs }) →
      CmpRes o c' (body env g ev k rule e fr { pt := pt, cnt := c, errs := errs })) :
    CmpN env g rule e fr pt errs o (N₁ + 1) :=
  CmpN.node fun max fuel cnt hm hf => hb _ _ _ _ (h1.2 max fuel (cnt + 1) hm hf)

theorem CmpN.wrap_abort {rule₁ e₁ fr₁ msg N₁}
    (h1 : CmpN env g rule₁ e₁ fr₁ pt errs (.abort msg) N₁)
    (hb : ∀ ev k st s, ev rule₁ e₁ fr₁ st = .abort s msg →
      body env g ev k rule e fr st = .abort s msg) :
    CmpN env g rule e fr pt errs (.abort msg) (N₁ + 1) :=
  CmpN.wrap h1 fun ev k _ _ ⟨p, l, h⟩ => ⟨p, l, hb ev k _ _ h⟩

theorem CmpSeqRes.cons {o c v acc r} (h : CmpSeqRes o c (v :: acc) r) :
    CmpSeqRes (o.cons v) c acc r := by
  cases o <;> simp_all [CmpSeqRes, SeqOut.cons]

theorem CmpStarRes.cons {o c fr v acc r} (h : CmpStarRes o c fr (v :: acc) r) :
    CmpStarRes (o.cons v) c fr acc r := by
  cases o <;> simp_all [CmpStarRes, StarOut.cons]

end

theorem litLoop_complete {rule ws pt errs pt' errs' b} (h : SemLit rule ws pt errs pt' errs' b) :
    ∀ cnt, litLoop rule ws { pt := pt, cnt := cnt, errs := errs } =
      ({ pt := pt', cnt := cnt, errs := errs' }, b) := by
  induction h with
  | nil => intro cnt; rfl
  | mismatch h => intro cnt; simp [litLoop, h]
  | step h _ ih => intro cnt; simp [litLoop, h, read_eq, ih cnt]

theorem semN_cmp {env : Env} {g : Grammar} {rule e fr pt errs o N}
    (h : SemN env g rule e fr pt errs o N) : CmpN env g rule e fr pt errs o N := by
  induction h using SemN.rec
    (motive_2 := fun rule es fr pt errs o N _ => CmpSeqN env g rule es fr pt errs o N)
    (motive_3 := fun rule as fr pt errs o N _ => CmpChoiceN env g rule as fr pt errs o N)
    (motive_4 := fun rule e pt errs o N _ => CmpStarN env g rule e pt errs o N) with
  | lit_ignoreCase | class_ignoreCase | ruleRef_noName | unsupported =>
    exact .leaf fun ev k c => ⟨_, _, rfl⟩
  | any_eof h | class_eof h | andCode_panic h | notCode_panic h =>
    exact .leaf fun ev k c => by simp [CmpRes, body, h]
  | any_ok h => exact .leaf fun ev k c => by simp [CmpRes, body, h, read_eq]
  | lit_ok h | lit_fail h => exact .leaf fun ev k c => by simp [CmpRes, body, litLoop_complete h]
  | class_unknown h hc => exact .leaf fun ev k c => by simp [CmpRes, body, h, hc]
  | class_ok h hc hh => exact .leaf fun ev k c => by simp [CmpRes, body, h, hc, hh, read_eq]
  | class_fail h hc hh => exact .leaf fun ev k c => by simp [CmpRes, body, h, hc, hh]
  | @andCode_ret _ _ _ _ _ _ err h | @notCode_ret _ _ _ _ _ _ err h =>
    exact .leaf fun ev k c => by cases err <;> simp [CmpRes, body, h, logAct, PState.addErr]
  | ruleRef_undefined hn hl =>
    exact .leaf fun ev k c => by simp [CmpRes, body, hn, hl, PState.addErr]
  | andP_res _ ih | notP_res _ ih | action_fail _ ih | labeled_ok _ ih | labeled_fail _ ih
  | opt_some _ ih | opt_none _ ih | plus_none _ ih =>
    exact .wrap ih fun ev k c c' (h : _ = _) => by simp only [CmpRes, body, h, PRes.bind, cond_true, cond_false]
  | andP_abort _ ih | notP_abort _ ih | action_abort _ ih | labeled_abort _ ih | opt_abort _ ih
  | plus_abort_first _ ih =>
    exact .wrap_abort ih fun ev k st s h => by simp only [body, h, PRes.bind]
  | @action_ret _ _ _ _ _ _ _ _ _ _ _ err _ _ h2 ih =>
    exact .wrap ih fun ev k c c' (h : _ = _) => by
      cases err <;> simp [CmpRes, body, PRes.bind, h, h2, logAct, PState.addErr]
  | @action_panic _ _ _ _ _ _ pt' errs' _ _ _ _ _ h2 ih =>
    exact .wrap ih fun ev k c c' (h : _ = _) => ⟨pt', errs', by simp [body, PRes.bind, h, h2]⟩
  | ruleRef_res hn hl _ ih =>
    exact .wrap ih fun ev k c c' (h : _ = _) => by simp [CmpRes, body, PRes.bind, h, hn, hl]
  | ruleRef_abort hn hl _ ih => exact .wrap_abort ih fun ev k st s h => by simp [body, PRes.bind, h, hn, hl]
  | seq_ok _ ih =>
    exact .node fun max fuel cnt hm hf => by
      have a := ih max fuel (cnt + 1) [] hm hf
      simp only [CmpSeqRes, List.reverse_nil, List.nil_append] at a
      simp only [CmpRes, body, a, PRes.bind, cond_true]
  | seq_fail _ ih =>
    exact .node fun max fuel cnt hm hf => by
      have a := ih max fuel (cnt + 1) [] hm hf
      simp only [CmpSeqRes] at a
      simp only [CmpRes, body, a, PRes.bind, cond_false]
  | seq_abort _ ih =>
    exact .node fun max fuel cnt hm hf => by
      obtain ⟨p, l, a⟩ := ih max fuel (cnt + 1) [] hm hf
      exact ⟨p, l, by simp only [body, a, PRes.bind]⟩
  | choice _ ih => exact .node fun max fuel cnt hm hf => ih max fuel (cnt + 1) hm hf
  | @star_done _ fr _ _ _ _ _ _ _ _ ih =>
    exact .node fun max fuel cnt hm hf => by
      have a := ih.2 max fuel fuel (cnt + 1) fr [] hm hf hf
      simp only [CmpStarRes, List.reverse_nil, List.nil_append] at a
      simp only [CmpRes, body, a]
  | @star_abort _ fr _ _ _ _ _ _ ih =>
    exact .node fun max fuel cnt hm hf => by
      obtain ⟨p, l, a⟩ := ih.2 max fuel fuel (cnt + 1) fr [] hm hf hf
      exact ⟨p, l, by simp only [body, a]⟩
  | @plus_done _ fr _ _ _ _ _ _ v _ _ _ N₁ N₂ _ _ ih1 ih2 =>
    exact .node fun max fuel cnt hm hf => by
      have a := ih1.2 max fuel (cnt + 1) (by omega) (by omega)
      simp only [CmpRes] at a
      have b := ih2.2 max fuel fuel (cnt + 1 + N₁) fr [v] (by omega) (by omega) (by omega)
      simp only [CmpStarRes, List.reverse_cons, List.reverse_nil, List.nil_append,
        List.singleton_append] at b
      rw [← Nat.add_assoc]
      simp only [CmpRes, body, a, b, PRes.bind, cond_true]
  | @plus_abort _ fr _ _ _ _ _ _ v _ N₁ N₂ _ _ ih1 ih2 =>
    exact .node fun max fuel cnt hm hf => by
      have a := ih1.2 max fuel (cnt + 1) (by omega) (by omega)
      simp only [CmpRes] at a
      obtain ⟨p, l, b⟩ :=
        ih2.2 max fuel fuel (cnt + 1 + N₁) fr [v] (by omega) (by omega) (by omega)
      rw [← Nat.add_assoc]
      exact ⟨p, l, by simp only [body, a, b, PRes.bind, cond_true]⟩
  | nil =>
    exact fun max fuel cnt acc _ _ => by
      simp only [CmpSeqRes, seqLoop, List.append_nil, Nat.add_zero]
  | @cons _ _ _ _ _ _ _ _ _ v _ N₁ N₂ _ _ ih1 ih2 =>
    intro max fuel cnt acc hm hf
    have a := ih1.2 max fuel cnt (by omega) (by omega)
    simp only [CmpRes] at a
    have b := ih2 max fuel (cnt + N₁) (v :: acc) (by omega) (by omega)
    simp only [seqLoop, a]
    rw [← Nat.add_assoc]
    exact b.cons
  | fail _ ih =>
    intro max fuel cnt acc hm hf
    have a := ih.2 max fuel cnt hm hf
    simp only [CmpRes] at a
    simp only [seqLoop, a, CmpSeqRes]
  | abort _ ih =>
    intro max fuel cnt acc hm hf
    obtain ⟨p, l, a⟩ := ih.2 max fuel cnt hm hf
    exact ⟨p, l, by simp only [seqLoop, a]⟩
  | exhausted => exact fun max fuel cnt _ _ => by simp only [CmpRes, choiceLoop, Nat.add_zero]
  | hit _ ih =>
    intro max fuel cnt hm hf
    have a := ih.2 max fuel cnt hm hf
    simp only [CmpRes] at a
    simp only [choiceLoop, a, CmpRes]
  | @next _ _ _ _ _ _ _ _ _ _ _ N₁ N₂ _ _ ih1 ih2 =>
    intro max fuel cnt hm hf
    have a := ih1.2 max fuel cnt (by omega) (by omega)
    simp only [CmpRes] at a
    have b := ih2 max fuel (cnt + N₁) (by omega) (by omega)
    simp only [choiceLoop, a]
    rw [← Nat.add_assoc]
    exact b
  | abortAlt _ ih =>
    intro max fuel cnt hm hf
    obtain ⟨p, l, a⟩ := ih.2 max fuel cnt hm hf
    exact ⟨p, l, by simp only [choiceLoop, a]⟩
  -- an iteration takes at least one step, so `N ≤ k` leaves an iteration bound `k ≠ 0`
  | stop _ ih =>
    refine ⟨ih.1, fun max fuel k cnt fr acc hm hf hk => ?_⟩
    obtain ⟨k, rfl⟩ := Nat.exists_eq_add_one_of_ne_zero (by have := ih.1; omega : k ≠ 0)
    have a := ih.2 max fuel cnt hm hf
    simp only [CmpRes] at a
    simp only [starLoop, a, CmpStarRes, List.append_nil]
  | @more _ _ _ _ _ _ _ v _ N₁ N₂ _ _ ih1 ih2 =>
    have := ih1.1
    refine ⟨by omega, fun max fuel k cnt fr acc hm hf hk => ?_⟩
    obtain ⟨k, rfl⟩ := Nat.exists_eq_add_one_of_ne_zero (by omega : k ≠ 0)
    have a := ih1.2 max fuel cnt (by omega) (by omega)
    simp only [CmpRes] at a
    have b := ih2.2 max fuel k (cnt + N₁) fr (v :: acc) (by omega) (by omega) (by omega)
    simp only [starLoop, a]
    rw [← Nat.add_assoc]
    exact b.cons
  | abortIter _ ih =>
    refine ⟨ih.1, fun max fuel k cnt fr acc hm hf hk => ?_⟩
    obtain ⟨k, rfl⟩ := Nat.exists_eq_add_one_of_ne_zero (by have := ih.1; omega : k ≠ 0)
    obtain ⟨p, l, a⟩ := ih.2 max fuel cnt hm hf
    exact ⟨p, l, by simp only [starLoop, a]⟩

/-! ## `Sem` and `SemN` -/

/-- Forgetting the size, by way of the engine: it reproduces the derivation, and what it returns
    is derivable. -/
theorem semN_sem {env : Env} {g : Grammar} {rule e fr pt errs o N}
    (h : SemN env g rule e fr pt errs o N) : Sem env g rule e fr pt errs o := by
  have a := (semN_cmp h).2 N N 0 (Nat.le_of_eq (Nat.zero_add N)) (Nat.le_refl N)
  have b := eval_snd env g N N rule e fr { pt := pt, cnt := 0, errs := errs }
  cases o with
  | res pt' errs' fr' v m => rw [show eval _ _ _ _ _ _ _ _ = _ from a] at b; exact b
  | abort msg => obtain ⟨_, _, a⟩ := a; rw [a] at b; exact b

theorem sem_semN {env : Env} {g : Grammar} {rule e fr pt errs o}
    (h : Sem env g rule e fr pt errs o) : ∃ N, SemN env g rule e fr pt errs o N := by
  induction h using Sem.rec
    (motive_2 := fun rule es fr pt errs o _ => ∃ N, SemSeqN env g rule es fr pt errs o N)
    (motive_3 := fun rule as fr pt errs o _ => ∃ N, SemChoiceN env g rule as fr pt errs o N)
    (motive_4 := fun rule e pt errs o _ => ∃ N, SemStarN env g rule e pt errs o N) with
  | any_eof h => exact ⟨_, .any_eof h⟩
  | any_ok h => exact ⟨_, .any_ok h⟩
  | lit_ok h => exact ⟨_, .lit_ok h⟩
  | lit_fail h => exact ⟨_, .lit_fail h⟩
  | lit_ignoreCase => exact ⟨_, .lit_ignoreCase⟩
  | class_ignoreCase => exact ⟨_, .class_ignoreCase⟩
  | class_eof h => exact ⟨_, .class_eof h⟩
  | class_unknown h hc => exact ⟨_, .class_unknown h hc⟩
  | class_ok h hc hh => exact ⟨_, .class_ok h hc hh⟩
  | class_fail h hc hh => exact ⟨_, .class_fail h hc hh⟩
  | andCode_ret h => exact ⟨_, .andCode_ret h⟩
  | andCode_panic h => exact ⟨_, .andCode_panic h⟩
  | notCode_ret h => exact ⟨_, .notCode_ret h⟩
  | notCode_panic h => exact ⟨_, .notCode_panic h⟩
  | andP_res _ ih => obtain ⟨_, ih⟩ := ih; exact ⟨_, .andP_res ih⟩
  | andP_abort _ ih => obtain ⟨_, ih⟩ := ih; exact ⟨_, .andP_abort ih⟩
  | notP_res _ ih => obtain ⟨_, ih⟩ := ih; exact ⟨_, .notP_res ih⟩
  | notP_abort _ ih => obtain ⟨_, ih⟩ := ih; exact ⟨_, .notP_abort ih⟩
  | action_ret _ h2 ih => obtain ⟨_, ih⟩ := ih; exact ⟨_, .action_ret ih h2⟩
  | action_panic _ h2 ih => obtain ⟨_, ih⟩ := ih; exact ⟨_, .action_panic ih h2⟩
  | action_fail _ ih => obtain ⟨_, ih⟩ := ih; exact ⟨_, .action_fail ih⟩
  | action_abort _ ih => obtain ⟨_, ih⟩ := ih; exact ⟨_, .action_abort ih⟩
  | labeled_ok _ ih => obtain ⟨_, ih⟩ := ih; exact ⟨_, .labeled_ok ih⟩
  | labeled_fail _ ih => obtain ⟨_, ih⟩ := ih; exact ⟨_, .labeled_fail ih⟩
  | labeled_abort _ ih => obtain ⟨_, ih⟩ := ih; exact ⟨_, .labeled_abort ih⟩
  | ruleRef_noName => exact ⟨_, .ruleRef_noName⟩
  | ruleRef_undefined hn hl => exact ⟨_, .ruleRef_undefined hn hl⟩
  | ruleRef_res hn hl _ ih => obtain ⟨_, ih⟩ := ih; exact ⟨_, .ruleRef_res hn hl ih⟩
  | ruleRef_abort hn hl _ ih => obtain ⟨_, ih⟩ := ih; exact ⟨_, .ruleRef_abort hn hl ih⟩
  | seq_ok _ ih => obtain ⟨_, ih⟩ := ih; exact ⟨_, .seq_ok ih⟩
  | seq_fail _ ih => obtain ⟨_, ih⟩ := ih; exact ⟨_, .seq_fail ih⟩
  | seq_abort _ ih => obtain ⟨_, ih⟩ := ih; exact ⟨_, .seq_abort ih⟩
  | choice _ ih => obtain ⟨_, ih⟩ := ih; exact ⟨_, .choice ih⟩
  | opt_some _ ih => obtain ⟨_, ih⟩ := ih; exact ⟨_, .opt_some ih⟩
  | opt_none _ ih => obtain ⟨_, ih⟩ := ih; exact ⟨_, .opt_none ih⟩
  | opt_abort _ ih => obtain ⟨_, ih⟩ := ih; exact ⟨_, .opt_abort ih⟩
  | star_done _ ih => obtain ⟨_, ih⟩ := ih; exact ⟨_, .star_done ih⟩
  | star_abort _ ih => obtain ⟨_, ih⟩ := ih; exact ⟨_, .star_abort ih⟩
  | plus_none _ ih => obtain ⟨_, ih⟩ := ih; exact ⟨_, .plus_none ih⟩
  | plus_abort_first _ ih => obtain ⟨_, ih⟩ := ih; exact ⟨_, .plus_abort_first ih⟩
  | plus_done _ _ ih1 ih2 =>
    obtain ⟨_, ih1⟩ := ih1; obtain ⟨_, ih2⟩ := ih2; exact ⟨_, .plus_done ih1 ih2⟩
  | plus_abort _ _ ih1 ih2 =>
    obtain ⟨_, ih1⟩ := ih1; obtain ⟨_, ih2⟩ := ih2; exact ⟨_, .plus_abort ih1 ih2⟩
  | unsupported => exact ⟨_, .unsupported⟩
  | nil => exact ⟨_, .nil⟩
  | cons _ _ ih1 ih2 =>
    obtain ⟨_, ih1⟩ := ih1; obtain ⟨_, ih2⟩ := ih2; exact ⟨_, .cons ih1 ih2⟩
  | fail _ ih => obtain ⟨_, ih⟩ := ih; exact ⟨_, .fail ih⟩
  | abort _ ih => obtain ⟨_, ih⟩ := ih; exact ⟨_, .abort ih⟩
  | exhausted => exact ⟨_, .exhausted⟩
  | hit _ ih => obtain ⟨_, ih⟩ := ih; exact ⟨_, .hit ih⟩
  | next _ _ ih1 ih2 =>
    obtain ⟨_, ih1⟩ := ih1; obtain ⟨_, ih2⟩ := ih2; exact ⟨_, .next ih1 ih2⟩
  | abortAlt _ ih => obtain ⟨_, ih⟩ := ih; exact ⟨_, .abortAlt ih⟩
  | stop _ ih => obtain ⟨_, ih⟩ := ih; exact ⟨_, .stop ih⟩
  | more _ _ ih1 ih2 =>
    obtain ⟨_, ih1⟩ := ih1; obtain ⟨_, ih2⟩ := ih2; exact ⟨_, .more ih1 ih2⟩
  | abortIter _ ih => obtain ⟨_, ih⟩ := ih; exact ⟨_, .abortIter ih⟩

theorem semN_iff {env : Env} {g : Grammar} {rule e fr pt errs o} :
    Sem env g rule e fr pt errs o ↔ ∃ N, SemN env g rule e fr pt errs o N :=
  ⟨sem_semN, fun ⟨_, h⟩ => semN_sem h⟩

/-! ## Determinism, via the engine -/

/-- The outcome and the counter that a proper result stands for. -/
def outcome : PRes → Option (SemOut × Nat)
  | .ok st fr v m => some (.res st.pt st.errs fr v m, st.cnt)
  | .abort st msg => some (.abort msg, st.cnt)
  | _ => none

theorem CmpRes.outcome {o c r} (h : CmpRes o c r) : outcome r = some (o, c) := by
  cases o with
  | res => rw [show r = _ from h]; rfl
  | abort => obtain ⟨_, _, h⟩ := h; rw [h]; rfl

theorem outcome_finalCnt {r : PRes} {o : SemOut} {c : Nat} (h : outcome r = some (o, c)) :
    finalCnt r = c := by
  cases r <;> cases h <;> rfl

theorem cmpN_det {env : Env} {g : Grammar} {rule e fr pt errs o₁ o₂ N₁ N₂}
    (h1 : CmpN env g rule e fr pt errs o₁ N₁) (h2 : CmpN env g rule e fr pt errs o₂ N₂) :
    o₁ = o₂ ∧ N₁ = N₂ := by
  -- one run with budget and fuel enough for both
  have a := (h1.2 (N₁ + N₂) (N₁ + N₂) 0 (by omega) (by omega)).outcome
  have b := (h2.2 (N₁ + N₂) (N₁ + N₂) 0 (by omega) (by omega)).outcome
  rw [a] at b
  injection b with b
  injection b with ho hN
  exact ⟨ho, by omega⟩

theorem semN_det {env : Env} {g : Grammar} {rule e fr pt errs o₁ o₂ N₁ N₂}
    (h1 : SemN env g rule e fr pt errs o₁ N₁) (h2 : SemN env g rule e fr pt errs o₂ N₂) :
    o₁ = o₂ ∧ N₁ = N₂ :=
  cmpN_det (semN_cmp h1) (semN_cmp h2)

theorem sem_det {env : Env} {g : Grammar} {rule e fr pt errs o₁ o₂}
    (h1 : Sem env g rule e fr pt errs o₁) (h2 : Sem env g rule e fr pt errs o₂) : o₁ = o₂ := by
  obtain ⟨N₁, h1⟩ := sem_semN h1
  obtain ⟨N₂, h2⟩ := sem_semN h2
  exact (semN_det h1 h2).1

/-! ## A failed match does not move the position -/

/-- If `o` is a failed match, its position is `pt`. -/
def FailPt (pt : Pt) : SemOut → Prop
  | .res pt' _ _ _ false => pt' = pt
  | _ => True

theorem sem_failPt {env : Env} {g : Grammar} {rule e fr pt errs o}
    (h : Sem env g rule e fr pt errs o) : FailPt pt o := by
  induction h using Sem.rec
    (motive_2 := fun _ _ _ _ _ _ _ => True)
    (motive_3 := fun _ _ _ pt _ o _ => FailPt pt o)
    (motive_4 := fun _ _ _ _ _ _ => True) with
  -- failures that restore or never leave `pt`
  | any_eof | lit_fail | class_eof | class_fail | ruleRef_undefined | seq_fail | exhausted => rfl
  -- the flag is a variable, the position is `pt` either way
  | @andCode_ret _ _ _ _ _ b | @notCode_ret _ _ _ _ _ b => cases b <;> first | rfl | trivial
  | @andP_res _ _ _ _ _ _ _ _ _ m | @notP_res _ _ _ _ _ _ _ _ _ m =>
    cases m <;> first | rfl | trivial
  -- the failure of the sub-expression is handed on unchanged
  | action_fail _ ih | labeled_fail _ ih | plus_none _ ih | choice _ ih => exact ih
  | @ruleRef_res _ _ _ _ _ _ _ _ _ _ m _ _ _ ih =>
    cases m
    · exact ih
    · trivial
  -- a failed alternative left the position at `pt`, where the remaining ones start
  | next _ _ ih1 ih2 => exact Eq.subst (motive := fun p => FailPt p _) ih1 ih2
  -- a match, an abort, a list relation that claims nothing
  | _ => trivial

/-! ## A derivation against an arbitrary budget -/

theorem cmpN_at {env : Env} {g : Grammar} {rule e fr pt errs o N}
    (h : CmpN env g rule e fr pt errs o N) (max fuel cnt : Nat) (hc : cnt ≤ max)
    (hf : N ≤ fuel) :
    (cnt + N ≤ max →
      CmpRes o (cnt + N) (eval env g max fuel rule e fr { pt := pt, cnt := cnt, errs := errs })) ∧
    (max < cnt + N → ∃ s,
      eval env g max fuel rule e fr { pt := pt, cnt := cnt, errs := errs } = .exceeded s ∧
        s.cnt = max + 1) := by
  refine ⟨fun hm => h.2 max fuel cnt hm hf, fun hlt => ?_⟩
  have a := h.2 (cnt + N) fuel cnt (Nat.le_refl _) hf
  have hs := eval_sim env g max (cnt + N) (by omega) fuel rule e fr
    { pt := pt, cnt := cnt, errs := errs } hc
  generalize eval env g (cnt + N) fuel rule e fr _ = R' at a hs
  rcases hs with hs | ⟨hle, _⟩ | ⟨_, s, hs, hcnt⟩
  · rw [hs] at a; cases a.outcome
  · have := outcome_finalCnt a.outcome; omega
  · exact ⟨s, hs, hcnt⟩

theorem cmpN_run {env : Env} {g : Grammar} {rule e fr pt errs o N}
    (h : CmpN env g rule e fr pt errs o N) (max : Nat) :
    (N ≤ max →
      CmpRes o N (eval env g max (max + 2) rule e fr { pt := pt, cnt := 0, errs := errs })) ∧
    (max < N → ∃ s,
      eval env g max (max + 2) rule e fr { pt := pt, cnt := 0, errs := errs } = .exceeded s ∧
        s.cnt = max + 1) := by
  have hne := eval_noFuelOut env g max (max + 2) rule e fr { pt := pt, cnt := 0, errs := errs }
    (Nat.zero_le _) (by simp only; omega)
  have hfl := eval_fle env g max (max + 2) (max + 2 + N) rule e fr
    { pt := pt, cnt := 0, errs := errs } (by omega) hne
  have := cmpN_at h max (max + 2 + N) 0 (Nat.zero_le _) (by omega)
  rw [hfl, Nat.zero_add] at this
  exact this

/-! ## `runMax` in terms of the start rule -/

theorem startRule_eq_none {g : Grammar} : startRule g = none ↔ g = [] := by
  cases g with
  | nil => simp [startRule]
  | cons r0 rs =>
    obtain ⟨s, hs⟩ := lookupRule_of_mem (List.mem_cons_self (a := r0) (l := rs))
    simp [startRule, hs]

theorem runMax_start {env : Env} {g : Grammar} {start : Rule} (hs : startRule g = some start)
    (max : Nat) (input : GoString) :
    runMax env g max input =
      outOf (eval env g max (max + 2) start.shown start.expr []
        { pt := (Pt.start input).next, cnt := 0,
          errs := logRead "" (Pt.start input).next [] }) := by
  cases g with
  | nil => simp [startRule] at hs
  | cons r0 rs =>
    simp only [startRule] at hs
    simp only [runMax, hs, initState, read_eq, Pt.start]

theorem runMax_nil (env : Env) (max : Nat) (input : GoString) :
    runMax env [] max input =
      { val := .nil, errs := [{ off := 0, rule := "", kind := .noRule }], cnt := 0 } := rfl

end Bexpr.Proofs.SemRefine
