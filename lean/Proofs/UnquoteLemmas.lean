/-
  Proofs.UnquoteLemmas — supporting lemmas for the lexical stage: `replaceAll`, JSON-pointer
  escaping and `splitSlash`; `strconv.Unquote` on raw and on plain double-quoted strings; and the
  loop of `strconv.Unquote` reading back, chunk by chunk, what the loop of `strconv.Quote` wrote,
  for `Quote` itself and for the renderer's `\x22` variant `quoteX22` (defined here).
  Core Lean only.
-/
import Bexpr.Unquote
import Bexpr.Quote
import Bexpr.Peg.Actions
import Proofs.Utf8Lemmas

/-! ## `GoString.ofString` (first, core's `ByteArray.toList`, in its namespace) -/

theorem ByteArray.toList_loop_eq (bs : ByteArray) (i : Nat) (r : List UInt8) :
    ByteArray.toList.loop bs i r = r.reverse ++ bs.data.toList.drop i := by
  induction h : bs.size - i using Nat.strongRecOn generalizing i r with
  | _ k ih =>
    have hsz : bs.size = bs.data.toList.length := by
      show bs.data.size = _
      simp
    rw [ByteArray.toList.loop]
    split
    · rename_i hlt
      rw [ih (bs.size - (i+1)) (by omega) (i+1) _ rfl]
      have hlt' : i < bs.data.toList.length := by omega
      rw [List.drop_eq_getElem_cons hlt']
      have : bs.get! i = bs.data.toList[i] := by
        show bs.data[i]! = _
        rw [getElem!_pos bs.data i (by simpa using hlt')]
        simp
      simp [this]
    · rename_i hge
      have : bs.data.toList.length ≤ i := by omega
      simp [List.drop_eq_nil_of_le this]

theorem ByteArray.toList_eq_data (bs : ByteArray) : bs.toList = bs.data.toList := by
  simp [ByteArray.toList, ByteArray.toList_loop_eq]

namespace Bexpr.GoString

/-- `ofString` through the array's list view, of which core's lemmas about `String.toByteArray`
speak. -/
theorem ofString_eq (s : String) : ofString s = s.toByteArray.data.toList := by
  rw [ofString, String.toUTF8, ByteArray.toList_eq_data]

theorem ofString_append (a b : String) : ofString (a ++ b) = ofString a ++ ofString b := by
  rw [ofString_eq, ofString_eq, ofString_eq, String.toByteArray_append,
    ByteArray.toList_data_append]

-- The elaborator's `decide` does not unfold `String.toUTF8` and `ByteArray.toList`; the kernel
-- evaluates them.
theorem ofString_tilde : ofString "~" = [0x7E] := by decide +kernel
theorem ofString_slash : ofString "/" = [0x2F] := by decide +kernel
theorem ofString_tilde0 : ofString "~0" = [0x7E, 0x30] := by decide +kernel
theorem ofString_tilde1 : ofString "~1" = [0x7E, 0x31] := by decide +kernel
theorem ofString_dot : ofString "." = [0x2E] := by decide +kernel

/-! ## `replaceAll` -/

theorem replaceAllAux_single (a : UInt8) (new : GoString) (s : GoString) (fuel : Nat)
    (hf : s.length ≤ fuel) :
    replaceAllAux [a] new fuel s = s.flatMap (fun c => if c == a then new else [c]) := by
  induction s generalizing fuel with
  | nil => cases fuel <;> rfl
  | cons c t ih =>
    cases fuel with
    | zero => simp at hf
    | succ f =>
      have hf' : t.length ≤ f := by simpa using hf
      simp only [replaceAllAux, isPrefixOf, Bool.and_true, List.flatMap_cons]
      by_cases h : a = c
      · subst h
        simp [ih f hf']
      · have h' : (c == a) = false := by
          rw [beq_eq_false_iff_ne]; exact fun e => h e.symm
        have h'' : (a == c) = false := by rw [beq_eq_false_iff_ne]; exact h
        simp only [h'', h', Bool.false_eq_true, if_false]
        simp [ih f hf']

theorem replaceAll_single (a : UInt8) (new : GoString) (s : GoString) :
    replaceAll s [a] new = s.flatMap (fun c => if c == a then new else [c]) := by
  simp [replaceAll, replaceAllAux_single a new s s.length (Nat.le_refl _)]

end Bexpr.GoString

namespace Bexpr.Peg
open Bexpr Bexpr.GoString

/-! ## JSON-pointer escaping -/

/-- RFC 6901 escaping of one byte: `~` ↦ `~0`, `/` ↦ `~1`. -/
def escByte (c : UInt8) : GoString :=
  if c == 0x7E then [0x7E, 0x30] else if c == 0x2F then [0x7E, 0x31] else [c]

/-- The intermediate string after un-escaping `~1`: only `~` is still escaped. -/
def escTilde (c : UInt8) : GoString := if c == 0x7E then [0x7E, 0x30] else [c]

theorem escape_eq_flatMap (p : GoString) :
    replaceAll (replaceAll p [0x7E] [0x7E, 0x30]) [0x2F] [0x7E, 0x31] = p.flatMap escByte := by
  rw [replaceAll_single, replaceAll_single, List.flatMap_assoc]
  congr 1
  funext c
  by_cases h1 : c = 0x7E
  · subst h1; decide
  · by_cases h2 : c = 0x2F
    · subst h2; decide
    · simp [escByte, h1, h2]

theorem escByte_no_slash (p : GoString) : ∀ c ∈ p.flatMap escByte, c ≠ 0x2F := by
  intro c hc
  rw [List.mem_flatMap] at hc
  obtain ⟨x, _, hx⟩ := hc
  unfold escByte at hx
  split at hx
  · simp at hx; rcases hx with rfl | rfl <;> decide
  · split at hx
    · simp at hx; rcases hx with rfl | rfl <;> decide
    · rename_i h1 h2
      simp at hx; subst hx
      simpa using h2

/-- `replaceAll` of a two-byte pattern `~k` by one byte on a string of tokens `f c`, each of them
`~k` itself, a single byte other than `~`, or `~d` with `d` neither `k` nor `~`: the tokens `~k`
are replaced, the others kept (no match can straddle two tokens). -/
theorem replaceAllAux_tilde {k m : UInt8} {f g : UInt8 → GoString}
    (h : ∀ c, (f c = [0x7E, k] ∧ g c = [m]) ∨ (∃ d, d ≠ 0x7E ∧ f c = [d] ∧ g c = [d]) ∨
      (∃ d, d ≠ k ∧ d ≠ 0x7E ∧ f c = [0x7E, d] ∧ g c = [0x7E, d]))
    (p : GoString) (fuel : Nat) (hf : (p.flatMap f).length ≤ fuel) :
    replaceAllAux [0x7E, k] [m] fuel (p.flatMap f) = p.flatMap g := by
  induction p generalizing fuel with
  | nil => cases fuel <;> rfl
  | cons c t ih =>
    simp only [List.flatMap_cons] at hf ⊢
    rcases h c with ⟨ef, eg⟩ | ⟨d, hd, ef, eg⟩ | ⟨d, hdk, hd, ef, eg⟩ <;> rw [ef] at hf ⊢ <;>
      rw [eg] <;> simp only [List.length_append, List.length_cons, List.length_nil] at hf
    · obtain ⟨f, rfl⟩ : ∃ f, fuel = f + 1 := ⟨fuel - 1, by omega⟩
      simp [replaceAllAux, isPrefixOf, ih f (by omega)]
    · obtain ⟨f, rfl⟩ : ∃ f, fuel = f + 1 := ⟨fuel - 1, by omega⟩
      simp [replaceAllAux, isPrefixOf, ih f (by omega), Ne.symm hd]
    · obtain ⟨f, rfl⟩ : ∃ f, fuel = f + 2 := ⟨fuel - 2, by omega⟩
      simp [replaceAllAux, isPrefixOf, ih f (by omega), Ne.symm hd, Ne.symm hdk]

theorem unescape_tilde1 (p : GoString) (fuel : Nat) (hf : (p.flatMap escByte).length ≤ fuel) :
    replaceAllAux [0x7E, 0x31] [0x2F] fuel (p.flatMap escByte) = p.flatMap escTilde :=
  replaceAllAux_tilde (fun c => by
    by_cases h1 : c = 0x7E
    · subst h1
      exact .inr (.inr ⟨0x30, by decide, by decide, rfl, rfl⟩)
    by_cases h2 : c = 0x2F
    · subst h2
      exact .inl ⟨rfl, rfl⟩
    exact .inr (.inl ⟨c, h1, by simp [escByte, h1, h2], by simp [escTilde, h1]⟩)) p fuel hf

theorem unescape_tilde0 (p : GoString) (fuel : Nat) (hf : (p.flatMap escTilde).length ≤ fuel) :
    replaceAllAux [0x7E, 0x30] [0x7E] fuel (p.flatMap escTilde) = p := by
  have := replaceAllAux_tilde (k := 0x30) (m := 0x7E) (g := fun c => [c]) (fun c => by
    by_cases h1 : c = 0x7E
    · subst h1
      exact .inl ⟨rfl, rfl⟩
    exact .inr (.inl ⟨c, h1, by simp [escTilde, h1], rfl⟩)) p fuel hf
  rwa [List.flatMap_singleton'] at this

theorem ptrUnescape_flatMap_escByte (p : GoString) : ptrUnescape (p.flatMap escByte) = p := by
  unfold ptrUnescape
  rw [ofString_tilde1, ofString_slash, ofString_tilde0, ofString_tilde]
  simp only [replaceAll, List.isEmpty_cons, Bool.false_eq_true, if_false]
  rw [unescape_tilde1 _ _ (Nat.le_refl _), unescape_tilde0 _ _ (Nat.le_refl _)]

/-! ## `splitSlash` -/

theorem splitSlash_go_append (p rest cur : GoString) (hp : ∀ c ∈ p, c ≠ 47) :
    splitSlash.go (p ++ rest) cur = splitSlash.go rest (p.reverse ++ cur) := by
  induction p generalizing cur with
  | nil => rfl
  | cons c cs ih =>
    have hc : (c == 47) = false := by simpa using hp c List.mem_cons_self
    simp only [List.cons_append, splitSlash.go, hc, Bool.false_eq_true, if_false]
    rw [ih _ (fun x hx => hp x (List.mem_cons_of_mem _ hx))]
    simp

theorem splitSlash_join (qs : List GoString) (hne : qs ≠ [])
    (hq : ∀ q ∈ qs, ∀ c ∈ q, c ≠ 47) :
    splitSlash (join [0x2F] qs) = qs := by
  unfold splitSlash
  induction qs with
  | nil => exact absurd rfl hne
  | cons p rest ih =>
    have hp := hq p List.mem_cons_self
    cases rest with
    | nil =>
      have := splitSlash_go_append p [] [] hp
      simpa [join, splitSlash.go] using this
    | cons q rest' =>
      simp only [join]
      rw [List.append_assoc, splitSlash_go_append _ _ _ hp]
      show (p.reverse ++ []).reverse :: splitSlash.go (join [47] (q :: rest')) [] = _
      rw [ih (by simp) (fun x hx => hq x (List.mem_cons_of_mem _ hx))]
      simp

end Bexpr.Peg

namespace Bexpr.Strconv
open Bexpr Bexpr.GoString Bexpr.Utf8

/-! ## Raw (backquoted) strings -/

theorem span_loop_all {α} (p : α → Bool) (s : List α) (x : α) (rest acc : List α)
    (hs : ∀ a ∈ s, p a = true) (hx : p x = false) :
    List.span.loop p (s ++ x :: rest) acc = (acc.reverse ++ s, x :: rest) := by
  induction s generalizing acc with
  | nil => simp [List.span.loop, hx]
  | cons a t ih =>
    have ha : p a = true := hs a List.mem_cons_self
    simp only [List.cons_append, List.span.loop, ha]
    rw [ih _ (fun b hb => hs b (List.mem_cons_of_mem _ hb))]
    simp

theorem unquote_backtick (s : GoString) (hs : ∀ b ∈ s, b ≠ 0x60 ∧ b ≠ 0x0D) :
    unquote (0x60 :: (s ++ [0x60])) = some s := by
  have hspan : (s ++ [0x60]).span (· != 0x60) = (s, [0x60]) := by
    have := span_loop_all (· != (0x60 : UInt8)) s 0x60 [] []
      (fun a ha => by simpa using (hs a ha).1) (by decide)
    simpa [List.span] using this
  have hfilter : s.filter (· != 0x0D) = s := by
    rw [List.filter_eq_self]
    intro a ha; simpa using (hs a ha).2
  cases s with
  | nil => rfl
  | cons a t =>
    simp only [List.cons_append] at hspan ⊢
    unfold unquote
    simp only [beq_self_eq_true, if_true, hspan, List.length_cons, List.length_nil, hfilter]

/-! ## Interpreted (double-quoted) strings: one chunk at a time -/

theorem unquotedBytes_single (r : Nat) (t : GoString) :
    unquotedBytes ⟨r, false, t⟩ = [r.toUInt8] := by
  simp [unquotedBytes]

/-- A chunk `Quote` writes for one source unit with bytes `src`: it starts with a byte
that is neither `"` nor newline, and `UnquoteChar` reads it back as `src`, leaving
exactly what follows the chunk. -/
def ChunkOK (chunk src : GoString) : Prop :=
  ∃ c ch, chunk = c :: ch ∧ c ≠ 0x22 ∧ c ≠ 0x0A ∧
    ∀ rest, ∃ v mb, unquoteChar (c :: (ch ++ rest)) 0x22 = some ⟨v, mb, rest⟩ ∧
      unquotedBytes ⟨v, mb, rest⟩ = src

theorem unquoteBody_chunk {chunk src : GoString} (h : ChunkOK chunk src) (f : Nat)
    (rest : GoString) :
    unquoteBody 0x22 (f + 1) (chunk ++ rest) =
      match unquoteBody 0x22 f rest with
      | none => none
      | some (out, r) => some (src ++ out, r) := by
  obtain ⟨c, ch, rfl, hq, hn, hread⟩ := h
  obtain ⟨v, mb, hu, hsrc⟩ := hread rest
  have e1 : (c == 0x22) = false := by simpa using hq
  have e2 : (c == 0x0A) = false := by simpa using hn
  simp only [List.cons_append, unquoteBody, e1, e2, Bool.false_eq_true, if_false, hu]
  have : ((0x22 : UInt8) == 0x27) = false := by decide
  simp only [this, Bool.false_eq_true, if_false, hsrc]
  generalize unquoteBody 0x22 f rest = o
  cases o with
  | none => rfl
  | some p => cases p; rfl

/-- A byte that stands for itself inside `"…"`: ASCII, not `"`, not `\`, not newline. -/
def plainByte (b : UInt8) : Bool := b < 0x80 && b != 0x22 && b != 0x5C && b != 0x0A

theorem plainByte_iff (b : UInt8) :
    plainByte b = true ↔ b.toNat < 0x80 ∧ b.toNat ≠ 0x22 ∧ b.toNat ≠ 0x5C ∧ b.toNat ≠ 0x0A := by
  simp [plainByte, UInt8.lt_iff_toNat_lt, ← UInt8.toNat_inj, and_assoc]

theorem chunkOK_plain {b : UInt8} (h : plainByte b = true) : ChunkOK [b] [b] := by
  simp only [plainByte, Bool.and_eq_true, bne_iff_ne, ne_eq, decide_eq_true_eq] at h
  obtain ⟨⟨⟨h80, h22⟩, h5c⟩, h0a⟩ := h
  refine ⟨b, [], rfl, h22, h0a, fun rest => ⟨b.toNat, false, ?_, by simp [unquotedBytes]⟩⟩
  have e1 : (b == 0x22) = false := by simpa using h22
  have e3 : (b != 0x5C) = true := by simpa using h5c
  have e4 : ¬ b ≥ 0x80 := by simpa using h80
  simp only [List.nil_append, unquoteChar, e1, Bool.false_and, Bool.false_eq_true, if_false, e4,
    e3, if_true]

theorem unquoteBody_plain (s : GoString) (fuel : Nat) (hf : s.length + 1 ≤ fuel)
    (hs : ∀ b ∈ s, plainByte b = true) :
    unquoteBody 0x22 fuel (s ++ [0x22]) = some (s, [0x22]) := by
  induction s generalizing fuel with
  | nil =>
    cases fuel with
    | zero => simp at hf
    | succ f => simp [unquoteBody]
  | cons c t ih =>
    cases fuel with
    | zero => simp at hf
    | succ f =>
      rw [show c :: t ++ [0x22] = [c] ++ (t ++ [0x22]) from rfl,
        unquoteBody_chunk (chunkOK_plain (hs c List.mem_cons_self)),
        ih f (by simpa using hf) fun b hb => hs b (List.mem_cons_of_mem _ hb)]
      rfl

theorem unquote_of_body (q s : GoString)
    (h : unquoteBody 0x22 (q ++ [0x22]).length (q ++ [0x22]) = some (s, [0x22])) :
    unquote (0x22 :: (q ++ [0x22])) = some s := by
  unfold unquote
  cases q with
  | nil => simp at h ⊢; simpa [unquoteBody] using h
  | cons a t =>
    simp only [List.cons_append, List.length_cons, List.length_append, List.length_nil] at h ⊢
    simp [h]

theorem unhex_lowerHexByte : ∀ d, d < 16 → unhex (lowerHexByte d) = some d := by decide

/-- The `n` low hex digits of `v`, most significant first, in `lowerhex`: what `Quote` writes
after `\x` (`n = 2`), `\u` (4) and `\U` (8). -/
def lowerHex : Nat → Nat → GoString
  | 0, _ => []
  | n + 1, v => lowerHexByte (v / 16 ^ n % 16) :: lowerHex n v

theorem escX_eq (v : Nat) : escX v = 0x5C :: 0x78 :: lowerHex 2 v := by simp [escX, lowerHex]
theorem escU4_eq (r : Nat) : escU4 r = 0x5C :: 0x75 :: lowerHex 4 r := by simp [escU4, lowerHex]
theorem escU8_eq (r : Nat) : escU8 r = 0x5C :: 0x55 :: lowerHex 8 r := by simp [escU8, lowerHex]

theorem hexRun_lowerHex (n v acc : Nat) (rest : GoString) :
    hexRun n (lowerHex n v ++ rest) acc = some (acc * 16 ^ n + v % 16 ^ n, rest) := by
  induction n generalizing acc with
  | zero => simp [hexRun, lowerHex, Nat.mod_one]
  | succ n ih =>
    simp only [lowerHex, List.cons_append, hexRun,
      unhex_lowerHexByte _ (Nat.mod_lt _ (by decide)), ih]
    rw [Nat.mod_pow_succ, Nat.pow_succ, Nat.add_mul, Nat.mul_assoc, Nat.mul_comm 16,
      Nat.mul_comm (16 ^ n) (_ % 16), Nat.add_assoc, Nat.add_comm (_ * 16 ^ n) (v % _)]

theorem unquotedBytes_multibyte (r : Nat) (t : GoString) :
    unquotedBytes ⟨r, true, t⟩ = encodeRune r := by
  unfold unquotedBytes
  by_cases h : r < 0x80
  · simp [h, encodeRune_1 (show r ≤ 0x7F by omega)]
  · simp [h]

/-! ### What `UnquoteChar` reads from each chunk `Quote` writes -/

theorem unquoteChar_escX (v : Nat) (hv : v < 256) (rest : GoString) :
    unquoteChar (escX v ++ rest) 0x22 = some ⟨v, false, rest⟩ := by
  simp [escX_eq, unquoteChar, unquoteEscape, hexRun_lowerHex, Nat.mod_eq_of_lt hv]

theorem unquoteChar_escU4 (r : Nat) (hr : r < 65536) (hv : validRune r = true) (rest : GoString) :
    unquoteChar (escU4 r ++ rest) 0x22 = some ⟨r, true, rest⟩ := by
  simp [escU4_eq, unquoteChar, unquoteEscape, hexRun_lowerHex, Nat.mod_eq_of_lt hr, hv]

theorem unquoteChar_escU8 (r : Nat) (hr : r < 4294967296) (hv : validRune r = true)
    (rest : GoString) :
    unquoteChar (escU8 r ++ rest) 0x22 = some ⟨r, true, rest⟩ := by
  simp [escU8_eq, unquoteChar, unquoteEscape, hexRun_lowerHex, Nat.mod_eq_of_lt hr, hv]

theorem isPrint_newline : Bexpr.Unicode.isPrint 10 = false := by decide +kernel

theorem chunkOK_backslash {t src : GoString} {v : Nat} {mb : Bool}
    (h : ∀ rest, unquoteChar (0x5C :: (t ++ rest)) 0x22 = some ⟨v, mb, rest⟩)
    (hs : ∀ rest, unquotedBytes ⟨v, mb, rest⟩ = src) : ChunkOK (0x5C :: t) src :=
  ⟨0x5C, t, rfl, by decide, by decide, fun rest => ⟨v, mb, h rest, hs rest⟩⟩

theorem chunkOK_escX (v : Nat) (hv : v < 256) : ChunkOK (escX v) [v.toUInt8] :=
  chunkOK_backslash (unquoteChar_escX v hv) (unquotedBytes_single v)

theorem chunkOK_simple (e : UInt8) (v : Nat)
    (h : ∀ rest, unquoteEscape e rest 0x22 = some ⟨v, false, rest⟩) :
    ChunkOK [0x5C, e] [v.toUInt8] :=
  chunkOK_backslash (t := [e]) h (unquotedBytes_single v)

/-- The control characters `appendEscapedRune` writes as a backslash and a letter
(`\a \b \f \n \r \t \v`), each with its letter. -/
def ctlEscapes : List (Nat × UInt8) :=
  [(7, 0x61), (8, 0x62), (12, 0x66), (10, 0x6E), (13, 0x72), (9, 0x74), (11, 0x76)]

/-- `out` is what one branch of `appendEscapedRune` writes for `r`, under the condition under
which that branch is taken. -/
inductive EscCase (r : Nat) (out : GoString) : Prop
  | quote : r = 0x22 ∨ r = 0x5C → out = [0x5C, r.toUInt8] → EscCase r out
  | print : ¬(r = 0x22 ∨ r = 0x5C) → Unicode.isPrint r = true → out = encodeRune r → EscCase r out
  | ctl (e : UInt8) : (r, e) ∈ ctlEscapes → out = [0x5C, e] → EscCase r out
  | hex : r < 0x20 ∨ r = 0x7F → out = escX r → EscCase r out
  | bad : validRune r = false → out = escU4 0xFFFD → EscCase r out
  | u4 : validRune r = true → r < 0x10000 → out = escU4 r → EscCase r out
  | u8 : validRune r = true → out = escU8 r → EscCase r out

theorem escapedRune_cases (r : Nat) : EscCase r (escapedRune r) := by
  -- `split` on the thirteen-branch chain is very slow to check: the chain is taken apart by hand,
  -- the seven branches `if r == k then [0x5C, e] else x` by one step
  have ctl : ∀ {k : Nat} {e : UInt8} {x : GoString}, (k, e) ∈ ctlEscapes → EscCase r x →
      EscCase r (if (r == k) = true then [0x5C, e] else x) := by
    intro k e x hk hx
    by_cases h : (r == k) = true
    · rw [if_pos h]
      exact .ctl e (beq_iff_eq.mp h ▸ hk) rfl
    · rwa [if_neg h]
  unfold escapedRune
  by_cases hq : (r == 0x22 || r == 0x5C) = true
  · rw [if_pos hq]
    exact .quote (by simpa using hq) rfl
  rw [if_neg hq]
  by_cases hp : Unicode.isPrint r = true
  · rw [if_pos hp]
    exact .print (by simpa using hq) hp rfl
  rw [if_neg hp]
  refine ctl (by decide) <| ctl (by decide) <| ctl (by decide) <| ctl (by decide) <|
    ctl (by decide) <| ctl (by decide) <| ctl (by decide) ?_
  by_cases hc : (decide (r < 0x20) || r == 0x7F) = true
  · rw [if_pos hc]
    exact .hex (by simpa using hc) rfl
  rw [if_neg hc]
  by_cases hv : validRune r = true
  · rw [if_neg (by simp [hv])]
    by_cases h16 : r < 0x10000
    · rw [if_pos h16]
      exact .u4 hv h16 rfl
    · rw [if_neg h16]
      exact .u8 hv rfl
  · rw [if_pos (by simp [hv])]
    exact .bad (by simpa using hv) rfl

theorem chunkOK_escapedRune (r : Nat) (hv : validRune r = true) :
    ChunkOK (escapedRune r) (encodeRune r) := by
  cases escapedRune_cases r with
  | quote hq e =>
    rw [e]
    rcases hq with rfl | rfl <;> exact chunkOK_simple _ _ fun _ => rfl
  | print hq hp e =>
    rw [e]
    by_cases h80 : r < 0x80
    · have hc : r.toUInt8.toNat = r := toNat_toUInt8_of_lt (by omega)
      have hpl : plainByte r.toUInt8 = true := by
        rw [plainByte_iff, hc]
        refine ⟨h80, fun h => hq (.inl h), fun h => hq (.inr h), fun h => ?_⟩
        rw [h, isPrint_newline] at hp
        cases hp
      rw [encodeRune_1 (by omega)]
      exact chunkOK_plain hpl
    · obtain ⟨c, d, t, hcc, hge⟩ := encodeRune_multibyte (Nat.le_of_not_lt h80)
      have hc80 : c ≥ 0x80 := UInt8.le_iff_toNat_le.mpr (hge c List.mem_cons_self)
      have n1 : (c == 0x22) = false := by
        rw [beq_eq_false_iff_ne]; intro h; subst h; exact absurd hc80 (by decide)
      refine ⟨c, d :: t, hcc, by simpa using n1, ?_, fun rest =>
        ⟨r, true, ?_, unquotedBytes_multibyte r rest⟩⟩
      · intro h; subst h; exact absurd hc80 (by decide)
      · have hdec := decodeRune_encodeRune r hv (Nat.le_of_not_lt h80) rest
        rw [hcc] at hdec
        simp only [unquoteChar, n1, Bool.false_and, Bool.false_eq_true, if_false, hc80, if_true]
        rw [show c :: (d :: t ++ rest) = (c :: d :: t) ++ rest from rfl, hdec]
        simp
  | ctl c hc e =>
    rw [e]
    simp only [ctlEscapes, List.mem_cons, Prod.mk.injEq, List.not_mem_nil, or_false] at hc
    rcases hc with ⟨rfl, rfl⟩ | ⟨rfl, rfl⟩ | ⟨rfl, rfl⟩ | ⟨rfl, rfl⟩ | ⟨rfl, rfl⟩ | ⟨rfl, rfl⟩ |
      ⟨rfl, rfl⟩ <;> exact chunkOK_simple _ _ fun _ => rfl
  | hex hc e =>
    rw [e, encodeRune_1 (by omega)]
    exact chunkOK_escX r (by omega)
  | bad hb _ =>
    rw [hv] at hb
    cases hb
  | u4 _ h16 e =>
    rw [e]
    exact chunkOK_backslash (unquoteChar_escU4 r h16 hv) (unquotedBytes_multibyte r)
  | u8 _ e =>
    rw [e]
    have := validRune_iff.mp hv
    exact chunkOK_backslash (unquoteChar_escU8 r (by omega) hv) (unquotedBytes_multibyte r)

/-- The loop of `appendQuotedWith` with the rune escaper as a parameter: `quoteBody`
is the instance `escapedRune`; the bexpr renderer of the harness uses a variant that
writes `\x22` for a double quote. -/
def quoteBodyWith (esc : Nat → GoString) : Nat → GoString → GoString
  | _, [] => []
  | 0, _ :: _ => []
  | fuel + 1, b :: t =>
    let rw := decodeRune (b :: t)
    if rw.2 == 1 && rw.1 == runeError then escX b.toNat ++ quoteBodyWith esc fuel t
    else esc rw.1 ++ quoteBodyWith esc fuel ((b :: t).drop rw.2)

theorem quoteBody_eq_quoteBodyWith (n : Nat) (s : GoString) :
    quoteBody n s = quoteBodyWith escapedRune n s := by
  induction n generalizing s with
  | zero => cases s <;> rfl
  | succ n ih =>
    cases s with
    | nil => rfl
    | cons b t =>
      simp only [quoteBody, quoteBodyWith, ih]

theorem quoteBodyWith_succ (esc : Nat → GoString) (n : Nat) (b : UInt8) (t : GoString) :
    quoteBodyWith esc (n + 1) (b :: t) = escX b.toNat ++ quoteBodyWith esc n t ∨
    ∃ r w, validRune r = true ∧ 1 ≤ w ∧ w ≤ (b :: t).length ∧ encodeRune r = (b :: t).take w ∧
      quoteBodyWith esc (n + 1) (b :: t) = esc r ++ quoteBodyWith esc n ((b :: t).drop w) := by
  rcases decodeRune_cases b t with herr | ⟨r, w, hdec, hv, hw1, hw, henc, hasc⟩
  · exact .inl (by simp [quoteBodyWith, herr, runeError])
  · refine .inr ⟨r, w, hv, hw1, hw, henc, ?_⟩
    have : ((w == 1) && (r == runeError)) = false := by
      rw [Bool.eq_false_iff]
      intro h
      simp only [Bool.and_eq_true, beq_iff_eq] at h
      have := hasc h.1
      rw [h.2] at this
      exact absurd this (by decide)
    simp [quoteBodyWith, hdec, this]

theorem quoteBodyWith_induct {P : GoString → Prop} (esc : Nat → GoString) (h0 : P [])
    (happ : ∀ a b, P a → P b → P (a ++ b)) (hx : ∀ v, P (escX v))
    (hesc : ∀ r, validRune r = true → P (esc r)) (n : Nat) (s : GoString) :
    P (quoteBodyWith esc n s) := by
  induction n generalizing s with
  | zero => cases s <;> exact h0
  | succ n ih =>
    cases s with
    | nil => exact h0
    | cons b t =>
      rcases quoteBodyWith_succ esc n b t with e | ⟨r, w, hv, _, _, _, e⟩ <;> rw [e]
      · exact happ _ _ (hx _) (ih _)
      · exact happ _ _ (hesc r hv) (ih _)

/-- The `unquote` loop reads back everything the `Quote` loop wrote, for EVERY byte
string (valid UTF-8 or not) and every rune escaper whose chunks are read back as the
rune's encoding. -/
theorem unquoteBody_quoteBodyWith (esc : Nat → GoString)
    (hesc : ∀ r, validRune r = true → ChunkOK (esc r) (encodeRune r)) (n : Nat) :
    ∀ (s : GoString) (fuel : Nat), s.length ≤ n →
    (quoteBodyWith esc n s).length + 1 ≤ fuel →
    unquoteBody 0x22 fuel (quoteBodyWith esc n s ++ [0x22]) = some (s, [0x22]) := by
  induction n with
  | zero =>
    intro s fuel hs hf
    have : s = [] := List.eq_nil_of_length_eq_zero (by omega)
    subst this
    cases fuel with
    | zero => simp at hf
    | succ f => simp [quoteBodyWith, unquoteBody]
  | succ n ih =>
    intro s fuel hs hf
    cases s with
    | nil =>
      cases fuel with
      | zero => simp at hf
      | succ f => simp [quoteBodyWith, unquoteBody]
    | cons b t =>
      -- one chunk, then the induction hypothesis on the remaining input
      have step : ∀ (chunk src rem : GoString), ChunkOK chunk src →
          quoteBodyWith esc (n + 1) (b :: t) = chunk ++ quoteBodyWith esc n rem → rem.length ≤ n →
          src ++ rem = b :: t →
          unquoteBody 0x22 fuel (quoteBodyWith esc (n + 1) (b :: t) ++ [0x22]) =
            some (b :: t, [0x22]) := by
        intro chunk src rem hok hq hrem hsrc
        rw [hq] at hf ⊢
        have hne : chunk ≠ [] := by obtain ⟨c, ch, rfl, _⟩ := hok; simp
        have := List.length_pos_iff.mpr hne
        simp only [List.length_append] at hf
        obtain ⟨f, rfl⟩ : ∃ f, fuel = f + 1 := ⟨fuel - 1, by omega⟩
        rw [List.append_assoc, unquoteBody_chunk hok, ih rem f hrem (by omega)]
        simp [hsrc]
      rcases quoteBodyWith_succ esc n b t with e | ⟨r, w, hv, hw1, _, henc, e⟩
      · refine step (escX b.toNat) [b] t ?_ e (by simpa using hs) rfl
        simpa using chunkOK_escX b.toNat b.toNat_lt
      · refine step (esc r) (encodeRune r) ((b :: t).drop w) (hesc r hv) e ?_ ?_
        · simp only [List.length_drop, List.length_cons] at hs ⊢
          omega
        · rw [henc]
          exact List.take_append_drop w (b :: t)

/-! ### The renderer's variant: `\x22` instead of `\"` -/

/-- `appendEscapedRune` as used by the bexpr renderer: a double quote is written
`\x22` (the grammar's double-quoted literal cannot contain `"` in any form), every
other rune as `strconv.Quote` writes it. -/
def escapedRuneX22 (r : Nat) : GoString :=
  if r == 0x22 then escX 0x22 else escapedRune r

/-- The renderer's double-quoted literal: `strconv.Quote(s)` with every `\"`
written `\x22` (harness: `quoteDouble`). -/
def quoteX22 (s : GoString) : GoString :=
  0x22 :: (quoteBodyWith escapedRuneX22 s.length s ++ [0x22])

theorem chunkOK_escapedRuneX22 (r : Nat) (hv : validRune r = true) :
    ChunkOK (escapedRuneX22 r) (encodeRune r) := by
  unfold escapedRuneX22
  by_cases h : r = 0x22
  · subst h
    exact chunkOK_escX 0x22 (by decide)
  · rw [if_neg (by simpa using h)]
    exact chunkOK_escapedRune r hv

/-! #### The renderer's literal contains no double quote between its delimiters -/

theorem lowerHexByte_bytes :
    ∀ d, d < 16 → (lowerHexByte d).toNat < 128 ∧ lowerHexByte d ≠ 0x22 := by decide

theorem hexEsc_bytes {s : GoString} {l : UInt8} {n v : Nat} (hs : s = 0x5C :: l :: lowerHex n v)
    (hl : l.toNat < 128 ∧ l ≠ 0x22) : ∀ c ∈ s, c.toNat < 128 ∧ c ≠ 0x22 := by
  subst hs
  simp only [List.forall_mem_cons]
  refine ⟨by decide, hl, ?_⟩
  induction n with
  | zero => intro c hc; cases hc
  | succ n ih =>
    simp only [lowerHex, List.forall_mem_cons]
    exact ⟨lowerHexByte_bytes _ (Nat.mod_lt _ (by decide)), ih⟩

theorem encodeRune_noQuote (r : Nat) (h : r ≠ 0x22) : ∀ c ∈ encodeRune r, c ≠ 0x22 := by
  intro c hc e
  subst e
  by_cases h80 : r < 0x80
  · rw [encodeRune_1 (by omega), List.mem_singleton] at hc
    have := congrArg UInt8.toNat hc
    rw [toNat_toUInt8_of_lt (by omega)] at this
    exact h this.symm
  · obtain ⟨_, _, _, he, hge⟩ := encodeRune_multibyte (Nat.le_of_not_lt h80)
    rw [he] at hc
    exact absurd (hge _ hc) (by decide)

theorem escapedRuneX22_cases (r : Nat) :
    (r ≠ 0x22 ∧ escapedRuneX22 r = encodeRune r) ∨
    ∀ c ∈ escapedRuneX22 r, c.toNat < 128 ∧ c ≠ 0x22 := by
  unfold escapedRuneX22
  by_cases h : r = 0x22
  · subst h
    exact .inr (hexEsc_bytes (escX_eq _) (by decide))
  rw [if_neg (by simpa using h)]
  cases escapedRune_cases r with
  | quote hq e =>
    rcases hq with rfl | rfl
    · exact absurd rfl h
    · exact .inr (e ▸ by decide)
  | print _ _ e => exact .inl ⟨h, e⟩
  | ctl c hc e =>
    have : ∀ p ∈ ctlEscapes, ∀ c ∈ [0x5C, p.2], c.toNat < 128 ∧ c ≠ 0x22 := by decide
    exact .inr (e ▸ this _ hc)
  | hex _ e => exact .inr (hexEsc_bytes (e.trans (escX_eq _)) (by decide))
  | bad _ e => exact .inr (hexEsc_bytes (e.trans (escU4_eq _)) (by decide))
  | u4 _ _ e => exact .inr (hexEsc_bytes (e.trans (escU4_eq _)) (by decide))
  | u8 _ e => exact .inr (hexEsc_bytes (e.trans (escU8_eq _)) (by decide))

theorem escapedRuneX22_noQuote (r : Nat) : ∀ c ∈ escapedRuneX22 r, c ≠ 0x22 := by
  rcases escapedRuneX22_cases r with ⟨h, e⟩ | h
  · rw [e]
    exact encodeRune_noQuote r h
  · exact fun c hc => (h c hc).2

theorem quoteBodyX22_noQuote (n : Nat) (s : GoString) :
    ∀ c ∈ quoteBodyWith escapedRuneX22 n s, c ≠ 0x22 :=
  quoteBodyWith_induct (P := fun b => ∀ c ∈ b, c ≠ 0x22) _ (fun _ h => nomatch h)
    (fun a b ha hb c hc => (List.mem_append.mp hc).elim (ha c) (hb c))
    (fun v c hc => (hexEsc_bytes (escX_eq v) (by decide) c hc).2)
    (fun r _ => escapedRuneX22_noQuote r) n s

/-- Between its delimiters the renderer's literal contains no `"` (what a string rule of the
shape `'"' [^"]* '"'` needs in order to take it whole). -/
theorem quoteX22_shape (s : GoString) :
    ∃ body, quoteX22 s = 0x22 :: (body ++ [0x22]) ∧ ∀ c ∈ body, c ≠ 0x22 :=
  ⟨_, rfl, quoteBodyX22_noQuote _ s⟩

end Bexpr.Strconv
