/-
  Proofs.RoundTripColl — quantifiers `any/all S as bindings { body }`: the pieces that do not
  depend on the body (operator keyword, name bindings), and the reason why the text of a
  quantifier is NOT an `AndExpression` (so `OrExpression` reaches its third alternative).
-/
import Proofs.RoundTripMatch

namespace Bexpr.Proofs.RoundTrip
open Bexpr Bexpr.Peg Bexpr.Driver
variable {rule : String} {fr : Frame} {rest s : GoString} {off : Nat} {errs : List PErr}

/-! ## 1. Quantifier keyword and name bindings -/

theorem sem_onCollectionOpAny1 : lookupSem pinSem "onCollectionOpAny1" = .constCollOp .any :=
  lookupSem_pin 14 (by decide +kernel)
theorem sem_onCollectionOpAll1 : lookupSem pinSem "onCollectionOpAll1" = .constCollOp .all :=
  lookupSem_pin 15 (by decide +kernel)
theorem sem_onCollectionIdentifiers2 : lookupSem pinSem "onCollectionIdentifiers2" =
    .mkBinding .indexAndValue none (some "id1") (some "id2") :=
  lookupSem_pin 10 (by decide +kernel)
theorem sem_onCollectionIdentifiers13 : lookupSem pinSem "onCollectionIdentifiers13" =
    .mkBinding .index none (some "id1") none :=
  lookupSem_pin 11 (by decide +kernel)
theorem sem_onCollectionIdentifiers23 : lookupSem pinSem "onCollectionIdentifiers23" =
    .mkBinding .value none none (some "id2") :=
  lookupSem_pin 12 (by decide +kernel)
theorem sem_onCollectionIdentifiers33 : lookupSem pinSem "onCollectionIdentifiers33" =
    .mkBinding .default (some "id") none none :=
  lookupSem_pin 13 (by decide +kernel)
theorem sem_onCollectionExpression1 : lookupSem pinSem "onCollectionExpression1" =
    .mkColl "op" "selector" "binding" "expr" :=
  lookupSem_pin 9 (by decide +kernel)

theorem look_CollectionExpression :
    lookupRule G "CollectionExpression" = some Pinned.Grammar.rule_4 :=
  lookupRule_pin 4 rfl rfl
theorem look_CollectionIdentifiers :
    lookupRule G "CollectionIdentifiers" = some Pinned.Grammar.rule_5 :=
  lookupRule_pin 5 rfl rfl
theorem look_CollectionOpAny : lookupRule G "CollectionOpAny" = some Pinned.Grammar.rule_6 :=
  lookupRule_pin 6 rfl rfl
theorem look_CollectionOpAll : lookupRule G "CollectionOpAll" = some Pinned.Grammar.rule_7 :=
  lookupRule_pin 7 rfl rfl

def kAny : GoString := [97, 110, 121]
def kAll : GoString := [97, 108, 108]
def kAs : GoString := [97, 115]

def opText : CollOp → GoString
  | .any => kAny
  | .all => kAll

abbrev collOpChoice : PExpr := .choice [.ruleRef "CollectionOpAny", .ruleRef "CollectionOpAll"]

/-- `any ` / `all ` -/
theorem eats_collOp (op : CollOp) {w : GoString} (hw : Blank1 w)
    (hstop : headIn isWs rest = false) (hr : VT rest) :
    Eats rule collOpChoice fr (opText op ++ w) rest off errs fr (.cop op) := by
  have hwa : Asc w := hw.2.asc @isWs_lt
  cases op with
  | any =>
    refine Eats.choice_hit (Eats.ref look_CollectionOpAny (Eats.action (Eats.seq
      (EatsSeq.cons (Eats.lit kAny rfl (by decide) (hwa.appendV hr))
        (EatsSeq.one (eats_ws1 hw hstop hr)))) ?_))
    rw [act_of_sem sem_onCollectionOpAny1]; rfl
  | all =>
    have f1 : Fails rule (.ruleRef "CollectionOpAny") [] ((kAll ++ w) ++ rest) off errs :=
      Fails.ref look_CollectionOpAny (Fails.action (Fails.seq_here
        (Fails.lit kAny rfl (by decide) ((Asc.append (by decide) hwa).appendV hr) rfl)))
    refine Eats.choice_next f1 (Eats.choice_hit (Eats.ref look_CollectionOpAll
      (Eats.action (Eats.seq
        (EatsSeq.cons (Eats.lit kAll rfl (by decide) (hwa.appendV hr))
          (EatsSeq.one (eats_ws1 hw hstop hr)))) ?_)))
    rw [act_of_sem sem_onCollectionOpAll1]; rfl

structure Ident where
  b : UInt8
  x : GoString

def Ident.text (i : Ident) : GoString := i.b :: i.x
def Ident.WF (i : Ident) : Prop := isAlpha i.b.toNat = true ∧ AllIn isIdc i.x
theorem Ident.text_asc (i : Ident) (h : i.WF) : Asc i.text :=
  Asc.cons (isAlpha_lt h.1) (h.2.asc @isIdc_lt)

instance Ident.decWF (i : Ident) : Decidable i.WF := by unfold Ident.WF; infer_instance

theorem eats_Ident (i : Ident) (h : i.WF) (hstop : headIn isIdc rest = false) (hr : VT rest) :
    Eats rule (.ruleRef "Identifier") fr i.text rest off errs fr (.str i.text) :=
  eats_Identifier h.1 h.2 hstop hr

/-- the names bound by a quantifier: `i, v` · `i, _` · `_, v` · `d` -/
inductive BindSp where
  | both (i : Ident) (w₁ w₂ : GoString) (v : Ident)
  | index (i : Ident) (w₁ w₂ : GoString)
  | value (w₁ w₂ : GoString) (v : Ident)
  | dflt (d : Ident)

def BindSp.text : BindSp → GoString
  | .both i w₁ w₂ v => i.text ++ (w₁ ++ ([44] ++ (w₂ ++ v.text)))
  | .index i w₁ w₂ => i.text ++ (w₁ ++ ([44] ++ (w₂ ++ [95])))
  | .value w₁ w₂ v => [95] ++ (w₁ ++ ([44] ++ (w₂ ++ v.text)))
  | .dflt d => d.text

def BindSp.binding : BindSp → Binding
  | .both i _ _ v => { mode := .indexAndValue, index := i.text, value := v.text }
  | .index i _ _ => { mode := .index, index := i.text }
  | .value _ _ v => { mode := .value, value := v.text }
  | .dflt d => { mode := .default, default := d.text }

def BindSp.WF : BindSp → Prop
  | .both i w₁ w₂ v => i.WF ∧ Blank w₁ ∧ Blank w₂ ∧ v.WF
  | .index i w₁ w₂ => i.WF ∧ Blank w₁ ∧ Blank w₂
  | .value w₁ w₂ v => Blank w₁ ∧ Blank w₂ ∧ v.WF
  | .dflt d => d.WF

instance BindSp.decWF (b : BindSp) : Decidable b.WF := by
  cases b <;> (unfold BindSp.WF; infer_instance)

theorem BindSp.text_asc (b : BindSp) (h : b.WF) : Asc b.text := by
  cases b with
  | both i w₁ w₂ v =>
    exact (i.text_asc h.1).append ((h.2.1.asc @isWs_lt).append (Asc.cons (by decide)
      ((h.2.2.1.asc @isWs_lt).append (v.text_asc h.2.2.2))))
  | index i w₁ w₂ =>
    exact (i.text_asc h.1).append ((h.2.1.asc @isWs_lt).append (Asc.cons (by decide)
      ((h.2.2.asc @isWs_lt).append (Asc.cons (by decide) Asc.nil))))
  | value w₁ w₂ v =>
    exact Asc.cons (by decide) ((h.1.asc @isWs_lt).append (Asc.cons (by decide)
      ((h.2.1.asc @isWs_lt).append (v.text_asc h.2.2))))
  | dflt d => exact d.text_asc h

theorem Ident.head_noWs (i : Ident) (h : i.WF) (t : GoString) :
    headIn isWs (i.text ++ t) = false :=
  noWs_of_tokStart (headIn_imp (p := isAlpha) (s := i.text ++ t)
    (fun n hn => by simp [tokStart, hn]) h.1)

theorem BindSp.head (b : BindSp) (h : b.WF) : headIn isWs (b.text ++ rest) = false := by
  cases b with
  | both i w₁ w₂ v => rw [BindSp.text, List.append_assoc]; exact i.head_noWs h.1 _
  | index i w₁ w₂ => rw [BindSp.text, List.append_assoc]; exact i.head_noWs h.1 _
  | value w₁ w₂ v => rfl
  | dflt d => exact d.head_noWs h _

theorem ws_not_idc : ∀ n, isWs n = true → isIdc n = false :=
  fun _ h => not_of_isWs rfl rfl rfl rfl h

/-- blanks followed by a byte that is no identifier byte: an identifier ends before them -/
theorem noIdc_blank {w r : GoString} (hw : Blank w) (hr : headIn isIdc r = false) :
    headIn isIdc (w ++ r) = false := by
  cases w with
  | nil => exact hr
  | cons b t => exact ws_not_idc _ hw.head

theorem noIdc_sep {w₁ : GoString} (h1 : Blank w₁) (ts : List (Tok × GoString)) (u : GoString) :
    headIn isIdc (toksText ((.optWs, w₁) :: (.kw [44], [44]) :: ts) ++ u) = false := by
  simp only [toksText, List.append_assoc]
  exact noIdc_blank h1 rfl

theorem expr_CollectionIdentifiers : Pinned.Grammar.rule_5.expr = .choice [
    .action "onCollectionIdentifiers2" (.seq [.labeled "id1" (.ruleRef "Identifier"),
      .zeroOrOne (.ruleRef "_"), .lit [44] false, .zeroOrOne (.ruleRef "_"),
      .labeled "id2" (.ruleRef "Identifier")]),
    .action "onCollectionIdentifiers13" (.seq [.labeled "id1" (.ruleRef "Identifier"),
      .zeroOrOne (.ruleRef "_"), .lit [44] false, .zeroOrOne (.ruleRef "_"), .lit [95] false]),
    .action "onCollectionIdentifiers23" (.seq [.lit [95] false, .zeroOrOne (.ruleRef "_"),
      .lit [44] false, .zeroOrOne (.ruleRef "_"), .labeled "id2" (.ruleRef "Identifier")]),
    .action "onCollectionIdentifiers33" (.labeled "id" (.ruleRef "Identifier"))] := rfl

/-- `CollectionIdentifiers` on a spelled binding, followed by optional blanks and `{`.  The
    alternatives are `id1 _? "," _? id2`, `id1 _? "," _? "_"`, `"_" _? "," _? id2` and `id`: a
    name at either end, a token list in between. -/
theorem eats_CollectionIdentifiers (b : BindSp) (h : b.WF) {w r : GoString} (hw : Blank w)
    (hr : VT r) :
    Eats rule (.ruleRef "CollectionIdentifiers") fr b.text (w ++ ([123] ++ r)) off errs fr
      (.binding b.binding) := by
  have hrest : VT (w ++ ([123] ++ r)) := (hw.asc @isWs_lt).appendV (VT.cons (by decide) hr)
  have hidc : headIn isIdc (w ++ ([123] ++ r)) = false := noIdc_blank hw rfl
  apply Eats.ref look_CollectionIdentifiers
  rw [expr_CollectionIdentifiers]
  generalize Pinned.Grammar.rule_5.shown = R
  have id2 : ∀ (v : Ident), v.WF → ∀ (fr' : Frame) (off' : Nat),
      EatsSeq R [.labeled "id2" (.ruleRef "Identifier")] fr' v.text (w ++ ([123] ++ r)) off' errs
        (("id2", .str v.text) :: fr') [.str v.text] := fun v hv _ _ =>
    EatsSeq.one (Eats.labeled "id2" (eats_Ident v hv hidc hrest))
  cases b with
  | both i w₁ w₂ v =>
    obtain ⟨hi, h1, h2, hv⟩ := h
    have hsep : ToksOK [(.optWs, w₁), (.kw [44], [44]), (.optWs, w₂)]
        (v.text ++ (w ++ ([123] ++ r))) := ⟨h1, rfl, rfl, by decide, h2, v.head_noWs hv _, trivial⟩
    have hvr := (v.text_asc hv).appendV hrest
    obtain ⟨vs, tl⟩ := eatsSeq_toks_then (fr := [("id1", .str i.text)]) (id2 v hv _) hvr _
      (off + i.text.length) hsep
    have e1 := Eats.labeled (rule := R) (fr := []) "id1"
      (eats_Ident (off := off) (errs := errs) i hi
        (by rw [List.append_assoc]; exact noIdc_sep h1 _ _)
        (((toksText_asc _ _ hsep).append (v.text_asc hv)).appendV hrest))
    refine Eats.choice_hit (Eats.action (Eats.seq ((EatsSeq.cons e1 tl).cast ?_)) ?_)
    · simp [toksText, BindSp.text]
    · rw [act_of_sem sem_onCollectionIdentifiers2]
      simp [runActionSem, Frame.get, List.find?, BindSp.binding]
  | index i w₁ w₂ =>
    obtain ⟨hi, h1, h2⟩ := h
    have hu : VT ([95] ++ (w ++ ([123] ++ r))) := VT.cons (by decide) hrest
    have hsep : ToksOK [(.optWs, w₁), (.kw [44], [44]), (.optWs, w₂)]
        ([95] ++ (w ++ ([123] ++ r))) := ⟨h1, rfl, rfl, by decide, h2, rfl, trivial⟩
    obtain ⟨vs, tl⟩ := eatsSeq_toks_then (fr := [("id1", .str i.text)])
      (fun off' => EatsSeq.one (Eats.lit (rule := R) (off := off') [95] rfl (by decide) hrest))
      hu _ (off + i.text.length) hsep
    have e1 := Eats.labeled (rule := R) (fr := []) "id1"
      (eats_Ident (off := off) (errs := errs) i hi
        (by rw [List.append_assoc]; exact noIdc_sep h1 _ _)
        (((toksText_asc _ _ hsep).append (by decide : Asc [95])).appendV hrest))
    have e : (BindSp.index i w₁ w₂).text ++ (w ++ ([123] ++ r)) = i.text ++
        (toksText [(.optWs, w₁), (.kw [44], [44]), (.optWs, w₂)] ++
          ([95] ++ (w ++ ([123] ++ r)))) := by simp [toksText, BindSp.text]
    -- alternative 1 fails at `id2`: `_` is no identifier
    have f1 : Fails R (.action "onCollectionIdentifiers2" (.seq [
        .labeled "id1" (.ruleRef "Identifier"), .zeroOrOne (.ruleRef "_"), .lit [44] false,
        .zeroOrOne (.ruleRef "_"), .labeled "id2" (.ruleRef "Identifier")])) []
        ((BindSp.index i w₁ w₂).text ++ (w ++ ([123] ++ r))) off errs := by
      rw [e]
      exact Fails.action (Fails.seq (FailsSeq.later (e1.cast rfl (List.append_assoc ..))
        (failsSeq_toks_then (fun _ => FailsSeq.here (Fails.labeled (l := "id2")
          (fails_Identifier hu rfl))) hu _ _ hsep)))
    refine Eats.choice_next f1 (Eats.choice_hit (Eats.action (Eats.seq
      ((EatsSeq.cons e1 tl).cast ?_)) ?_))
    · simp [toksText, BindSp.text]
    · rw [act_of_sem sem_onCollectionIdentifiers13]
      simp [runActionSem, Frame.get, List.find?, BindSp.binding]
  | value w₁ w₂ v =>
    obtain ⟨h1, h2, hv⟩ := h
    have hsep : ToksOK [(.kw [95], [95]), (.optWs, w₁), (.kw [44], [44]), (.optWs, w₂)]
        (v.text ++ (w ++ ([123] ++ r))) :=
      ⟨rfl, by decide, h1, rfl, rfl, by decide, h2, v.head_noWs hv _, trivial⟩
    have hvr := (v.text_asc hv).appendV hrest
    have hall : VT ((BindSp.value w₁ w₂ v).text ++ (w ++ ([123] ++ r))) :=
      ((BindSp.value w₁ w₂ v).text_asc ⟨h1, h2, hv⟩).appendV hrest
    -- alternatives 1 and 2 fail at `id1`: `_` is no identifier
    have f1 : ∀ nm tl, Fails R (.action nm (.seq (.labeled "id1" (.ruleRef "Identifier") :: tl)))
        [] ((BindSp.value w₁ w₂ v).text ++ (w ++ ([123] ++ r))) off errs := fun nm tl =>
      Fails.action (Fails.seq_here (Fails.labeled (fails_Identifier hall rfl)))
    obtain ⟨vs, hseq⟩ := eatsSeq_toks_then (fr := []) (id2 v hv _) hvr _ off hsep
    refine Eats.choice_next (f1 _ _) (Eats.choice_next (f1 _ _) (Eats.choice_hit
      (Eats.action (Eats.seq (hseq.cast ?_)) ?_)))
    · simp [toksText, BindSp.text]
    · rw [act_of_sem sem_onCollectionIdentifiers23]
      simp [runActionSem, Frame.get, List.find?, BindSp.binding]
  | dflt d =>
    have hall : VT (d.text ++ (w ++ ([123] ++ r))) := (d.text_asc h).appendV hrest
    have eid : ∀ l, l ≠ "" → Eats R (.labeled l (.ruleRef "Identifier")) [] d.text
        (w ++ ([123] ++ r)) off errs [(l, .str d.text)] (.str d.text) := fun l hl =>
      Eats.labeled l (eats_Ident d h hidc hrest) hl
    -- alternatives 1 and 2: the identifier, the blanks, then no `,`
    have f12 : ∀ nm tl, Fails R (.action nm (.seq (.labeled "id1" (.ruleRef "Identifier") ::
        .zeroOrOne (.ruleRef "_") :: .lit [44] false :: tl))) []
        (d.text ++ (w ++ ([123] ++ r))) off errs := fun nm tl =>
      Fails.action (Fails.seq (FailsSeq.later (eid "id1" (by decide))
        (failsSeq_toks (ts := [.optWs, .kw [44]])
          (ToksFail.optWsNext hw rfl (ToksFail.kwHere (by decide) rfl)) _ tl hrest)))
    -- alternative 3: no `_`
    have f3 : Fails R (.action "onCollectionIdentifiers23" (.seq [.lit [95] false,
        .zeroOrOne (.ruleRef "_"), .lit [44] false, .zeroOrOne (.ruleRef "_"),
        .labeled "id2" (.ruleRef "Identifier")])) [] (d.text ++ (w ++ ([123] ++ r))) off errs :=
      Fails.action (Fails.seq_here (Fails.lit [95] rfl (by decide) hall
        (not_prefix_of_headIn (p := isAlpha) (s := d.text ++ _) rfl h.1)))
    refine Eats.choice_next (f12 _ _) (Eats.choice_next (f12 _ _) (Eats.choice_next f3
      (Eats.choice_hit (Eats.action (eid "id" (by decide)) ?_))))
    rw [act_of_sem sem_onCollectionIdentifiers33]
    simp [runActionSem, Frame.get, List.find?, BindSp.binding]

/-! ## 2. The text of a quantifier is not an `AndExpression` -/

theorem look_AndExpression : lookupRule G "AndExpression" = some Pinned.Grammar.rule_2 :=
  lookupRule_pin 2 rfl rfl
theorem look_NotExpression : lookupRule G "NotExpression" = some Pinned.Grammar.rule_3 :=
  lookupRule_pin 3 rfl rfl
theorem look_ParenthesizedExpression :
    lookupRule G "ParenthesizedExpression" = some Pinned.Grammar.rule_8 :=
  lookupRule_pin 8 rfl rfl

def kwList : List GoString := [kContains, kMatches, kNot, kIs, kIn]

/-- `r` does not start with an operator: no `==`, `!=`, and no operator word followed by a
    blank -/
def KwFree (r : GoString) : Prop :=
  GoString.isPrefixOf kEq r = false ∧ GoString.isPrefixOf kNe r = false ∧
  ∀ K ∈ kwList, GoString.isPrefixOf K r = false ∨ ∃ r₂, r = K ++ r₂ ∧ headIn isWs r₂ = false

theorem idc_not_ws : ∀ n, isIdc n = true → isWs n = false := by
  intro n h
  cases hw : isWs n with
  | false => rfl
  | true => rw [ws_not_idc n hw] at h; cases h

/-- an identifier different from the word `K`, maximal in the input, is not read as `K` + blank -/
theorem ident_kw : ∀ (K ident : GoString) {tail : GoString}, ident ≠ K →
    AllIn isIdc K → AllIn isIdc ident → headIn isIdc tail = false →
    GoString.isPrefixOf K (ident ++ tail) = false ∨
      ∃ r, ident ++ tail = K ++ r ∧ headIn isWs r = false
  | [], ident, tail, hne, _, hid, _ => by
    right
    refine ⟨ident ++ tail, rfl, ?_⟩
    cases ident with
    | nil => exact absurd rfl hne
    | cons i t => exact idc_not_ws _ (hid.head)
  | k :: K', [], tail, _, hK, _, htail => by
    left
    cases tail with
    | nil => rfl
    | cons t0 ts =>
      have h : ¬ k = t0 := by
        intro h; subst h
        have h1 : isIdc k.toNat = true := hK.head
        have h2 : isIdc k.toNat = false := htail
        rw [h1] at h2; cases h2
      simp [GoString.isPrefixOf, h]
  | k :: K', i :: ident', tail, hne, hK, hid, htail => by
    by_cases h : k = i
    · subst h
      have hne' : ident' ≠ K' := fun h' => hne (by rw [h'])
      rcases ident_kw K' ident' hne' hK.tail hid.tail htail with hp | ⟨r, hr, hws⟩
      · left; simp [GoString.isPrefixOf, hp]
      · right; exact ⟨r, by simp [hr], hws⟩
    · left; simp [GoString.isPrefixOf, h]

/-- RESTRICTION on the selector of a quantifier: its first identifier is none of the operator
    words `contains`, `matches`, `not`, `is`, `in` (the text `any contains as …` IS a match
    expression for the grammar) -/
def SelX.kwOK : SelX → Prop
  | .bexpr σ => ∀ K ∈ kwList, σ.b :: σ.x ≠ K
  | .ptr _ => True

instance SelX.decKwOK (x : SelX) : Decidable x.kwOK := by
  cases x <;> (unfold SelX.kwOK; infer_instance)

theorem isAlpha_idc {n : Nat} (h : isAlpha n = true) : isIdc n = true := by
  have h' : 97 ≤ n ∧ n ≤ 122 ∨ 65 ≤ n ∧ n ≤ 90 := by
    simpa [inCls, classMatches.inRanges] using h
  simp [inCls, classMatches.inRanges]; omega

theorem kwList_idc : ∀ K ∈ kwList, AllIn isIdc K := by decide +kernel

/-- the first identifier of a selector consists of identifier bytes -/
theorem SelSp.head_idc (σ : SelSp) (h : σ.WF) : AllIn isIdc (σ.b :: σ.x) :=
  AllIn.cons (isAlpha_idc h.1) h.2.1

theorem SelX.kwFree (x : SelX) (hx : x.WF) (hk : x.kwOK) (tail : GoString)
    (hstop : stopsSel tail) : KwFree (x.text ++ tail) := by
  cases x with
  | bexpr σ =>
    have e : (SelX.bexpr σ).text ++ tail = (σ.b :: σ.x) ++ (partsText σ.parts ++ tail) :=
      List.append_assoc ..
    rw [e]
    exact ⟨not_prefix_of_headIn (p := isAlpha) rfl hx.1,
      not_prefix_of_headIn (p := isAlpha) rfl hx.1, fun K hK =>
        ident_kw K (σ.b :: σ.x) (hk K hK) (kwList_idc K hK) (σ.head_idc hx)
          (partsText_stop σ.parts hstop)⟩
  | ptr path =>
    refine ⟨rfl, rfl, fun K hK => ?_⟩
    simp only [kwList, List.mem_cons, List.not_mem_nil, or_false] at hK
    rcases hK with rfl | rfl | rfl | rfl | rfl <;> exact .inl rfl

/-- first keyword differs: `[_|_?] "kw" …` fails on `w₁ ++ r` -/
theorem toksFail_first {t0 : Tok} (ht : t0 = .ws ∨ t0 = .optWs) {x w₁ r : GoString}
    {more : List Tok} (hw : AllIn isWs w₁) (hstop : headIn isWs r = false) (hx : Asc x)
    (hp : GoString.isPrefixOf x r = false) : ToksFail (t0 :: .kw x :: more) (w₁ ++ r) := by
  rcases ht with rfl | rfl
  · exact ToksFail.wsNext hw hstop (ToksFail.kwHere hx hp)
  · exact ToksFail.optWsNext hw hstop (ToksFail.kwHere hx hp)

/-- `[_|_?] "K" _ …` fails on `w₁ r` when `r` is not `K` + blank -/
theorem toksFail_kw_ws {t0 : Tok} (ht : t0 = .ws ∨ t0 = .optWs) {K w₁ r : GoString}
    {more : List Tok} (hw : AllIn isWs w₁) (hstop : headIn isWs r = false) (hK : Asc K)
    (h : GoString.isPrefixOf K r = false ∨ ∃ r₂, r = K ++ r₂ ∧ headIn isWs r₂ = false) :
    ToksFail (t0 :: .kw K :: .ws :: more) (w₁ ++ r) := by
  rcases h with hp | ⟨r₂, rfl, h2⟩
  · exact toksFail_first ht hw hstop hK hp
  · rcases ht with rfl | rfl
    · exact ToksFail.wsNext hw hstop (ToksFail.kwNext hK (ToksFail.wsNone h2))
    · exact ToksFail.optWsNext hw hstop (ToksFail.kwNext hK (ToksFail.wsNone h2))

theorem KwFree.mem {r : GoString} (h : KwFree r) {K : GoString} (hK : K ∈ kwList) :
    GoString.isPrefixOf K r = false ∨ ∃ r₂, r = K ++ r₂ ∧ headIn isWs r₂ = false := h.2.2 K hK

theorem toksFail_of_kwFree (R : OpRule) {w₁ r : GoString} (hw : AllIn isWs w₁)
    (hstop : headIn isWs r = false) (h : KwFree r) : ToksFail R.toks (w₁ ++ r) := by
  have hC := h.mem (K := kContains) (by decide)
  have hM := h.mem (K := kMatches) (by decide)
  have hN := h.mem (K := kNot) (by decide)
  have hI := h.mem (K := kIs) (by decide)
  have hIn := h.mem (K := kIn) (by decide)
  cases R with
  | equal => exact toksFail_first (.inr rfl) hw hstop (by decide) h.1
  | notEqual => exact toksFail_first (.inr rfl) hw hstop (by decide) h.2.1
  | isEmpty => exact toksFail_kw_ws (.inl rfl) hw hstop (by decide) hI
  | isNotEmpty => exact toksFail_kw_ws (.inl rfl) hw hstop (by decide) hI
  | in_ => exact toksFail_kw_ws (.inl rfl) hw hstop (by decide) hIn
  | notIn => exact toksFail_kw_ws (.inl rfl) hw hstop (by decide) hN
  | contains => exact toksFail_kw_ws (.inl rfl) hw hstop (by decide) hC
  | notContains => exact toksFail_kw_ws (.inl rfl) hw hstop (by decide) hN
  | reMatch => exact toksFail_kw_ws (.inl rfl) hw hstop (by decide) hM
  | reNotMatch => exact toksFail_kw_ws (.inl rfl) hw hstop (by decide) hN

/-- A word `σ₀` other than `not` (e.g. `any`, `all`) followed by blanks and a text that does not
    start with an operator is not a match expression, hence no `NotExpression` and no `AndExpression`:
    `OrExpression` falls through to its quantifier alternative. -/
theorem fails_AndExpression_kw (σ₀ : SelSp) (h0 : σ₀.WF) {w₁ r : GoString} (hw : Blank1 w₁)
    (hstop : headIn isWs r = false) (hfree : KwFree r) (hr : VT r)
    (hnot : GoString.isPrefixOf kNot (σ₀.text ++ (w₁ ++ r)) = false)
    (rule : String) (fr : Frame) (off : Nat) (errs : List PErr) :
    Fails rule (.ruleRef "AndExpression") fr (σ₀.text ++ (w₁ ++ r)) off errs := by
  obtain ⟨hne, hws⟩ := hw
  have hwa : Asc w₁ := hws.asc @isWs_lt
  have htail : VT (w₁ ++ r) := hwa.appendV hr
  have hall : VT (σ₀.text ++ (w₁ ++ r)) := (σ₀.text_vt h0).append htail
  have hsel : stopsSel (w₁ ++ r) := (stops_of_ws ⟨hne, hws⟩ r).1
  have fop : ∀ (Rs : List OpRule) (rule : String) (fr : Frame) (off : Nat),
      Fails rule (opChoice Rs) fr (w₁ ++ r) off errs := fun Rs _ _ _ =>
    fails_opChoice htail Rs fun R _ => toksFail_of_kwFree R hws hstop hfree
  -- the three match forms
  have fMSOV : Fails Pinned.Grammar.rule_9.shown (.ruleRef "MatchSelectorOpValue") []
      (σ₀.text ++ (w₁ ++ r)) off errs :=
    Fails.ref look_MatchSelectorOpValue (Fails.action (Fails.seq
      (FailsSeq.later (Eats.labeled "selector"
        (eats_Selector_bexpr σ₀ h0 hsel htail))
        (FailsSeq.here (Fails.labeled (e := op6) (fop _ _ _ _))))))
  have fMSO : Fails Pinned.Grammar.rule_9.shown (.ruleRef "MatchSelectorOp") []
      (σ₀.text ++ (w₁ ++ r)) off errs :=
    Fails.ref look_MatchSelectorOp (Fails.action (Fails.seq
      (FailsSeq.later (Eats.labeled "selector"
        (eats_Selector_bexpr σ₀ h0 hsel htail))
        (FailsSeq.here (Fails.labeled (e := isChoice) (fop _ _ _ _))))))
  have fMVOS : Fails Pinned.Grammar.rule_9.shown (.ruleRef "MatchValueOpSelector") []
      (σ₀.text ++ (w₁ ++ r)) off errs :=
    Fails.ref look_MatchValueOpSelector
      (Fails.choice_cons (Fails.action (Fails.seq
        (FailsSeq.later (Eats.labeled "value"
          (eats_Value (.sel σ₀) h0 hsel htail))
          (FailsSeq.here (Fails.labeled (e := inChoice) (fop _ _ _ _))))))
      (Fails.choice_cons (Fails.seq
        (FailsSeq.later (eats_Value (.sel σ₀) h0 hsel htail)
          (FailsSeq.here (Fails.labeled (e := inChoice) (fop _ _ _ _))))) Fails.choice_nil))
  have fM : Fails Pinned.Grammar.rule_8.shown (.ruleRef "MatchExpression") []
      (σ₀.text ++ (w₁ ++ r)) off errs :=
    Fails.ref look_MatchExpression (Fails.choice_cons fMSOV
      (Fails.choice_cons fMSO (Fails.choice_cons fMVOS Fails.choice_nil)))
  have fL : ∀ fr', Fails Pinned.Grammar.rule_8.shown (.lit [40] false) fr'
      (σ₀.text ++ (w₁ ++ r)) off errs := fun _ =>
    Fails.lit [40] rfl (by decide) hall (noParen_of_tokStart (σ₀.head h0))
  have fP : Fails Pinned.Grammar.rule_3.shown (.ruleRef "ParenthesizedExpression") []
      (σ₀.text ++ (w₁ ++ r)) off errs :=
    Fails.ref look_ParenthesizedExpression
      (Fails.choice_cons (Fails.action (Fails.seq_here (fL _)))
      (Fails.choice_cons (Fails.action (Fails.labeled fM))
      (Fails.choice_cons (Fails.seq_here (fL _)) Fails.choice_nil)))
  have fN : ∀ fr', Fails Pinned.Grammar.rule_2.shown (.ruleRef "NotExpression") fr'
      (σ₀.text ++ (w₁ ++ r)) off errs := fun _ =>
    Fails.ref look_NotExpression
      (Fails.choice_cons (Fails.action (Fails.seq (FailsSeq.here
        (Fails.lit kNot rfl (by decide) hall hnot))))
      (Fails.choice_cons (Fails.action (Fails.labeled fP)) Fails.choice_nil))
  exact Fails.ref look_AndExpression
    (Fails.choice_cons (Fails.action (Fails.seq_here (Fails.labeled (fN _))))
    (Fails.choice_cons (Fails.action (Fails.labeled (fN _))) Fails.choice_nil))

end Bexpr.Proofs.RoundTrip
