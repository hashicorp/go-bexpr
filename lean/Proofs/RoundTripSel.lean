/-
  Proofs.RoundTripSel — the print/parse round trip for selectors (C07 at parser level),
  in the bexpr spelling (`SelSp`: a first identifier, then parts `.ident`, `.digits`, `[ "…" ]`)
  and in the JSON-pointer spelling `"/seg/seg…"` (`~1`, `~0` denote `/`, `~`).
  The input is valid UTF-8 text (`VT`); index literals may have any valid UTF-8 body; pointer
  segments are non-empty valid UTF-8 whose runes are in the grammar's class `[\pL\pN-_.~:|]`
  (`segRune`: Go's `unicode.L`, `unicode.N` tables, or one of `-_.~:|`).
-/
import Proofs.RoundTripLex

namespace Bexpr.Proofs.RoundTrip
open Bexpr Bexpr.Peg Bexpr.Driver
open Bexpr.Props.C16Lex (ptrEscape pointer_parse_roundtrip)

variable {rule : String} {fr : Frame} {rest s : GoString} {off : Nat} {errs : List PErr}

/-! ## 1. Code blocks and rules -/

theorem sem_onSelectorOrIndex2 : lookupSem pinSem "onSelectorOrIndex2" = .retLabel "ident" :=
  lookupSem_pin 37 (by decide +kernel)
theorem sem_onSelectorOrIndex7 : lookupSem pinSem "onSelectorOrIndex7" = .retLabel "expr" :=
  lookupSem_pin 38 (by decide +kernel)
theorem sem_onSelectorOrIndex10 : lookupSem pinSem "onSelectorOrIndex10" = .textTail :=
  lookupSem_pin 39 (by decide +kernel)
theorem sem_onIndexExpression2 : lookupSem pinSem "onIndexExpression2" = .retLabel "lit" :=
  lookupSem_pin 40 (by decide +kernel)
theorem sem_onSelector2 : lookupSem pinSem "onSelector2" = .selectorBexpr "first" "rest" :=
  lookupSem_pin 33 (by decide +kernel)
theorem sem_onSelector9 : lookupSem pinSem "onSelector9" = .selectorPtr "ptrsegs" :=
  lookupSem_pin 34 (by decide +kernel)
theorem sem_onJsonPointerSegment1 : lookupSem pinSem "onJsonPointerSegment1" = .textTail :=
  lookupSem_pin 35 (by decide +kernel)

theorem look_Selector : lookupRule G "Selector" = some Pinned.Grammar.rule_23 :=
  lookupRule_pin 23 rfl rfl
theorem look_JsonPointerSegment :
    lookupRule G "JsonPointerSegment" = some Pinned.Grammar.rule_24 :=
  lookupRule_pin 24 rfl rfl
theorem look_SelectorOrIndex : lookupRule G "SelectorOrIndex" = some Pinned.Grammar.rule_26 :=
  lookupRule_pin 26 rfl rfl
theorem look_IndexExpression : lookupRule G "IndexExpression" = some Pinned.Grammar.rule_27 :=
  lookupRule_pin 27 rfl rfl

/-! ## 2. Spellings of the parts after the first -/

/-- how a non-first path element is written -/
inductive PartSp where
  /-- `.ident` -/
  | dotIdent (b : UInt8) (x : GoString)
  /-- `.digits` -/
  | dotDigits (d : UInt8) (ds : GoString)
  /-- `[ws₁ q body q ws₂]` with `q` a backquote or a double quote; `val` is what the quoted
      literal denotes -/
  | index (ws₁ : GoString) (q : UInt8) (body : GoString) (ws₂ : GoString) (val : GoString)

def PartSp.text : PartSp → GoString
  | .dotIdent b x => [46] ++ (b :: x)
  | .dotDigits d ds => [46] ++ ([d] ++ ds)
  | .index ws₁ q body ws₂ _ => [91] ++ (ws₁ ++ (([q] ++ (body ++ [q])) ++ (ws₂ ++ [93])))

/-- the path element denoted -/
def PartSp.part : PartSp → GoString
  | .dotIdent b x => b :: x
  | .dotDigits d ds => d :: ds
  | .index _ _ _ _ val => val

def PartSp.WF : PartSp → Prop
  | .dotIdent b x => isAlpha b.toNat = true ∧ AllIn isIdc x
  | .dotDigits d ds => AllIn isDigit (d :: ds)
  | .index ws₁ q body ws₂ val => AllIn isWs ws₁ ∧ AllIn isWs ws₂ ∧ (q = 0x60 ∨ q = 0x22) ∧
      VT body ∧ (∀ c ∈ body, c ≠ q) ∧ Strconv.unquote ([q] ++ (body ++ [q])) = some val

instance PartSp.decWF (p : PartSp) : Decidable p.WF := by
  cases p <;> (unfold PartSp.WF; infer_instance)

theorem PartSp.text_vt (p : PartSp) (h : p.WF) : VT p.text := by
  cases p with
  | dotIdent b x =>
    exact (Asc.cons (by decide) (Asc.cons (isAlpha_lt h.1) (h.2.asc @isIdc_lt))).vt
  | dotDigits d ds => exact (Asc.cons (by decide) (h.asc @isDigit_lt)).vt
  | index ws₁ q body ws₂ val =>
    obtain ⟨h1, h2, hq, hb, _, _⟩ := h
    have hq' : q.toNat < 128 := by rcases hq with rfl | rfl <;> decide
    exact VT.cons (by decide) ((h1.asc @isWs_lt).appendV
      ((VT.cons hq' (hb.append (VT.cons hq' VT.nil))).append
        ((h2.asc @isWs_lt).appendV (VT.cons (by decide) VT.nil))))

/-- bytes that continue a selector: identifier bytes, `.`, `[` -/
def selCont (n : Nat) : Bool := isIdc n || n == 46 || n == 91

/-- the input cannot continue a selector -/
abbrev stopsSel (rest : GoString) : Prop := headIn selCont rest = false

theorem isDigit_idc {n : Nat} (h : isDigit n = true) : isIdc n = true := by
  have h' := inCls_range.1 h
  simp [inCls, classMatches.inRanges]; omega

theorem stopsSel_idc (h : stopsSel rest) : headIn isIdc rest = false :=
  headIn_mono (fun n hn => by simp [selCont, hn]) h

/-! ## 3. `IndexExpression`, `SelectorOrIndex` -/

theorem eats_IndexExpression {ws₁ ws₂ body val : GoString} {q : UInt8}
    (h : (PartSp.index ws₁ q body ws₂ val).WF) (hr : VT rest) :
    Eats rule (.ruleRef "IndexExpression") fr (PartSp.index ws₁ q body ws₂ val).text rest off errs
      fr (.str val) := by
  obtain ⟨h1, h2, hq, hb, hnq, hu⟩ := h
  have hq' : q.toNat < 128 := by rcases hq with rfl | rfl <;> decide
  have c4 : VT ([93] ++ rest) := VT.cons (by decide) hr
  have c3 : VT ((ws₂ ++ [93]) ++ rest) := by
    rw [List.append_assoc]; exact (h2.asc @isWs_lt).appendV c4
  have c2 : VT ((([q] ++ (body ++ [q])) ++ (ws₂ ++ [93])) ++ rest) := by
    rw [List.append_assoc]; exact (VT.cons hq' (hb.append (VT.cons hq' VT.nil))).append c3
  have c1 : VT ((ws₁ ++ (([q] ++ (body ++ [q])) ++ (ws₂ ++ [93]))) ++ rest) := by
    rw [List.append_assoc]; exact (h1.asc @isWs_lt).appendV c2
  -- ws₁ is followed by the opening quote, ws₂ by `]`
  have hstop1 : headIn isWs ((([q] ++ (body ++ [q])) ++ (ws₂ ++ [93])) ++ rest) = false := by
    rcases hq with rfl | rfl <;> rfl
  exact Eats.ref look_IndexExpression (Eats.choice_hit (Eats.action_seq
    (EatsSeq.consE (Eats.lit [91] rfl (by decide) c1)
    (EatsSeq.optWsE h1 hstop1 c2
    (EatsSeq.consE (Eats.labeled "lit"
      (eats_StringLiteral hq body val hb hnq hu c3))
    (EatsSeq.optWsE h2 rfl c4 ⟨_, EatsSeq.one (Eats.lit [93] rfl (by decide) hr)⟩))))
    (act_retLabel sem_onIndexExpression2 ..)))

theorem fails_IndexExpression (hs : VT s) (h : GoString.isPrefixOf [91] s = false) :
    Fails rule (.ruleRef "IndexExpression") fr s off errs := by
  apply Fails.ref look_IndexExpression
  -- all three alternatives (the last two are the error productions for a missing literal and
  -- a missing `]`) begin with `[`
  have hl : ∀ fr', Fails Pinned.Grammar.rule_27.shown (.lit [91] false) fr' s off errs :=
    fun _ => Fails.lit [91] rfl (by decide) hs h
  exact Fails.choice_cons (Fails.action (Fails.seq_here (hl _)))
    (Fails.choice_cons (Fails.seq_here (hl _))
      (Fails.choice_cons (Fails.seq_here (hl _)) Fails.choice_nil))

theorem eats_SelectorOrIndex (p : PartSp) (h : p.WF) (hstop : headIn isIdc rest = false)
    (hr : VT rest) :
    Eats rule (.ruleRef "SelectorOrIndex") fr p.text rest off errs fr (.str p.part) := by
  cases p with
  | dotIdent b x =>
    obtain ⟨hb, hx⟩ := h
    exact Eats.ref look_SelectorOrIndex (Eats.choice_hit (Eats.action_seq
      (EatsSeq.consE (Eats.lit [46] rfl (by decide)
        ((Asc.cons (isAlpha_lt hb) (hx.asc @isIdc_lt)).appendV hr))
        ⟨_, EatsSeq.one (Eats.labeled "ident"
          (eats_Identifier hb hx hstop hr))⟩)
      (act_retLabel sem_onSelectorOrIndex2 ..)))
  | dotDigits d ds =>
    have hda : Asc (d :: ds) := h.asc @isDigit_lt
    have hall : VT ([46] ++ ([d] ++ ds) ++ rest) := (Asc.cons (by decide) hda).appendV hr
    have hd : isAlpha d.toNat = false := by
      have h' := inCls_range.1 h.head
      simp [inCls, classMatches.inRanges]; omega
    -- alternative 1 of `SelectorOrIndex` (`.ident`): `.` then Identifier fails on the digit
    have f1 : Fails Pinned.Grammar.rule_26.shown (.action "onSelectorOrIndex2"
        (.seq [.lit [46] false, .labeled "ident" (.ruleRef "Identifier")])) []
        ([46] ++ ([d] ++ ds) ++ rest) off errs :=
      Fails.action (Fails.seq (FailsSeq.later (a := [46]) (rest := ([d] ++ ds) ++ rest)
        (Eats.lit [46] rfl (by decide) (hda.appendV hr))
        (FailsSeq.here (Fails.labeled (fails_Identifier (hda.appendV hr)
          (by simpa [headIn] using hd))))))
    -- alternative 2 (`[ "…" ]`): no `[`
    have f2 : Fails Pinned.Grammar.rule_26.shown (.action "onSelectorOrIndex7"
        (.labeled "expr" (.ruleRef "IndexExpression"))) []
        ([46] ++ ([d] ++ ds) ++ rest) off errs :=
      Fails.action (Fails.labeled (fails_IndexExpression hall rfl))
    have hstop' : headIn isDigit rest = false := headIn_mono (fun _ => isDigit_idc) hstop
    exact Eats.ref look_SelectorOrIndex (Eats.choice_next f1 (Eats.choice_next f2
      (Eats.choice_hit (Eats.action_seq
        (EatsSeq.consE (Eats.lit [46] rfl (by decide) (hda.appendV hr))
          ⟨_, EatsSeq.one (Eats.labeled "idx"
            (Eats.plus (Eats.cls (isDigit_lt h.head) h.head (hda.tail.appendV hr))
              (EatsStar.cls (by decide) ds hda.tail hr h.tail hstop')))⟩)
        (by rw [act_of_sem sem_onSelectorOrIndex10]; rfl)))))
  | index ws₁ q body ws₂ val =>
    have hall : VT ((PartSp.index ws₁ q body ws₂ val).text ++ rest) :=
      (PartSp.text_vt _ h).append hr
    have f1 : Fails Pinned.Grammar.rule_26.shown (.action "onSelectorOrIndex2"
        (.seq [.lit [46] false, .labeled "ident" (.ruleRef "Identifier")])) []
        ((PartSp.index ws₁ q body ws₂ val).text ++ rest) off errs :=
      Fails.action (Fails.seq_here (Fails.lit [46] rfl (by decide) hall rfl))
    exact Eats.ref look_SelectorOrIndex (Eats.choice_next f1 (Eats.choice_hit
      (Eats.action (Eats.labeled "expr" (eats_IndexExpression h hr))
        (act_retLabel sem_onSelectorOrIndex7 ..))))

theorem fails_SelectorOrIndex (hs : VT s) (h : stopsSel s) :
    Fails rule (.ruleRef "SelectorOrIndex") fr s off errs := by
  have hne : ∀ {q : UInt8}, selCont q.toNat = true → GoString.isPrefixOf [q] s = false := by
    intro q hq
    cases s with
    | nil => rfl
    | cons b t =>
      refine not_prefix_of_ne (fun e => ?_) t
      have h' : selCont b.toNat = false := h
      rw [e, hq] at h'
      cases h'
  have hl : ∀ fr', Fails Pinned.Grammar.rule_26.shown (.lit [46] false) fr' s off errs :=
    fun _ => Fails.lit [46] rfl (by decide) hs (hne (by decide))
  exact Fails.ref look_SelectorOrIndex
    (Fails.choice_cons (Fails.action (Fails.seq_here (hl _)))
      (Fails.choice_cons (Fails.action (Fails.labeled
          (fails_IndexExpression hs (hne (q := 91) (by decide)))))
        (Fails.choice_cons (Fails.action (Fails.seq_here (hl _))) Fails.choice_nil)))


/-! ## 4. `Selector`, bexpr spelling -/

def partsText (ps : List PartSp) : GoString := ps.flatMap PartSp.text

theorem partsText_vt (ps : List PartSp) (h : ∀ p ∈ ps, p.WF) : VT (partsText ps) := by
  induction ps with
  | nil => exact VT.nil
  | cons p ps ih =>
    show VT (p.text ++ partsText ps)
    exact (p.text_vt (h p (List.mem_cons_self ..))).append
      (ih fun q hq => h q (List.mem_cons_of_mem _ hq))

/-- what follows a part is not an identifier byte: the next part starts with `.` or `[` -/
theorem partsText_stop (ps : List PartSp) (hstop : stopsSel rest) :
    headIn isIdc (partsText ps ++ rest) = false := by
  cases ps with
  | nil => exact stopsSel_idc hstop
  | cons p ps =>
    show headIn isIdc (p.text ++ partsText ps ++ rest) = false
    cases p <;> rfl

theorem eatsStar_parts (ps : List PartSp) (h : ∀ p ∈ ps, p.WF) (hstop : stopsSel rest)
    (hr : VT rest) :
    EatsStar rule (.ruleRef "SelectorOrIndex") (partsText ps) rest off errs
      ((ps.map PartSp.part).map .str) := by
  induction ps generalizing off with
  | nil => exact EatsStar.stop (fails_SelectorOrIndex hr hstop)
  | cons p ps ih =>
    have hps : ∀ q ∈ ps, q.WF := fun q hq => h q (List.mem_cons_of_mem _ hq)
    exact EatsStar.more (a := p.text) (b := partsText ps)
      (eats_SelectorOrIndex p (h p (List.mem_cons_self ..)) (partsText_stop ps hstop)
        ((partsText_vt ps hps).append hr))
      (ih hps)

/-- a bexpr selector spelling: first identifier `b :: x`, then the parts -/
structure SelSp where
  b : UInt8
  x : GoString
  parts : List PartSp

def SelSp.text (σ : SelSp) : GoString := (σ.b :: σ.x) ++ partsText σ.parts
def SelSp.path (σ : SelSp) : List GoString := (σ.b :: σ.x) :: σ.parts.map PartSp.part
def SelSp.WF (σ : SelSp) : Prop :=
  isAlpha σ.b.toNat = true ∧ AllIn isIdc σ.x ∧ ∀ p ∈ σ.parts, p.WF

instance SelSp.decWF (σ : SelSp) : Decidable σ.WF := by unfold SelSp.WF; infer_instance

theorem SelSp.text_vt (σ : SelSp) (h : σ.WF) : VT σ.text :=
  (Asc.cons (isAlpha_lt h.1) (h.2.1.asc @isIdc_lt)).appendV (partsText_vt _ h.2.2)

theorem asStrList_str (l : List GoString) : asStrList (l.map PVal.str) = some l := by
  induction l with
  | nil => rfl
  | cons p ps ih => simp [asStrList, ih]

theorem eats_Selector_bexpr (σ : SelSp) (h : σ.WF) (hstop : stopsSel rest) (hr : VT rest) :
    Eats rule (.ruleRef "Selector") fr σ.text rest off errs fr
      (.sel { ty := .bexpr, path := σ.path }) := by
  obtain ⟨hb, hx, hps⟩ := h
  refine Eats.ref look_Selector (Eats.choice_hit (Eats.action_seq
    (EatsSeq.consE (Eats.labeled "first"
      (eats_Identifier hb hx (partsText_stop σ.parts hstop) ((partsText_vt _ hps).append hr)))
      ⟨_, EatsSeq.one (Eats.labeled "rest"
        (Eats.star (eatsStar_parts σ.parts hps hstop hr)))⟩) ?_))
  rw [act_of_sem sem_onSelector2]
  -- `List.map_map` would fuse `(ps.map part).map .str`, the shape `asStrList_str` is stated for
  simp [-List.map_map, runActionSem, Frame.get, List.find?, restStrings, asStrList_str, SelSp.path]


/-! ## 5. Classes with Unicode classes; `Selector`, JSON-pointer spelling -/

section general_class
variable {chars ranges : List Nat} {classes : List String} {p : Nat → Bool}

/-- the input ends, or continues with an ASCII byte outside the class -/
def stopsAt (p : Nat → Bool) (s : GoString) : Prop :=
  match s with
  | [] => True
  | b :: _ => b.toNat < 128 ∧ p b.toNat = false

theorem Fails.cls_stop (hcm : ∀ n, classMatches E chars ranges classes n = some (p n))
    (h : stopsAt p s) :
    Fails rule (.charClass chars ranges classes false false) fr s off errs := by
  refine Fails.clsG hcm ?_
  cases s with
  | nil => exact .inl rfl
  | cons b t => exact .inr ⟨[b], _, t, rfl, .asc h.1, h.2⟩

theorem EatsStar.clsG (hcm : ∀ n, classMatches E chars ranges classes n = some (p n))
    (x : GoString) (hx : RunesIn p x) (hr : VT rest) (hstop : stopsAt p rest) :
    ∃ vs, EatsStar rule (.charClass chars ranges classes false false) x rest off errs vs := by
  refine RunesIn.induction_enc (motive := fun x => ∀ off, ∃ vs,
    EatsStar rule (.charClass chars ranges classes false false) x rest off errs vs) ?_ ?_ hx off
  · exact fun off => ⟨_, EatsStar.stop (Fails.cls_stop hcm hstop)⟩
  · intro y r t hy hp ht ih off
    obtain ⟨vs, hvs⟩ := ih (off + y.length)
    exact ⟨_, EatsStar.more (Eats.clsG (fr := []) hcm hy hp (ht.vt.append hr)) hvs⟩

theorem Eats.plusG (hcm : ∀ n, classMatches E chars ranges classes n = some (p n))
    (x : GoString) (hx : RunesIn p x) (hne : x ≠ []) (hr : VT rest) (hstop : stopsAt p rest) :
    ∃ v, Eats rule (.oneOrMore (.charClass chars ranges classes false false)) fr x rest off errs
      fr v := by
  rcases hx.uncons with rfl | ⟨y, r, t, rfl, hy, hp, ht⟩
  · exact absurd rfl hne
  · obtain ⟨vs, hvs⟩ := EatsStar.clsG (rule := rule) (off := off + y.length) (errs := errs)
      hcm t ht hr hstop
    exact ⟨_, Eats.plus (Eats.clsG hcm hy hp (ht.vt.append hr)) hvs⟩

end general_class

/-- the runes of `[\pL\pN-_.~:|]`: a letter or a number by Go's `unicode.L` / `unicode.N` tables,
    or one of `-_.~:|` -/
def segRune (n : Nat) : Bool :=
  [45, 95, 46, 126, 58, 124].contains n || (Unicode.isL n || Unicode.isN n)

theorem segClass_all (n : Nat) :
    classMatches E [45, 95, 46, 126, 58, 124] [] ["L", "N"] n = some (segRune n) := by
  have hL : E.classIn "L" n = some (Unicode.isL n) := rfl
  have hN : E.classIn "N" n = some (Unicode.isN n) := rfl
  rw [classMatches_eq]
  unfold segRune
  show (if ([45, 95, 46, 126, 58, 124].contains n || false) = true then _ else _) = _
  rw [Bool.or_false]
  cases [45, 95, 46, 126, 58, 124].contains n
  · simp only [classMatches.inClasses, hL, hN, Bool.false_eq_true, if_false, Bool.false_or]
    cases Unicode.isL n <;> cases Unicode.isN n <;> rfl
  · rfl

/-- ASCII members of `[\pL\pN-_.~:|]` -/
def segChar (n : Nat) : Bool :=
  (97 ≤ n && n ≤ 122) || (65 ≤ n && n ≤ 90) || (48 ≤ n && n ≤ 57) ||
    n == 45 || n == 95 || n == 46 || n == 126 || n == 58 || n == 124

theorem segRune_ascii : ∀ n, n < 128 → segRune n = segChar n := by
  decide +kernel

/-- a pointer segment as written: non-empty valid UTF-8 all of whose runes are in
    `[\pL\pN-_.~:|]` -/
def SegOK (seg : GoString) : Prop := seg ≠ [] ∧ RunesIn segRune seg

instance (seg : GoString) : Decidable (SegOK seg) := by unfold SegOK; infer_instance

theorem SegOK.of_ascii {seg : GoString} (hne : seg ≠ []) (ha : Asc seg) (hc : AllIn segChar seg) :
    SegOK seg :=
  ⟨hne, RunesIn.of_asc fun b hb => ⟨ha b hb, by rw [segRune_ascii _ (ha b hb)]; exact hc b hb⟩⟩

def segsText (segs : List GoString) : GoString := segs.flatMap fun g => [47] ++ g

theorem segsText_vt (segs : List GoString) (h : ∀ g ∈ segs, SegOK g) : VT (segsText segs) := by
  induction segs with
  | nil => exact VT.nil
  | cons g gs ih =>
    show VT (([47] ++ g) ++ segsText gs)
    exact (VT.cons (by decide) (h g (List.mem_cons_self ..)).2.vt).append
      (ih fun q hq => h q (List.mem_cons_of_mem _ hq))


/-- `JsonPointerSegment <- '/' [\pL\pN-_.~:|]+` returns the segment text -/
theorem eats_JsonPointerSegment {g : GoString} (hg : SegOK g) (hstop : stopsAt segRune rest)
    (hr : VT rest) :
    Eats rule (.ruleRef "JsonPointerSegment") fr ([47] ++ g) rest off errs fr (.str g) := by
  obtain ⟨hne, hgr⟩ := hg
  obtain ⟨v, hv⟩ := Eats.plusG (rule := Pinned.Grammar.rule_24.shown) (fr := [])
    (off := off + ([47] : GoString).length) (errs := errs) segClass_all g hgr hne hr hstop
  exact Eats.ref look_JsonPointerSegment (Eats.action_seq
    (EatsSeq.consE (Eats.lit [47] rfl (by decide) (hgr.vt.append hr))
      ⟨_, EatsSeq.one (Eats.labeled "ident" hv)⟩)
    (by rw [act_of_sem sem_onJsonPointerSegment1]; rfl))

theorem fails_JsonPointerSegment (hs : VT s) (h : GoString.isPrefixOf [47] s = false) :
    Fails rule (.ruleRef "JsonPointerSegment") fr s off errs :=
  Fails.ref look_JsonPointerSegment (Fails.action (Fails.seq_here
    (Fails.lit [47] rfl (by decide) hs h)))

theorem eatsStar_segs (segs : List GoString) (h : ∀ g ∈ segs, SegOK g) (hr : VT rest) :
    EatsStar rule (.ruleRef "JsonPointerSegment") (segsText segs) ([34] ++ rest) off errs
      (segs.map .str) := by
  have hq : VT ([34] ++ rest) := VT.cons (by decide) hr
  induction segs generalizing off with
  | nil => exact EatsStar.stop (fails_JsonPointerSegment hq rfl)
  | cons g gs ih =>
    have hgs : ∀ q ∈ gs, SegOK q := fun q hq => h q (List.mem_cons_of_mem _ hq)
    have hstop : stopsAt segRune (segsText gs ++ ([34] ++ rest)) := by
      cases gs with
      | nil => exact ⟨by decide, segRune_ascii 34 (by decide)⟩
      | cons g' gs' => exact ⟨by decide, segRune_ascii 47 (by decide)⟩
    exact EatsStar.more (a := [47] ++ g) (b := segsText gs)
      (eats_JsonPointerSegment (h g (List.mem_cons_self ..)) hstop
        ((segsText_vt gs hgs).append hq))
      (ih hgs)

/-- The rule `Selector` on `"/seg/seg…"` yields the JSON-pointer selector with path
    `ptrParse segs` (`pointerstructure.Parse`: in each segment `~1` ↦ `/`, `~0` ↦ `~`); `segs = []`
    is the text `""`. -/
theorem eats_Selector_segs (segs : List GoString) (h : ∀ g ∈ segs, SegOK g) (hr : VT rest) :
    Eats rule (.ruleRef "Selector") fr ([34] ++ (segsText segs ++ [34])) rest off errs fr
      (.sel { ty := .jsonPointer, path := ptrParse segs }) := by
  have hsa := segsText_vt segs h
  have hall : VT ([34] ++ (segsText segs ++ [34]) ++ rest) :=
    (VT.cons (by decide) (hsa.append (VT.cons (by decide) VT.nil))).append hr
  -- alternative 1 fails: `"` is not a letter
  have f1 : Fails Pinned.Grammar.rule_23.shown (.action "onSelector2" (.seq [
      .labeled "first" (.ruleRef "Identifier"),
      .labeled "rest" (.zeroOrMore (.ruleRef "SelectorOrIndex"))])) []
      ([34] ++ (segsText segs ++ [34]) ++ rest) off errs :=
    Fails.action (Fails.seq_here (Fails.labeled (fails_Identifier hall rfl)))
  refine Eats.ref look_Selector (Eats.choice_next f1 (Eats.choice_hit (Eats.action_seq
    (EatsSeq.consE (Eats.lit [34] rfl (by decide)
      ((hsa.append (VT.cons (by decide) VT.nil)).append hr))
    (EatsSeq.consE (Eats.labeled "ptrsegs"
      (Eats.star (eatsStar_segs segs h hr)))
      ⟨_, EatsSeq.one (Eats.lit [34] rfl (by decide) hr)⟩)) ?_)))
  rw [act_of_sem sem_onSelector9]
  simp [runActionSem, Frame.get, List.find?, restStrings, asStrList_str]

/-- The JSON-pointer spelling of a path: `"` then `/` + RFC 6901-escaped element, for each
    element, then `"`. -/
def pointerText (path : List GoString) : GoString :=
  [34] ++ (segsText (path.map ptrEscape) ++ [34])

theorem pointerText_vt (path : List GoString)
    (h : ∀ p ∈ path, SegOK (ptrEscape p)) : VT (pointerText path) := by
  refine VT.cons (by decide) ((segsText_vt _ ?_).append (VT.cons (by decide) VT.nil))
  intro g hg
  obtain ⟨p, hp, rfl⟩ := List.mem_map.1 hg
  exact h p hp

/-- `"/a/b~1c"` denotes the path `[a, b/c]`: the rule `Selector` on the pointer spelling of
    `path` yields `⟨.jsonPointer, path⟩`.  RESTRICTIONS: the path is not empty (`ptrParse [] = [[]]`) and (the
    grammar's) every escaped element is non-empty valid UTF-8 over `[\pL\pN-_.~:|]` (`SegOK`). -/
theorem eats_Selector_pointer (path : List GoString) (hne : path ≠ [])
    (h : ∀ p ∈ path, SegOK (ptrEscape p)) (hr : VT rest) :
    Eats rule (.ruleRef "Selector") fr (pointerText path) rest off errs fr
      (.sel { ty := .jsonPointer, path := path }) := by
  have := eats_Selector_segs (rule := rule) (fr := fr) (off := off) (errs := errs)
    (path.map ptrEscape) (by
      intro g hg
      obtain ⟨p, hp, rfl⟩ := List.mem_map.1 hg
      exact h p hp) hr
  rw [pointer_parse_roundtrip path hne] at this
  exact this

end Bexpr.Proofs.RoundTrip
