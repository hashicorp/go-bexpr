/-
  Well-formed data (`Go.WF`) stay well-formed along `pointerstructure.Get`, `getValue`, the
  `json.Number` narrowing and `reflect.Indirect`, and on well-formed values the reflect accessors
  used by the match operators, the quantifier loop and `(*Filter).Execute` do not panic.
-/
import Bexpr.Go.WF
import Bexpr.Eval.Create
import Proofs.Keys

namespace Bexpr.Proofs.Total
open Bexpr Bexpr.Go Bexpr.Eval

-- `wf` compares static types with `==`; the model derives `BEq` and `DecidableEq` only
deriving instance ReflBEq, LawfulBEq for GoType

/-! ## Well-formedness of `reflect.Value`s and options -/

/-- A `reflect.Value` is well-formed if it is the zero Value or holds a well-formed value. -/
def RVwf : RV → Bool
  | none => true
  | some v => v.wf

/-- Options are well-formed: the unknown value (if configured) and the value of every local
    variable are well-formed `interface{}` values. -/
structure OptsWf (o : Opts) : Prop where
  unknown : ∀ u, o.unknown = some u → Any.wf u = true
  locals : ∀ lv, lv ∈ o.locals → Any.wf lv.value = true

theorem typeOf_kind (v : GoVal) : v.typeOf.kind = v.kind := by cases v <;> rfl

theorem wf_kind_ne_interface (v : GoVal) (h : v.wf = true) (hn : ∀ x, v ≠ .iface x) :
    v.kind ≠ .interface := by
  cases v with
  | iface x => exact absurd rfl (hn x)
  -- the stored kind passes a test of `wf` that `Interface` fails
  | int | uint | float | complex | other => intro hk; cases hk; cases h
  | _ => nofun

theorem Any_wf_some {v : GoVal} : Any.wf (some v) = true ↔ v.kind ≠ .interface ∧ v.wf = true := by
  simp [Any.wf]

theorem toAny_wf (v : GoVal) (h : v.wf = true) : Any.wf v.toAny = true := by
  cases v with
  | iface x =>
    cases x with
    | none => rfl
    | some y => exact h
  | _ => exact Any_wf_some.2 ⟨wf_kind_ne_interface _ h nofun, h⟩

theorem Any_wf_RVwf {v : Any} (h : Any.wf v = true) : RVwf (valueOf v) = true := by
  cases v with
  | none => rfl
  | some v => exact (Any_wf_some.mp h).2

/-! ## Sub-values of well-formed values -/

theorem wfList_mem {elem : GoType} {xs : List GoVal} {x : GoVal}
    (h : wfList elem xs = true) (hx : x ∈ xs) : x.typeOf = elem ∧ x.wf = true := by
  induction xs with
  | nil => cases hx
  | cons y ys ih =>
    simp only [wfList, Bool.and_eq_true, beq_iff_eq] at h
    rcases List.mem_cons.mp hx with rfl | hx
    · exact ⟨h.1.1, h.1.2⟩
    · exact ih h.2 hx

theorem wfEntries_mem {kt vt : GoType} {es : List (GoVal × GoVal)} {e : GoVal × GoVal}
    (h : wfEntries kt vt es = true) (he : e ∈ es) :
    e.1.typeOf = kt ∧ (e.1.wf || isNEIfaceKey e.1) = true ∧ e.2.typeOf = vt ∧ e.2.wf = true := by
  induction es with
  | nil => cases he
  | cons y ys ih =>
    obtain ⟨k, v⟩ := y
    simp only [wfEntries, Bool.and_eq_true, beq_iff_eq] at h
    rcases List.mem_cons.mp he with rfl | he
    · exact ⟨h.1.1.1.1, h.1.1.1.2, h.1.1.2, h.1.2⟩
    · exact ih h.2 he

theorem wfFields_mem {fs : List (Field × GoVal)} {e : Field × GoVal}
    (h : wfFields fs = true) (he : e ∈ fs) : e.2.wf = true := by
  induction fs with
  | nil => cases he
  | cons y ys ih =>
    obtain ⟨f, v⟩ := y
    simp only [wfFields, Bool.and_eq_true] at h
    rcases List.mem_cons.mp he with rfl | he
    · exact h.1
    · exact ih h.2 he

theorem wf_iface (v : GoVal) (h : (GoVal.iface (some v)).wf = true) : v.wf = true :=
  (Bool.and_eq_true_iff.mp h).2

theorem wf_ptr (e : GoType) (v : GoVal) (h : (GoVal.ptr e (some v)).wf = true) : v.wf = true :=
  (Bool.and_eq_true_iff.mp h).2

theorem unwrapForStep_wf (cur : RV) (w : GoVal) (h : RVwf cur = true)
    (hs : unwrapForStep cur = some w) : w.wf = true := by
  cases cur with
  | none => cases hs
  | some v => exact Keys.unwrapForStep_keeps (P := (·.wf = true)) wf_iface wf_ptr h hs

/-! ## `pointerstructure.Get` returns well-formed values -/

theorem children_wf {w x : GoVal} (hw : w.wf = true) (hx : x ∈ Keys.children w) :
    x.wf = true := by
  cases w with
  | map n kt vt nl es =>
    obtain ⟨e, he, rfl⟩ := List.mem_map.mp hx
    exact (wfEntries_mem (Bool.and_eq_true_iff.mp hw).1 he).2.2.2
  | slice | array => exact (wfList_mem hw hx).2
  | struct n fs =>
    obtain ⟨e, he, rfl⟩ := List.mem_map.mp hx
    exact wfFields_mem hw he
  | _ => cases hx

theorem hook_apply_wf (hk : Hook) (v w : GoVal) (h : v.wf = true) (ha : hk.apply v = some w) :
    w.wf = true := by
  cases hk with
  | off => simp [Hook.apply] at ha; subst ha; exact h
  | identity => simp [Hook.apply] at ha; subst ha; exact h
  | unwrap =>
    simp only [Hook.apply] at ha
    split at ha
    · rename_i fld f rest hs
      cases ha
      have := Keys.stripIP_keeps (P := (·.wf = true)) wf_iface wf_ptr h hs
      simp only [GoVal.wf, wfFields, Bool.and_eq_true] at this
      exact this.1
    · cases ha; exact h
  | const42 => simp [Hook.apply] at ha; subst ha; rfl
  | nilret => simp [Hook.apply] at ha

theorem getStep_wf (cfg : Config) (part : GoString) (cur r : RV) (h : RVwf cur = true)
    (hg : getStep cfg part cur = .ok r) : RVwf r = true := by
  obtain ⟨w, x, v', hu, hx, rfl, hv⟩ := Keys.getStep_ok _ _ _ _ hg
  have hxw := children_wf (unwrapForStep_wf _ _ h hu) hx
  rcases hv with rfl | hv
  · exact hxw
  · exact hook_apply_wf _ _ _ hxw hv

theorem getLoop_wf (cfg : Config) (parts : List GoString) (cur r : RV) (h : RVwf cur = true)
    (hg : getLoop cfg parts cur = .ok r) : RVwf r = true := by
  induction parts generalizing cur with
  | nil => simp only [getLoop] at hg; cases hg; exact h
  | cons p ps ih =>
    simp only [getLoop] at hg
    split at hg
    · cases hg
    · rename_i cur' hs
      exact ih cur' (getStep_wf _ _ _ _ h hs) hg

theorem get_wf (cfg : Config) (parts : List GoString) (v r : Any) (h : Any.wf v = true)
    (hg : get cfg parts v = .ok r) : Any.wf r = true := by
  unfold Go.get at hg
  split at hg
  · cases hg; exact h
  · split at hg
    · cases hg
    · cases hg
    · rename_i x hx
      cases hg
      exact toAny_wf _ (getLoop_wf _ _ _ _ (Any_wf_RVwf h) hx)

/-! ## `getValue`, `json.Number` narrowing, `reflect.Indirect` -/

theorem resolveLocals_inl (ls : List LocalVar) (path : List GoString) (v : Any)
    (hr : resolveLocals ls path = .ok (.inl v)) :
    ∃ lv, lv ∈ ls ∧ lv.path.isEmpty = true ∧ lv.value = v := by
  induction ls generalizing path with
  | nil => cases path <;> cases hr
  | cons lv older ih =>
    have tail : (∃ lv', lv' ∈ older ∧ lv'.path.isEmpty = true ∧ lv'.value = v) →
        ∃ lv', lv' ∈ lv :: older ∧ lv'.path.isEmpty = true ∧ lv'.value = v :=
      fun ⟨lv', hm, h⟩ => ⟨lv', .tail _ hm, h⟩
    unfold resolveLocals at hr
    split at hr
    · cases hr
    · split at hr
      · split at hr
        · next hp =>
          split at hr
          · cases hr
          · cases hr; exact ⟨lv, .head _, hp, rfl⟩
        · exact tail (ih _ hr)
      · exact tail (ih _ hr)

theorem getValue_wf (o : Opts) (d : Any) (path : List GoString) (v : Any)
    (ho : OptsWf o) (hd : Any.wf d = true) (hg : getValue o d path = .present v) :
    Any.wf v = true := by
  unfold getValue at hg
  split at hg
  · cases hg
  · rename_i x hx
    cases hg
    obtain ⟨lv, hm, _, rfl⟩ := resolveLocals_inl _ _ _ hx
    exact ho.locals lv (List.mem_reverse.mp hm)
  · split at hg
    · rename_i x hx
      cases hg
      exact get_wf _ _ _ _ hd hx
    · cases hg
    · cases hg
    · split at hg
      · rename_i u hu
        cases hg
        exact ho.unknown _ hu
      · split at hg <;> cases hg
    · cases hg

theorem narrowJsonNumber_wf (v w : Any) (h : Any.wf v = true)
    (hn : narrowJsonNumber v = .ok w) : Any.wf w = true := by
  unfold narrowJsonNumber at hn
  split at hn
  · split at hn
    · cases hn; rfl
    · split at hn
      · cases hn; rfl
      · cases hn
  · cases hn; exact h

theorem indirect_wf (v : Any) (h : Any.wf v = true) : RVwf (indirect (valueOf v)) = true := by
  have h' := Any_wf_RVwf h
  unfold indirect
  split
  · rename_i e x hx
    rw [hx] at h'
    cases x with
    | none => rfl
    | some y =>
      simp only [RVwf, GoVal.wf, Bool.and_eq_true] at h'
      exact h'.2
  · exact h'

theorem derefValue_wf (v it : GoVal) (h : v.wf = true) (hd : derefValue v = some it) :
    it.wf = true ∧ it.typeOf = v.typeOf.deref := by
  fun_induction derefValue v with
  | case1 e v ih =>
    simp only [GoVal.wf, Bool.and_eq_true, beq_iff_eq] at h
    have := ih h.2 hd
    refine ⟨this.1, ?_⟩
    rw [this.2, h.1]
    simp [GoVal.typeOf, GoType.deref]
  | case2 => simp at hd
  | case3 v h1 h2 =>
    simp at hd; subst hd
    refine ⟨h, ?_⟩
    cases v with
    | ptr e x =>
      cases x with
      | none => exact absurd rfl (h2 e)
      | some y => exact absurd rfl (h1 e y)
    | _ => rfl

/-! ## `applyEq` on a well-formed value and a literal coerced for its kind -/

/-- the constructor of a literal is the one `primitiveEqualityFn(k)` asserts -/
def litFits (k : Kind) : Lit → Bool
  | .bool _ => k == .bool
  | .int _ => k.isInt
  | .uint _ => k.isUint && k != .uintptr
  | .f32 _ => k == .float32
  | .f64 _ => k == .float64
  | .str _ => !(k == .bool || k.isInt || (k.isUint && k != .uintptr) || k == .float32 ||
      k == .float64)

theorem coerceLit_fits (raw : GoString) (k : Kind) (lit : Lit)
    (h : coerceLit raw k = .ok lit) : litFits k lit = true := by
  have conv {α : Type} {r : Except Strconv.PErr α} {f : α → Lit}
      (h : (match r with
        | .ok a => .ok (f a)
        | .error .syntax => .error .syntax
        | .error .range => .error .range : Except CoerceErr Lit) = .ok lit) : ∃ a, lit = f a := by
    split at h
    · cases h; exact ⟨_, rfl⟩
    · cases h
    · cases h
  unfold coerceLit at h
  simp only [] at h
  -- the `if` chain is walked by rewriting: `split at h` is slow to check on it
  by_cases h1 : (k == .bool) = true
  · rw [if_pos h1] at h; obtain ⟨a, rfl⟩ := conv h; exact h1
  by_cases h2 : k.isInt = true
  · rw [if_neg h1, if_pos h2] at h; obtain ⟨a, rfl⟩ := conv h; exact h2
  by_cases h3 : (k.isUint && k != .uintptr) = true
  · rw [if_neg h1, if_neg h2, if_pos h3] at h; obtain ⟨a, rfl⟩ := conv h; exact h3
  by_cases h4 : (k == .float32) = true
  · rw [if_neg h1, if_neg h2, if_neg h3, if_pos h4] at h; obtain ⟨a, rfl⟩ := conv h; exact h4
  by_cases h5 : (k == .float64) = true
  · rw [if_neg h1, if_neg h2, if_neg h3, if_neg h4, if_pos h5] at h
    obtain ⟨a, rfl⟩ := conv h; exact h5
  · rw [if_neg h1, if_neg h2, if_neg h3, if_neg h4, if_neg h5] at h
    cases h
    simp only [litFits, Bool.not_eq_true] at h1 h2 h3 h4 h5 ⊢
    rw [h1, h2, h3, h4, h5]; rfl

theorem _root_.Bexpr.Go.Kind.isUint_of_isInt {k : Kind} (h : k.isInt = true) : k.isUint = false := by
  cases k <;> first | rfl | cases h

theorem applyEq_int {k : Kind} (hk : k.isInt = true) (a : Int) (k' : Kind) (n : String) (i : Int) :
    applyEq k (.int a) (some (.int k' n i)) = some (some (a == i)) := by
  have hb : ¬(k == .bool) = true := fun h => by cases eq_of_beq h; cases hk
  unfold applyEq
  rw [if_neg hb, if_pos hk]

theorem applyEq_uint {k : Kind} (hk : k.isUint = true) (a : Nat) (k' : Kind) (n : String)
    (i : Nat) : applyEq k (.uint a) (some (.uint k' n i)) = some (some (a == i)) := by
  have hb : ¬(k == .bool) = true := fun h => by cases eq_of_beq h; cases hk
  have hi : ¬k.isInt = true := fun h => by rw [Kind.isUint_of_isInt h] at hk; cases hk
  unfold applyEq
  rw [if_neg hb, if_neg hi, if_pos hk]

/-- The core of C09.  The kind stored in a value stays a variable: `wf` gives its class, and the
    class decides every test `applyEq` and `litFits` make. -/
theorem applyEq_ne_none (v : GoVal) (lit : Lit) (hwf : v.wf = true)
    (hf : litFits v.kind lit = true) (he : hasEqFn v.kind = true) :
    applyEq v.kind lit (some v) ≠ none := by
  cases v with
  | bool n b => cases lit with | bool a => nofun | _ => cases hf
  | str n s => cases lit with | str a => nofun | _ => cases hf
  | int k n i =>
    have hi : k.isInt = true := hwf
    cases lit with
    | int a => rw [GoVal.kind, applyEq_int hi]; nofun
    | bool | f32 | f64 => cases eq_of_beq hf; cases hi
    | uint => rw [litFits, GoVal.kind, Kind.isUint_of_isInt hi] at hf; cases hf
    | str => simp [litFits, GoVal.kind, hi] at hf
  | uint k n i =>
    have hu : k.isUint = true := hwf
    cases lit with
    | uint a => rw [GoVal.kind, applyEq_uint hu]; nofun
    | bool | f32 | f64 => cases eq_of_beq hf; cases hu
    | int => rw [Kind.isUint_of_isInt (k := k) hf] at hu; cases hu
    | str =>
      -- `uintptr` has no equality function; for the other kinds a `uint` literal was coerced
      by_cases hp : k = .uintptr
      · subst hp; cases he
      · simp [litFits, GoVal.kind, hu, hp] at hf
  | float k n i =>
    have hk : k = .float32 ∨ k = .float64 := by simpa [GoVal.wf] using hwf
    rcases hk with rfl | rfl
    · cases lit with | f32 a => nofun | _ => cases hf
    · cases lit with | f64 a => nofun | _ => cases hf
  | complex k n =>
    have hk : k = .complex64 ∨ k = .complex128 := by simpa [GoVal.wf] using hwf
    rcases hk with rfl | rfl <;> cases he
  | other k n b =>
    have hk : (k = .chan ∨ k = .func) ∨ k = .unsafePointer := by simpa [GoVal.wf] using hwf
    rcases hk with (rfl | rfl) | rfl <;> cases he
  | ptr | slice | array | map | struct | iface => cases he

/-! ## The match operators do not panic on well-formed values -/

theorem negate_ne_panic {o : Out} (h : o ≠ .panic) : negate o ≠ .panic := by
  cases o <;> simp [negate] at *

theorem doMatchEqual_no_panic (raw : GoString) (value : RV) (h : RVwf value = true) :
    doMatchEqual (some raw) value ≠ .panic := by
  unfold doMatchEqual
  simp only []
  split
  · nofun
  · next he =>
    split
    · nofun
    · next lit hl =>
      cases value with
      | none => exact absurd rfl he
      | some v =>
        have := applyEq_ne_none v lit h (coerceLit_fits _ _ _ hl) (by simpa [RV.kind] using he)
        split
        · contradiction
        · nofun
        · nofun

theorem inIfaceLoop_no_panic (raw : GoString) (xs : List GoVal)
    (h : ∀ x, x ∈ xs → x.wf = true) : inIfaceLoop raw xs ≠ .panic := by
  induction xs with
  | nil => nofun
  | cons x xs ih =>
    have ih' := ih (fun y hy => h y (List.mem_cons_of_mem _ hy))
    have hx := h x List.mem_cons_self
    unfold inIfaceLoop
    simp only []
    split
    · exact ih'
    · next it hit =>
      have hitwf : it.wf = true := by
        split at hit
        · simp only [GoVal.wf, Bool.and_eq_true] at hx
          exact (derefValue_wf _ _ hx.2 hit).1
        · cases hit
      split
      · exact ih'
      · nofun
      · next lit hl =>
        split
        · nofun
        · next he =>
          have := applyEq_ne_none it lit hitwf (coerceLit_fits _ _ _ hl) (by simpa using he)
          split
          · contradiction
          · nofun
          · nofun
          · exact ih'

/-- In the concrete-element loop every (dereferenced) element of a well-formed slice with
    element type `elem` has kind `elem.deref.kind`, the kind the literal was coerced for. -/
theorem inConcreteLoop_no_panic (k : Kind) (lit : Lit) (elem : GoType) (xs : List GoVal)
    (h : wfList elem xs = true) (hk : k = elem.deref.kind) (hf : litFits k lit = true)
    (he : hasEqFn k = true) : inConcreteLoop k lit xs ≠ .panic := by
  induction xs with
  | nil => nofun
  | cons x xs ih =>
    have hx := wfList_mem h (List.mem_cons_self)
    have hrest : wfList elem xs = true := by
      simp only [wfList, Bool.and_eq_true] at h; exact h.2
    have ih' := ih hrest
    unfold inConcreteLoop
    split
    · exact ih'
    · next item hd =>
      have ⟨hw, ht⟩ := derefValue_wf _ _ hx.2 hd
      have hkind : item.kind = k := by rw [← typeOf_kind, ht, hx.1, hk]
      subst hkind
      have := applyEq_ne_none item lit hw hf he
      split
      · contradiction
      · nofun
      · nofun
      · exact ih'

theorem inElems_no_panic (raw : GoString) (elem : GoType) (xs : List GoVal)
    (h : wfList elem xs = true) : doMatchIn.inElems raw elem xs ≠ .panic := by
  unfold doMatchIn.inElems
  simp only []
  split
  · exact inIfaceLoop_no_panic _ _ (fun x hx => (wfList_mem h hx).2)
  · split
    · simp
    · split
      · simp
      · rename_i lit hl
        split
        · simp
        · rename_i he
          exact inConcreteLoop_no_panic _ _ elem _ h rfl (coerceLit_fits _ _ _ hl)
            (by simpa using he)

theorem doMatchIn_no_panic (raw : GoString) (value : RV) (h : RVwf value = true) :
    doMatchIn (some raw) value ≠ .panic := by
  unfold doMatchIn
  simp only []
  split
  · simp
  · split
    · split
      · simp
      · split <;> simp
    · simp only [RVwf, GoVal.wf] at h
      exact inElems_no_panic _ _ _ h
    · simp only [RVwf, GoVal.wf] at h
      exact inElems_no_panic _ _ _ h
    · simp
    · simp

theorem rvLen_ne_none (value : RV) (h : RVwf value = true)
    (hk : value.kind = .array ∨ value.kind = .chan ∨ value.kind = .map ∨ value.kind = .slice ∨
      value.kind = .string) : rvLen value ≠ none := by
  cases value with
  | none => rcases hk with hk | hk | hk | hk | hk <;> cases hk
  | some v =>
    cases v with
    | slice | array | map | str => nofun
    | other k n b =>
      -- well-formed: chan, func or unsafe.Pointer, of which chan has a length
      rcases hk with hk | hk | hk | hk | hk <;> cases hk
      · cases h
      · nofun
      · cases h
      · cases h
      · cases h
    | int | uint | float | complex =>
      rcases hk with hk | hk | hk | hk | hk <;> cases hk <;> cases h
    | bool | ptr | struct | iface => rcases hk with hk | hk | hk | hk | hk <;> cases hk

theorem doMatchIsEmpty_no_panic (value : RV) (h : RVwf value = true) :
    doMatchIsEmpty value ≠ .panic := by
  unfold doMatchIsEmpty
  split
  case h_6 => nofun
  all_goals
    have := rvLen_ne_none value h (by simp [*])
    split
    · nofun
    · contradiction

theorem doMatchMatches_no_panic (re : RegexOracle) (raw : GoString) (value : RV) :
    doMatchMatches re (some raw) value ≠ .panic := by
  unfold doMatchMatches
  split
  · simp
  · split
    · simp
    · simp only []
      split <;> simp

theorem evaluateMatch_no_panic (re : RegexOracle) (o : Opts) (d : Any) (sel : Selector)
    (op : MatchOp) (raw : Option GoString) (hs : (raw.isSome == op.takesValue) = true)
    (ho : OptsWf o) (hd : Any.wf d = true) : evaluateMatch re o d sel op raw ≠ .panic := by
  unfold evaluateMatch
  split
  · simp
  · simp
  · simp
  · rename_i v hv
    have hvwf := getValue_wf _ _ _ _ ho hd hv
    split
    · simp
    · rename_i v' hv'
      have hr := indirect_wf v' (narrowJsonNumber_wf _ _ hvwf hv')
      cases op <;> cases raw <;> simp [MatchOp.takesValue] at hs <;> simp only []
      · exact doMatchEqual_no_panic _ _ hr
      · exact negate_ne_panic (doMatchEqual_no_panic _ _ hr)
      · exact doMatchIn_no_panic _ _ hr
      · exact negate_ne_panic (doMatchIn_no_panic _ _ hr)
      · exact doMatchIsEmpty_no_panic _ hr
      · exact negate_ne_panic (doMatchIsEmpty_no_panic _ hr)
      · exact doMatchMatches_no_panic _ _ _
      · exact negate_ne_panic (doMatchMatches_no_panic _ _ _)

/-! ## The collection loop -/

theorem mem_optional3 {α : Type} {c₁ c₂ c₃ : Prop} [Decidable c₁] [Decidable c₂] [Decidable c₃]
    {a b c x : α}
    (h : x ∈ (if c₁ then [a] else []) ++ (if c₂ then [b] else []) ++ (if c₃ then [c] else [])) :
    x = a ∨ x = b ∨ x = c := by
  simp only [List.mem_append] at h
  rcases h with (h | h) | h <;> split at h <;> simp at h <;> simp [h]

theorem listBindings_wf (sel : Selector) (b : Binding) (i : Nat) (lv : LocalVar)
    (h : lv ∈ listBindings sel b i) : Any.wf lv.value = true := by
  rcases mem_optional3 h with rfl | rfl | rfl <;> rfl

theorem mapBindings_wf (sel : Selector) (b : Binding) (key : GoString) (lv : LocalVar)
    (h : lv ∈ mapBindings sel b key) : Any.wf lv.value = true := by
  rcases mem_optional3 h with rfl | rfl | rfl <;> rfl

/-- the body is only ever called on well-formed options -/
theorem collLoop_no_panic (f : Opts → Out) (o : Opts) (op : CollOp) (b : Binding)
    (bss : List (List LocalVar))
    (hb : ∀ bs, bs ∈ bss → ∀ lv, lv ∈ bs → Any.wf lv.value = true)
    (hf : ∀ o', OptsWf o' → f o' ≠ .panic) (ho : OptsWf o) :
    collLoop f o op b bss ≠ .panic := by
  induction bss with
  | nil => simp [collLoop]
  | cons bs rest ih =>
    have ih' := ih (fun bs' hm => hb bs' (List.mem_cons_of_mem _ hm))
    have ho' : OptsWf { o with locals := o.locals ++ bs } :=
      ⟨ho.unknown, fun lv hm => by
        rcases List.mem_append.mp hm with hm | hm
        · exact ho.locals lv hm
        · exact hb bs (List.mem_cons_self) lv hm⟩
    have hfo := hf _ ho'
    unfold collLoop
    split
    · simp
    · split
      · split
        · simp
        · exact ih'
      · simp
      · exact hfo

/-! ## `(*Filter).Execute` -/

theorem outToExec_ne_panic {o : Out} (h : o ≠ .panic) : outToExec o ≠ .panic := by
  cases o <;> simp [outToExec] at *

theorem execSliceLoop_ne_panic (f : Any → Out) (xs acc : List GoVal) (o : Out)
    (hf : ∀ x, x ∈ xs → f x.toAny ≠ .panic)
    (h : execSliceLoop f xs acc = .error o) : o ≠ .panic := by
  induction xs generalizing acc with
  | nil => simp [execSliceLoop] at h
  | cons x xs ih =>
    have ih' := fun acc => ih acc (fun y hy => hf y (List.mem_cons_of_mem _ hy))
    have hx := hf x List.mem_cons_self
    unfold execSliceLoop at h
    split at h
    · exact ih' _ h
    · exact ih' _ h
    · cases h; exact hx

theorem execMapLoop_ne_panic (f : Any → Out) (es acc : List (GoVal × GoVal)) (o : Out)
    (hf : ∀ e, e ∈ es → f e.2.toAny ≠ .panic)
    (h : execMapLoop f es acc = .error o) : o ≠ .panic := by
  induction es generalizing acc with
  | nil => simp [execMapLoop] at h
  | cons e es ih =>
    obtain ⟨k, v⟩ := e
    have ih' := fun acc => ih acc (fun y hy => hf y (List.mem_cons_of_mem _ hy))
    have hx := hf (k, v) List.mem_cons_self
    unfold execMapLoop at h
    split at h
    · exact ih' _ h
    · exact ih' _ h
    · cases h; exact hx

end Bexpr.Proofs.Total
