/-
  C14: "Evaluate and Execute are functions of (expression, options, datum): the same boolean and
  the same error-or-not outcome even when quantifiers or filters range over maps whose iteration
  order Go randomizes."

  Model reading.  A map value is an association list = one arbitrary runtime iteration order.
  `PermEq d d'` (Proofs/PermRel.lean): `d'` is `d` with the entry list of every map anywhere
  inside permuted; every such map has pairwise distinct keys (`keysDistinct`; NaN float keys are
  allowed, see the header of Proofs/PermRel.lean).  The theorems are instances of the generic
  two-run theorems of Proofs/Relational.lean; `anyOk`, `OptsOk` (Proofs/PermRel.lean): the maps
  inside a value, resp. inside the unknown value and the bound locals, have distinct keys.
-/
import Proofs.PermRel

namespace Bexpr.Props.C14
open Bexpr Bexpr.Go Bexpr.Eval Bexpr.Proofs.Rel Bexpr.Proofs.PermRel

/-- General form: the two runs may also differ in the iteration order of maps inside the
    options' unknown value and bound locals. -/
theorem eval_perm_invariant_opts (re : RegexOracle) (e : Expr) (cfg : Config) {o o' : Opts}
    {d d' : Any} (hd : AnyRel PermEq d d') (ho : OptsRel PermEq cfg o o') :
    evaluate re e o d = evaluate re e o' d' :=
  evaluate_rel (permEq_hyps cfg) re hd e ho

/-- **C14, Evaluate**: the outcome (boolean, error, panic) does not depend on the iteration order
    of any map inside the datum. -/
theorem eval_perm_invariant (re : RegexOracle) (e : Expr) (o : Opts) {d d' : Any}
    (hd : AnyRel PermEq d d') (ho : OptsOk o) :
    evaluate re e o d = evaluate re e o d' :=
  eval_perm_invariant_opts re e o.cfg hd (optsRel_refl ho)

theorem evaluator_perm_invariant (re : RegexOracle) (ev : Evaluator) {d d' : Any}
    (hd : AnyRel PermEq d d') (hu : ∀ u, ev.unknown = some u → anyOk u = true) :
    ev.evaluate re d = ev.evaluate re d' :=
  eval_perm_invariant re ev.ast _ hd ⟨hu, by intro lv h; cases h⟩

theorem evRel_refl (ev : Evaluator) (hu : ∀ u, ev.unknown = some u → anyOk u = true) :
    EvRel PermEq { tagName := ev.tagName, hook := ev.hook } ev ev :=
  .refl ev fun u h => anyRel_refl (hu u h)

theorem keysDistinct_iff : ∀ (es : List (GoVal × GoVal)),
    keysDistinct es = true ↔ es.Pairwise fun e1 e2 => fkeyEq e2.1 e1.1 = false
  | [] => by simp [keysDistinct]
  | (k, v) :: es => by
    simp only [keysDistinct, Bool.and_eq_true, Bool.not_eq_true', List.any_eq_false,
      List.pairwise_cons, keysDistinct_iff es]
    constructor
    · rintro ⟨h1, h2⟩; exact ⟨fun e he => by simpa using h1 e he, h2⟩
    · rintro ⟨h1, h2⟩; exact ⟨fun e he => by simpa using h1 e he, h2⟩

theorem keysDistinct_sublist {kept es : List (GoVal × GoVal)} (hs : kept.Sublist es)
    (h : keysDistinct es = true) : keysDistinct kept = true :=
  (keysDistinct_iff kept).2 (((keysDistinct_iff es).1 h).sublist hs)

/-- **C14, Execute**: filtering a container whose maps are iterated in another order fails in
    both runs or succeeds in both; on success the results are again equal up to the order of map
    entries (slice / array containers: the same positions are kept; map containers: the same
    keys are kept with related values).

    Which error is reported first may differ between two orders of a map container (the first
    failing entry aborts the loop), hence "both fail" rather than "the same failure". -/
theorem filter_perm_invariant (re : RegexOracle) (ev : Evaluator) {d d' : Any}
    (hd : AnyRel PermEq d d') (hu : ∀ u, ev.unknown = some u → anyOk u = true) :
    ((execute re (some ev) d).failed = true ∧ (execute re (some ev) d').failed = true) ∨
    ∃ r r', execute re (some ev) d = .ok r ∧ execute re (some ev) d' = .ok r' ∧
      AnyRel PermEq r r' := by
  have H := permEq_hyps { tagName := ev.tagName, hook := ev.hook }
  have hm : ∀ n kt vt nl es es', d = some (.map n kt vt nl es) →
      d' = some (.map n kt vt nl es') → EntCorr PermEq es es' := by
    intro n kt vt nl es es' h1 h2
    subst h1 h2
    cases hd with
    | some h => cases h with
      | map _ _ _ _ _ hp he => exact ⟨_, hp, he⟩
  have hx := execute_rel H re (evRel_refl ev hu) hd hm
  generalize hr : execute re (some ev) d = r at hx
  generalize hr' : execute re (some ev) d' = r' at hx
  cases hx with
  | failed h1 h2 => exact .inl ⟨h1, h2⟩
  | list n e hl => exact .inr ⟨_, _, rfl, rfl, .some (.slice n e false hl)⟩
  | @map n kt vt kept kept' hc =>
    obtain ⟨p, hp, he⟩ := hc
    refine .inr ⟨_, _, rfl, rfl, .some (.map n kt vt false ?_ hp he)⟩
    -- the kept entries are a sublist of the (distinct-keyed) input entries
    obtain ⟨nl0, es0, rfl, hsub⟩ := execute_ok_map re ev hr
    cases hd with
    | some h =>
      cases h with
      | map _ _ _ _ hdist _ _ => exact keysDistinct_sublist hsub hdist

/-- the kept key multisets coincide (map containers) -/
theorem filter_perm_same_keys (re : RegexOracle) (ev : Evaluator) {d d' : Any}
    (hd : AnyRel PermEq d d') (hu : ∀ u, ev.unknown = some u → anyOk u = true)
    {n kt vt nl kept n' kt' vt' nl' kept'}
    (h1 : execute re (some ev) d = .ok (some (.map n kt vt nl kept)))
    (h2 : execute re (some ev) d' = .ok (some (.map n' kt' vt' nl' kept'))) :
    (kept.map (·.1)).Perm (kept'.map (·.1)) := by
  rcases filter_perm_invariant re ev hd hu with ⟨hf, _⟩ | ⟨r, r', hr, hr', hrel⟩
  · rw [h1] at hf; cases hf
  · rw [h1] at hr; rw [h2] at hr'
    cases hr; cases hr'
    cases hrel with
    | some h => cases h with
      | map _ _ _ _ _ hp he => exact (hp.map _).trans (by rw [he.keys_eq])

theorem filter_nil_invariant (re : RegexOracle) (d : Any) : execute re none d = .ok d := rfl

/-! ## Iterating the keys in `MapKeys()` order, without sorting, is NOT invariant

  `evaluateU` is a hand copy of `Eval.evaluate` with `sortKeys ks` replaced by `ks`; no lemma
  relates the two functions, so `old_behaviour_not_invariant` is a statement about the copy.
  Datum `{a:{x:1}, b:5, c:{x:2}}`, expression `any m as k, v { v.x == 1 }` (selector = the datum
  itself): in the order a,b,c the quantifier returns `true` at `a`; in the order b,a,c the body
  fails on `b` first (`v.x` on an int) and the whole evaluation is an error. -/
section OldBehaviour

def strT : GoType := GoType.stringT
def mapSI (es : List (GoVal × GoVal)) : GoVal := .map "" strT .iface false es
def ea : GoVal × GoVal := (.str "" [97], .iface (some (mapSI [(.str "" [120], .iface (some (.int .int "" 1)))])))
def eb : GoVal × GoVal := (.str "" [98], .iface (some (.int .int "" 5)))
def ec : GoVal × GoVal := (.str "" [99], .iface (some (mapSI [(.str "" [120], .iface (some (.int .int "" 2)))])))
def dA : Any := some (mapSI [ea, eb, ec])
def dB : Any := some (mapSI [eb, ea, ec])

def evaluateU (re : RegexOracle) : Expr → Opts → Any → Out
  | .not e, o, d =>
    match evaluateU re e o d with
    | .val b => .val (!b)
    | .err _ => .err false
    | other => other
  | .and l r, o, d =>
    match evaluateU re l o d with
    | .val true => evaluateU re r o d
    | other => other
  | .or l r, o, d =>
    match evaluateU re l o d with
    | .val false => evaluateU re r o d
    | other => other
  | .match_ sel op raw, o, d => evaluateMatch re o d sel op raw
  | .coll op sel b inner, o, d =>
    match getValue o d sel.path with
    | .error => .err false
    | .unmodelled => .unmodelled
    | .absent => .val (op == .all)
    | .present v =>
      match v with
      | some (.map _ kt _ _ es) =>
        if kt != GoType.stringT then .err false
        else collLoop (fun o' => evaluateU re inner o' d) o op b
          ((es.map fun e => strKey e.1).map fun k => mapBindings sel b k)
      | some (.slice _ _ _ xs) =>
        collLoop (fun o' => evaluateU re inner o' d) o op b
          ((List.range xs.length).map fun i => listBindings sel b i)
      | some (.array _ xs) =>
        collLoop (fun o' => evaluateU re inner o' d) o op b
          ((List.range xs.length).map fun i => listBindings sel b i)
      | _ => .err false

def body : Expr := .match_ { ty := .bexpr, path := [[118], [120]] } .equal (some [49])
def ex : Expr := .coll .any { ty := .bexpr, path := [] } { mode := .indexAndValue, index := [107], value := [118] } body
def o0 : Opts := { tagName := [98,101,120,112,114], hook := .off, unknown := none, locals := [] }
def re0 : RegexOracle := fun _ => none

theorem strT_bne : (GoType.basic Kind.string "" != GoType.basic Kind.string "") = false := by decide

theorem uA : evaluateU re0 ex o0 dA = .val true := by decide
theorem uB : evaluateU re0 ex o0 dB = .err false := by decide

/-- the unsorted evaluator distinguishes two iteration orders of the same map -/
theorem old_behaviour_not_invariant : evaluateU re0 ex o0 dA ≠ evaluateU re0 ex o0 dB := by
  rw [uA, uB]; intro h; cases h

/-! ### Non-vacuity: the same pair satisfies the hypotheses of the theorems -/

theorem dA_perm_dB : AnyRel PermEq dA dB := by
  refine .some (permEq_of_perm _ _ _ _ ?_ ?_ (List.Perm.swap eb ea [ec]))
  · decide
  · decide

theorem dA_ne_dB : dA ≠ dB := by
  simp [dA, dB, mapSI, ea, eb]

theorem o0_ok : OptsOk o0 := by
  constructor
  · intro u h; cases h
  · intro lv h; cases h

/-- the fixed evaluator gives the same outcome on both orders -/
example : evaluate re0 ex o0 dA = evaluate re0 ex o0 dB :=
  eval_perm_invariant re0 ex o0 dA_perm_dB o0_ok

end OldBehaviour

/-! ### Why `filter_perm_invariant` says "both fail" and not "the same failure"

  `Execute` aborts at the first failing entry, so WHICH failure is reported follows the
  iteration order.  In the model this is visible only where one entry panics and another returns
  an error; here with the (not parser-producible) expression `<datum> == <nil value>`: the int
  entry panics (`first.(T)` on a nil match value), the slice entry is an "unsupported type"
  error.  (On real Go the error TEXT of two failing entries differs the same way.) -/
section FirstFailure

def evP : Evaluator :=
  { ast := .match_ { ty := .bexpr, path := [] } .equal none, tagName := [], hook := .off,
    unknown := none, expression := [] }
def e1 : GoVal × GoVal := (.str "" [97], .iface (some (.int .int "" 1)))
def e2 : GoVal × GoVal := (.str "" [98], .iface (some (.slice "" (.basic .int "") false [])))

example : execute re0 (some evP) (some (.map "" GoType.stringT .iface false [e1, e2])) = .panic :=
  rfl
example : execute re0 (some evP) (some (.map "" GoType.stringT .iface false [e2, e1])) = .err :=
  rfl

end FirstFailure

end Bexpr.Props.C14

#print axioms Bexpr.Props.C14.eval_perm_invariant_opts
#print axioms Bexpr.Props.C14.eval_perm_invariant
#print axioms Bexpr.Props.C14.evaluator_perm_invariant
#print axioms Bexpr.Props.C14.filter_perm_invariant
#print axioms Bexpr.Props.C14.filter_perm_same_keys
#print axioms Bexpr.Props.C14.old_behaviour_not_invariant
