/-
  C05 — Absent map keys follow the documented table; the unknown value substitutes exactly.

  Statements about `Eval.getValue` / `evaluateMatch` / `evaluate` (model of evaluate.go:getValue,
  evaluateNotPresent, evaluateMatchExpression, evaluateCollectionExpression) and about
  `Go.get` (model of pointerstructure.Get) for all data, paths, options and operators.
  Ties: `Ties/Dispatch.lean` (NotPresentDisposition regenerated from ast.go), the `absent`
  correspondence fragment.

  Modelling decision (follows the code): "a key absent from a map" means that the parent path
  resolves to a value whose kind is Map.  A parent that is a POINTER to a map is not (the code
  tests `reflect.ValueOf(val).Kind() == reflect.Map` on the boxed parent): such a selector is an
  error, see `parent_pointer_to_map_is_error`.
-/
import Bexpr.Eval.Impl
import Proofs.Keys

namespace Bexpr.Props.C05
open Bexpr Bexpr.Eval Bexpr.Go

variable (re : RegexOracle) (o : Opts) (d : Any)

/-- the documented table: ==, in, matches, is not empty are false; !=, not in, not matches,
    is empty are true -/
theorem npd_table :
    notPresentDisposition .equal = false ∧ notPresentDisposition .in_ = false ∧
    notPresentDisposition .matches = false ∧ notPresentDisposition .isNotEmpty = false ∧
    notPresentDisposition .notEqual = true ∧ notPresentDisposition .notIn = true ∧
    notPresentDisposition .notMatches = true ∧ notPresentDisposition .isEmpty = true := by
  decide

/-- a match over an absent map key is not an error: it is the table's value -/
theorem absent_table (sel : Selector) (op : MatchOp) (raw : Option GoString)
    (h : getValue o d sel.path = .absent) :
    evaluateMatch re o d sel op raw = .val (notPresentDisposition op) := by
  unfold evaluateMatch; rw [h]

/-- `all` over an absent map key is true, `any` false -/
theorem absent_all_any (op : CollOp) (sel : Selector) (b : Binding) (inner : Expr)
    (h : getValue o d sel.path = .absent) :
    evaluate re (.coll op sel b inner) o d = .val (op == .all) := by
  simp only [evaluate]; rw [h]

/-- when exactly the selector is "absent": the path (after local-variable rewriting) fails with
    ErrNotFound, no unknown value is configured, and the parent test succeeds -/
theorem getValue_absent_iff (path : List GoString) :
    getValue o d path = .absent ↔
      ∃ p, resolveLocals o.locals.reverse path = .ok (.inr p) ∧ get o.cfg p d = .error .notFound ∧
        o.unknown = none ∧ evaluateNotPresent o.cfg p d = true := by
  unfold getValue
  constructor
  · intro h
    split at h
    · contradiction
    · contradiction
    · rename_i p hp
      refine ⟨p, hp, ?_⟩
      split at h <;> try contradiction
      split at h <;> try contradiction
      split at h <;> simp_all
  · rintro ⟨p, hp, hg, hu, hn⟩
    simp [hp, hg, hu, hn]

/-- the parent test: two or more parts and the parent path resolves to a value of kind Map -/
theorem evaluateNotPresent_iff (cfg : Config) (p : List GoString) :
    evaluateNotPresent cfg p d = true ↔
      2 ≤ p.length ∧ ∃ v, get cfg p.dropLast d = .ok (some v) ∧ v.kind = .map := by
  unfold evaluateNotPresent
  by_cases hl : p.length < 2
  · simp [hl]; omega
  · simp only [hl, if_false]
    constructor
    · intro h
      refine ⟨by omega, ?_⟩
      split at h
      · rename_i v hv; exact ⟨v, hv, by simpa using h⟩
      · contradiction
    · rintro ⟨_, v, hv, hk⟩
      simp [hv, hk]

/-- a single-part (top-level) key is never "absent": the parent test fails -/
theorem single_part_never_absent (cfg : Config) (p : List GoString) (h : p.length < 2) :
    evaluateNotPresent cfg p d = false := by
  simp [evaluateNotPresent, h]

/-- failing for any reason other than ErrNotFound is an error: index out of range, a step into
    a scalar, an ignored field, a key that cannot be coerced, and a panic raised inside the walk
    (`GetErr.panic`: a key type like `*[1][]int`, `Proofs.Keys.getStep_panic`), which `getValue`,
    the model of `safeGet`, recovers.  `e = .unmodelled` needs no exclusion: `Get` never answers it
    (`Proofs.Keys.get_ne_unmodelled`). -/
theorem other_failure_is_error (path p : List GoString) (e : GetErr)
    (hp : resolveLocals o.locals.reverse path = .ok (.inr p)) (hg : get o.cfg p d = .error e)
    (hne : e ≠ .notFound) : getValue o d path = .error := by
  have hnu : e ≠ .unmodelled := fun h => Proofs.Keys.get_ne_unmodelled _ _ _ (h ▸ hg)
  simp only [getValue, hp, hg]
  cases e <;> first | rfl | exact absurd rfl hne | exact absurd rfl hnu

/-- `getValue` never answers `unmodelled`: every map key type is inside the model -/
theorem getValue_ne_unmodelled (path : List GoString) : ∀ g, getValue o d path = g →
    (match g with | .unmodelled => False | _ => True) := by
  intro g hg
  unfold getValue at hg
  split at hg
  · cases hg; trivial
  · cases hg; trivial
  · split at hg
    · cases hg; trivial
    · rename_i h; exact absurd h (Proofs.Keys.get_ne_unmodelled _ _ _)
    · cases hg; trivial
    · split at hg
      · cases hg; trivial
      · split at hg <;> (cases hg; trivial)
    · cases hg; trivial

/-- ErrNotFound whose parent is not a map (an absent struct field, an absent intermediate key
    below a struct or list …) is an error when no unknown value is configured -/
theorem notFound_nonmap_parent_is_error (path p : List GoString)
    (hp : resolveLocals o.locals.reverse path = .ok (.inr p)) (hg : get o.cfg p d = .error .notFound)
    (hu : o.unknown = none) (hn : evaluateNotPresent o.cfg p d = false) :
    getValue o d path = .error := by
  unfold getValue
  simp [hp, hg, hu, hn]

/-- an index out of range is `ErrOutOfRange`, not ErrNotFound -/
theorem slice_index_out_of_range (part : GoString) (xs : List GoVal) (i : Int)
    (hi : Strconv.parseInt (if part.isEmpty then GoString.ofString "0" else part) 0 64 = .ok i)
    (hr : i < 0 ∨ (xs.length : Int) ≤ i) : getSlice part xs = .error .outOfRange := by
  unfold getSlice
  simp only [hi]
  rcases hr with h | h
  · simp [h]
  · have : ¬ (i < (xs.length : Int)) := by omega
    by_cases h0 : i < 0 <;> simp_all

/-- a step into a scalar (or nil) is `ErrInvalidKind` -/
theorem step_into_scalar (cfg : Config) (part : GoString) (v : GoVal)
    (hk : v.kind ≠ .map ∧ v.kind ≠ .slice ∧ v.kind ≠ .array ∧ v.kind ≠ .struct ∧
      v.kind ≠ .pointer ∧ v.kind ≠ .interface) :
    getStep cfg part (some v) = .error .invalidKind := by
  cases v with
  | map => exact absurd rfl hk.1
  | slice => exact absurd rfl hk.2.1
  | array => exact absurd rfl hk.2.2.1
  | struct => exact absurd rfl hk.2.2.2.1
  | ptr => exact absurd rfl hk.2.2.2.2.1
  | iface => exact absurd rfl hk.2.2.2.2.2
  | _ => rfl

theorem step_into_nil (cfg : Config) (part : GoString) : getStep cfg part none = .error .invalidKind := by
  simp [getStep, unwrapForStep]

/-- with an unknown value `u`: every selector that fails only because a key or field is absent
    evaluates exactly as if it had resolved to `u` -/
theorem unknown_subst (path p : List GoString) (u : Any)
    (hp : resolveLocals o.locals.reverse path = .ok (.inr p)) (hg : get o.cfg p d = .error .notFound)
    (hu : o.unknown = some u) : getValue o d path = .present u := by
  unfold getValue
  simp [hp, hg, hu]

theorem match_depends_on_getValue (o' : Opts) (d' : Any) (sel sel' : Selector) (op : MatchOp)
    (raw : Option GoString) (h : getValue o d sel.path = getValue o' d' sel'.path) :
    evaluateMatch re o d sel op raw = evaluateMatch re o' d' sel' op raw := by
  unfold evaluateMatch; rw [h]

/-- a selector that resolves is looked up alike whatever the unknown value is -/
theorem unknown_neutral_getValue (path p : List GoString) (v u : Any)
    (hp : resolveLocals o.locals.reverse path = .ok (.inr p)) (hg : get o.cfg p d = .ok v) :
    getValue { o with unknown := u } d path = getValue o d path := by
  unfold getValue Opts.cfg
  simp only [hp]
  unfold Opts.cfg at hg
  simp [hg]

theorem unknown_neutral_local (path : List GoString) (v u : Any)
    (hp : resolveLocals o.locals.reverse path = .ok (.inl v)) :
    getValue { o with unknown := u } d path = getValue o d path := by
  unfold getValue
  simp [hp]

/-- a pointer to a map is not a map for the parent test (follows the code; see the header) -/
theorem parent_pointer_to_map_is_error (cfg : Config) (p : List GoString) (e : GoType) (x : Option GoVal)
    (h : get cfg p.dropLast d = .ok (some (.ptr e x))) : evaluateNotPresent cfg p d = false := by
  unfold evaluateNotPresent
  by_cases hl : p.length < 2 <;> simp [hl, h, GoVal.kind]

/-- `{"m": {"a": 1}}` -/
def exDatum : Any :=
  some (.map "" GoType.stringT .iface false
    [(.str "" [109] /- "m" -/,
      .iface (some (.map "" GoType.stringT .iface false
        [(.str "" [97] /- "a" -/, .iface (some (.float .float64 "" 0x3FF0000000000000)))])))])
def exOpts : Opts := { tagName := [98, 101, 120, 112, 114], hook := .off, unknown := none, locals := [] }
def exSel : Selector := { ty := .bexpr, path := [[109], [122, 122]] /- m.zz -/ }

/-! non-vacuity: on `exDatum` the selector `m.zz` is absent, `m.zz == 1` is false and `m.zz != 1`
    is true -/
example : (match getValue exOpts exDatum exSel.path with | .absent => true | _ => false) = true := by
  decide +kernel
example : evaluateMatch (fun _ => none) exOpts exDatum exSel .equal (some [49]) = .val false := by
  decide +kernel
example : evaluateMatch (fun _ => none) exOpts exDatum exSel .notEqual (some [49]) = .val true := by
  decide +kernel

end Bexpr.Props.C05

#print axioms Bexpr.Props.C05.absent_table
#print axioms Bexpr.Props.C05.absent_all_any
#print axioms Bexpr.Props.C05.getValue_absent_iff
#print axioms Bexpr.Props.C05.evaluateNotPresent_iff
#print axioms Bexpr.Props.C05.other_failure_is_error
#print axioms Bexpr.Props.C05.getValue_ne_unmodelled
#print axioms Bexpr.Props.C05.notFound_nonmap_parent_is_error
#print axioms Bexpr.Props.C05.unknown_subst
#print axioms Bexpr.Props.C05.unknown_neutral_getValue
#print axioms Bexpr.Props.C05.slice_index_out_of_range
#print axioms Bexpr.Props.C05.step_into_scalar
