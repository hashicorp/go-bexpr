/-
  C06 — any/all fold the body over elements with correct binding, order and scoping.

  Statements about `Eval.evaluate` on `.coll` nodes (model of
  evaluate.go:evaluateCollectionExpression) and about `Eval.getValue` / `resolveLocals` (model of
  evaluate.go:getValue) under the bindings a quantifier pushes.  They hold for every regexp
  oracle, option record and datum.

-/
import Bexpr.Eval.Impl
import Props.C03
import Props.C05
import Proofs.Total
import Proofs.OptionLemmas

namespace Bexpr.Props.C06
open Bexpr Bexpr.Eval Bexpr.Go

variable (re : RegexOracle) (o : Opts) (d : Any)

/-! ## 1. The fold -/

/-- The documented fold of a quantifier over the outcomes of its body, left to right: an error
    ends the fold with an error, a panic / unmodelled outcome with itself; `any` ends at the first
    `true`, `all` at the first `false`; an exhausted list gives `false` for `any`, `true` for
    `all`. -/
def foldColl (op : CollOp) : List Out → Out
  | [] => .val (op == .all)
  | .val r :: rest =>
    match op, r with
    | .any, true => .val true
    | .all, false => .val false
    | _, _ => foldColl op rest
  | .err _ :: _ => .err false
  | .panic :: _ => .panic
  | .unmodelled :: _ => .unmodelled

/-- the quantifier declares one name for both the index and the value -/
def sameName (b : Binding) : Prop := b.mode = .indexAndValue ∧ b.index = b.value

instance (b : Binding) : Decidable (sameName b) := by unfold sameName; infer_instance

theorem foldColl_cons_nondeciding (op : CollOp) (rest : List Out) :
    foldColl op (.val (op == .all) :: rest) = foldColl op rest := by
  cases op <;> rfl

theorem foldColl_cons_deciding (op : CollOp) (x : Out) (rest : List Out)
    (hx : x ≠ .val (op == .all)) : foldColl op (x :: rest) = foldColl op [x] := by
  cases x with
  | val r =>
    cases op <;> cases r
    · rfl
    · exact absurd rfl hx
    · exact absurd rfl hx
    · rfl
  | _ => rfl

theorem foldColl_singleton (op : CollOp) (r : Bool) : foldColl op [.val r] = .val r := by
  cases op <;> cases r <;> rfl

theorem collLoop_eq_fold (f : Opts → Out) (op : CollOp) (b : Binding)
    (bss : List (List LocalVar)) (hb : sameName b → bss = []) :
    collLoop f o op b bss =
      foldColl op (bss.map fun bs => f { o with locals := o.locals ++ bs }) := by
  induction bss with
  | nil => rfl
  | cons bs rest ih =>
    have hs : ¬ sameName b := fun h => nomatch hb h
    have hb' : (b.mode == .indexAndValue && b.index == b.value) = false := by
      simpa [sameName] using hs
    simp only [collLoop, hb', List.map_cons, ih (fun h => absurd h hs)]
    cases hf : f { o with locals := o.locals ++ bs } with
    | val r => cases op <;> cases r <;> rfl
    | _ => rfl

theorem collLoop_same_name (f : Opts → Out) (op : CollOp) (b : Binding) (hb : sameName b)
    (bs : List LocalVar) (rest : List (List LocalVar)) :
    collLoop f o op b (bs :: rest) = .err false := by
  obtain ⟨h1, h2⟩ := hb
  simp [collLoop, h1, h2]

/-- per-element outcomes of a quantifier over a list of `n` elements -/
def listOutcomes (sel : Selector) (b : Binding) (inner : Expr) (n : Nat) : List Out :=
  (List.range n).map fun i =>
    evaluate re inner { o with locals := o.locals ++ listBindings sel b i } d

/-- per-entry outcomes of a quantifier over a map with the given entries: keys in sorted order -/
def mapOutcomes (sel : Selector) (b : Binding) (inner : Expr) (es : List (GoVal × GoVal)) :
    List Out :=
  (sortKeys (es.map fun e => strKey e.1)).map fun k =>
    evaluate re inner { o with locals := o.locals ++ mapBindings sel b k } d

/-- What a quantifier ranges over: the positions of a slice or array, the keys of a map whose key
    type is exactly `string` in sorted (bytewise) order; nothing else can be iterated. -/
def collIndices : Any → Option (List (Nat ⊕ GoString))
  | some (.map _ kt _ _ es) =>
    if kt = GoType.stringT then some ((sortKeys (es.map fun e => strKey e.1)).map .inr) else none
  | some (.slice _ _ _ xs) => some ((List.range xs.length).map .inl)
  | some (.array _ xs) => some ((List.range xs.length).map .inl)
  | _ => none

/-- the bindings pushed for the element at a position, resp. the entry with a key -/
def elemBindings (sel : Selector) (b : Binding) : Nat ⊕ GoString → List LocalVar
  | .inl i => listBindings sel b i
  | .inr k => mapBindings sel b k

/-- the last part of the element's path `S.i`, resp. `S.key` -/
def elemKey : Nat ⊕ GoString → GoString
  | .inl i => GoString.natToDec i
  | .inr k => k

/-- `evaluateCollectionExpression`: resolve the selector, see what it ranges over, run the loop -/
theorem evaluate_coll (op : CollOp) (sel : Selector) (b : Binding) (inner : Expr) :
    evaluate re (.coll op sel b inner) o d =
      match getValue o d sel.path with
      | .error => .err false
      | .unmodelled => .unmodelled
      | .absent => .val (op == .all)
      | .present v =>
        match collIndices v with
        | none => .err false
        | some idx =>
          collLoop (fun o' => evaluate re inner o' d) o op b (idx.map (elemBindings sel b)) := by
  simp only [evaluate]
  cases getValue o d sel.path with
  | present v =>
    cases v with
    | none => rfl
    | some w =>
      cases w with
      | map n kt vt nl es =>
        by_cases hk : kt = GoType.stringT
        · simp only [collIndices, hk, bne_self_eq_false, if_true, List.map_map]; rfl
        · simp [collIndices, hk]
      | slice n e nl xs => simp only [collIndices, List.map_map]; rfl
      | array e xs => simp only [collIndices, List.map_map]; rfl
      | _ => rfl
  | _ => rfl

/-- the selector resolved to a list (slice or array) with elements `xs` -/
def IsList (v : Any) (xs : List GoVal) : Prop :=
  (∃ n e nl, v = some (.slice n e nl xs)) ∨ (∃ e, v = some (.array e xs))

theorem collIndices_list {v : Any} {xs : List GoVal} (hl : IsList v xs) :
    collIndices v = some ((List.range xs.length).map .inl) := by
  rcases hl with ⟨n, e, nl, rfl⟩ | ⟨e, rfl⟩ <;> rfl

theorem collIndices_map (n : String) (vt : GoType) (nl : Bool) (es : List (GoVal × GoVal)) :
    collIndices (some (.map n GoType.stringT vt nl es)) =
      some ((sortKeys (es.map fun e => strKey e.1)).map .inr) := by
  simp [collIndices]

theorem sortKeys_eq_nil {ks : List GoString} : sortKeys ks = [] ↔ ks = [] := by
  rw [← List.length_eq_zero_iff, ← List.length_eq_zero_iff, sortKeys, List.length_mergeSort]

theorem coll_fold (op : CollOp) (sel : Selector) (b : Binding) (inner : Expr) (v : Any)
    (idx : List (Nat ⊕ GoString)) (hv : getValue o d sel.path = .present v)
    (hi : collIndices v = some idx) (hb : sameName b → idx = []) :
    evaluate re (.coll op sel b inner) o d =
      foldColl op (idx.map fun ix =>
        evaluate re inner { o with locals := o.locals ++ elemBindings sel b ix } d) := by
  simp only [evaluate_coll, hv, hi]
  rw [collLoop_eq_fold o _ op b _ (by simpa using hb), List.map_map]
  rfl

theorem coll_same_name (op : CollOp) (sel : Selector) (b : Binding) (inner : Expr) (v : Any)
    (idx : List (Nat ⊕ GoString)) (hv : getValue o d sel.path = .present v)
    (hi : collIndices v = some idx) (hs : sameName b) :
    evaluate re (.coll op sel b inner) o d =
      if idx = [] then .val (op == .all) else .err false := by
  simp only [evaluate_coll, hv, hi]
  cases idx with
  | nil => rfl
  | cons ix idx => exact collLoop_same_name o _ op b hs _ _

/-- Lists: `any`/`all` over a slice or array is the fold of the body over the elements
    in index order, element `i` evaluated under the bindings `listBindings sel b i` appended to
    the enclosing ones -/
theorem coll_list_fold (op : CollOp) (sel : Selector) (b : Binding) (inner : Expr)
    (v : Any) (xs : List GoVal) (hl : IsList v xs)
    (hv : getValue o d sel.path = .present v)
    (hb : ¬ (b.mode = .indexAndValue ∧ b.index = b.value ∧ xs ≠ [])) :
    evaluate re (.coll op sel b inner) o d =
      foldColl op ((List.range xs.length).map fun i =>
        evaluate re inner { o with locals := o.locals ++ listBindings sel b i } d) := by
  rw [coll_fold re o d op sel b inner v _ hv (collIndices_list hl), List.map_map]
  · rfl
  · intro hs
    simp [Classical.not_not.mp fun hx => hb ⟨hs.1, hs.2, hx⟩]

/-- Maps: a map whose key type is exactly `string` is folded over its keys in sorted
    (bytewise) order, entry `k` evaluated under `mapBindings sel b k` -/
theorem coll_map_fold (op : CollOp) (sel : Selector) (b : Binding) (inner : Expr)
    (n : String) (vt : GoType) (nl : Bool) (es : List (GoVal × GoVal))
    (hv : getValue o d sel.path = .present (some (.map n GoType.stringT vt nl es)))
    (hb : ¬ (b.mode = .indexAndValue ∧ b.index = b.value ∧ es ≠ [])) :
    evaluate re (.coll op sel b inner) o d =
      foldColl op ((sortKeys (es.map fun e => strKey e.1)).map fun k =>
        evaluate re inner { o with locals := o.locals ++ mapBindings sel b k } d) := by
  rw [coll_fold re o d op sel b inner _ _ hv (collIndices_map n vt nl es), List.map_map]
  · rfl
  · intro hs
    simp [sortKeys_eq_nil, Classical.not_not.mp fun hx => hb ⟨hs.1, hs.2, hx⟩]

/-- One name for index and value (`any S as x, x {…}`) is an error as soon as there is
    an element; over an empty collection the loop body is never entered -/
theorem coll_same_name_error (op : CollOp) (sel : Selector) (b : Binding) (inner : Expr)
    (v : Any) (hs : b.mode = .indexAndValue ∧ b.index = b.value) :
    (∀ xs, IsList v xs → getValue o d sel.path = .present v →
      evaluate re (.coll op sel b inner) o d =
        if xs = [] then .val (op == .all) else .err false) ∧
    (∀ n vt nl es, v = some (.map n GoType.stringT vt nl es) →
      getValue o d sel.path = .present v →
      evaluate re (.coll op sel b inner) o d =
        if es = [] then .val (op == .all) else .err false) := by
  refine ⟨fun xs hl hv => ?_, ?_⟩
  · rw [coll_same_name re o d op sel b inner v _ hv (collIndices_list hl) hs]
    simp only [List.map_eq_nil_iff, List.range_eq_nil, List.length_eq_zero_iff]
  · rintro n vt nl es rfl hv
    rw [coll_same_name re o d op sel b inner _ _ hv (collIndices_map n vt nl es) hs]
    simp only [List.map_eq_nil_iff, sortKeys_eq_nil]

/-! ## 2. Meaning of the fold -/

theorem foldColl_eq_nondeciding (op : CollOp) (outs : List Out) :
    foldColl op outs = .val (op == .all) ↔ ∀ x ∈ outs, x = .val (op == .all) := by
  induction outs with
  | nil => simp [foldColl]
  | cons x rest ih =>
    by_cases hx : x = .val (op == .all)
    · rw [hx, foldColl_cons_nondeciding, ih]; simp
    · rw [foldColl_cons_deciding op x rest hx]
      cases x with
      | val r =>
        have hr : r ≠ (op == .all) := fun h => hx (h ▸ rfl)
        simp [foldColl_singleton, hr]
      | _ => simp [foldColl]

theorem foldColl_eq_deciding (op : CollOp) (outs : List Out)
    (hv : ∀ x ∈ outs, ∃ r, x = .val r) :
    foldColl op outs = .val (op == .any) ↔ ∃ x ∈ outs, x = .val (op == .any) := by
  induction outs with
  | nil => cases op <;> simp [foldColl]
  | cons x rest ih =>
    obtain ⟨r, rfl⟩ := hv x (by simp)
    have ih' := ih fun y hy => hv y (by simp [hy])
    by_cases hr : r = (op == .all)
    · subst hr
      rw [foldColl_cons_nondeciding, ih']
      cases op <;> simp
    · rw [foldColl_cons_deciding op _ _ (by simpa using hr), foldColl_singleton]
      cases op <;> cases r <;> simp at hr ⊢

theorem foldColl_any_false_iff (outs : List Out) (hv : ∀ x ∈ outs, ∃ r, x = .val r) :
    foldColl .any outs = .val false ↔ ∀ i, i < outs.length → outs[i]? = some (.val false) := by
  rw [show Out.val false = .val (CollOp.any == .all) from rfl, foldColl_eq_nondeciding]
  constructor
  · intro h i hi
    rw [List.getElem?_eq_getElem hi, h _ (List.getElem_mem hi)]
  · intro h x hx
    obtain ⟨i, hi, rfl⟩ := List.getElem_of_mem hx
    simpa [List.getElem?_eq_getElem hi] using h i hi

/-- Over a list all of whose element outcomes are values, `any` is true iff the body is
    true for some element -/
theorem any_iff_exists (sel : Selector) (b : Binding) (inner : Expr) (v : Any) (xs : List GoVal)
    (hl : IsList v xs) (hv : getValue o d sel.path = .present v) (hb : ¬ sameName b)
    (hval : ∀ i, i < xs.length → ∃ r,
      evaluate re inner { o with locals := o.locals ++ listBindings sel b i } d = .val r) :
    evaluate re (.coll .any sel b inner) o d = .val true ↔
      ∃ i, i < xs.length ∧
        evaluate re inner { o with locals := o.locals ++ listBindings sel b i } d = .val true := by
  rw [coll_list_fold re o d .any sel b inner v xs hl hv (fun h => hb ⟨h.1, h.2.1⟩)]
  refine (foldColl_eq_deciding .any _ (by simpa using hval)).trans ?_
  simp

/-- … and `all` is true iff the body is true for every element -/
theorem all_iff_forall (sel : Selector) (b : Binding) (inner : Expr) (v : Any) (xs : List GoVal)
    (hl : IsList v xs) (hv : getValue o d sel.path = .present v) (hb : ¬ sameName b)
    (hval : ∀ i, i < xs.length → ∃ r,
      evaluate re inner { o with locals := o.locals ++ listBindings sel b i } d = .val r) :
    evaluate re (.coll .all sel b inner) o d = .val true ↔
      ∀ i, i < xs.length →
        evaluate re inner { o with locals := o.locals ++ listBindings sel b i } d = .val true := by
  rw [coll_list_fold re o d .all sel b inner v xs hl hv (fun h => hb ⟨h.1, h.2.1⟩)]
  refine (foldColl_eq_nondeciding .all _).trans ?_
  simp

theorem any_iff_exists_map (sel : Selector) (b : Binding) (inner : Expr)
    (n : String) (vt : GoType) (nl : Bool) (es : List (GoVal × GoVal))
    (hv : getValue o d sel.path = .present (some (.map n GoType.stringT vt nl es)))
    (hb : ¬ sameName b)
    (hval : ∀ k ∈ sortKeys (es.map fun e => strKey e.1), ∃ r,
      evaluate re inner { o with locals := o.locals ++ mapBindings sel b k } d = .val r) :
    evaluate re (.coll .any sel b inner) o d = .val true ↔
      ∃ k ∈ sortKeys (es.map fun e => strKey e.1),
        evaluate re inner { o with locals := o.locals ++ mapBindings sel b k } d = .val true := by
  rw [coll_map_fold re o d .any sel b inner n vt nl es hv (fun h => hb ⟨h.1, h.2.1⟩)]
  refine (foldColl_eq_deciding .any _ (by simpa using hval)).trans ?_
  simp

theorem all_iff_forall_map (sel : Selector) (b : Binding) (inner : Expr)
    (n : String) (vt : GoType) (nl : Bool) (es : List (GoVal × GoVal))
    (hv : getValue o d sel.path = .present (some (.map n GoType.stringT vt nl es)))
    (hb : ¬ sameName b)
    (hval : ∀ k ∈ sortKeys (es.map fun e => strKey e.1), ∃ r,
      evaluate re inner { o with locals := o.locals ++ mapBindings sel b k } d = .val r) :
    evaluate re (.coll .all sel b inner) o d = .val true ↔
      ∀ k ∈ sortKeys (es.map fun e => strKey e.1),
        evaluate re inner { o with locals := o.locals ++ mapBindings sel b k } d = .val true := by
  rw [coll_map_fold re o d .all sel b inner n vt nl es hv (fun h => hb ⟨h.1, h.2.1⟩)]
  refine (foldColl_eq_nondeciding .all _).trans ?_
  simp

/-- An empty list or map gives `any` = false, `all` = true, for every binding form -/
theorem coll_empty (op : CollOp) (sel : Selector) (b : Binding) (inner : Expr) (v : Any)
    (hv : getValue o d sel.path = .present v)
    (he : IsList v [] ∨ ∃ n vt nl, v = some (.map n GoType.stringT vt nl [])) :
    evaluate re (.coll op sel b inner) o d = .val (op == .all) := by
  have hi : collIndices v = some [] := by
    rcases he with hl | ⟨n, vt, nl, rfl⟩
    · exact collIndices_list hl
    · rw [collIndices_map, List.map_nil, sortKeys_eq_nil.mpr rfl]; rfl
  rw [coll_fold re o d op sel b inner v [] hv hi fun _ => rfl]
  rfl

/-- An absent collection (a key absent from a map, C05) gives `any` = false,
    `all` = true -/
theorem coll_absent (op : CollOp) (sel : Selector) (b : Binding) (inner : Expr)
    (h : getValue o d sel.path = .absent) :
    evaluate re (.coll op sel b inner) o d = .val (op == .all) :=
  C05.absent_all_any re o d op sel b inner h

/-- an outcome that does not end the fold: `false` for `any`, `true` for `all` -/
def nonDeciding (op : CollOp) (x : Out) : Prop := x = .val (op == .all)

theorem foldColl_first (op : CollOp) (outs : List Out) (i : Nat) (x : Out)
    (hi : outs[i]? = some x)
    (hbefore : ∀ j, j < i → outs[j]? = some (.val (op == .all)))
    (hx : x ≠ .val (op == .all)) :
    foldColl op outs = foldColl op [x] := by
  induction outs generalizing i with
  | nil => simp at hi
  | cons y rest ih =>
    cases i with
    | zero =>
      obtain rfl : y = x := by simpa using hi
      exact foldColl_cons_deciding op y rest hx
    | succ k =>
      obtain rfl : y = .val (op == .all) := by simpa using hbefore 0 (by omega)
      rw [foldColl_cons_nondeciding]
      exact ih k (by simpa using hi) fun j hj => by simpa using hbefore (j + 1) (by omega)

theorem coll_list_first (op : CollOp) (sel : Selector) (b : Binding) (inner : Expr) (v : Any)
    (xs : List GoVal) (hl : IsList v xs) (hv : getValue o d sel.path = .present v)
    (hb : ¬ sameName b) (i : Nat) (hi : i < xs.length) (x : Out)
    (hx : evaluate re inner { o with locals := o.locals ++ listBindings sel b i } d = x)
    (hne : x ≠ .val (op == .all))
    (hbefore : ∀ j, j < i →
      evaluate re inner { o with locals := o.locals ++ listBindings sel b j } d
        = .val (op == .all)) :
    evaluate re (.coll op sel b inner) o d = foldColl op [x] := by
  rw [coll_list_fold re o d op sel b inner v xs hl hv (fun h => hb ⟨h.1, h.2.1⟩)]
  apply foldColl_first op _ i x _ _ hne
  · simp [List.getElem?_range hi, hx]
  · intro j hj
    simp [List.getElem?_range (Nat.lt_trans hj hi), hbefore j hj]

/-- The first error ends the fold — if element `i` is an error and every earlier element
    is a non-deciding value, the quantifier is an error, whatever the later elements are -/
theorem coll_first_error (op : CollOp) (sel : Selector) (b : Binding) (inner : Expr) (v : Any)
    (xs : List GoVal) (hl : IsList v xs) (hv : getValue o d sel.path = .present v)
    (hb : ¬ sameName b) (i : Nat) (hi : i < xs.length) (eb : Bool)
    (herr : evaluate re inner { o with locals := o.locals ++ listBindings sel b i } d = .err eb)
    (hbefore : ∀ j, j < i →
      evaluate re inner { o with locals := o.locals ++ listBindings sel b j } d
        = .val (op == .all)) :
    evaluate re (.coll op sel b inner) o d = .err false :=
  coll_list_first re o d op sel b inner v xs hl hv hb i hi _ herr Out.noConfusion hbefore

/-- The first decisive element ends the fold — later elements (even errors or panics)
    are never consulted -/
theorem coll_first_decisive (op : CollOp) (sel : Selector) (b : Binding) (inner : Expr) (v : Any)
    (xs : List GoVal) (hl : IsList v xs) (hv : getValue o d sel.path = .present v)
    (hb : ¬ sameName b) (i : Nat) (hi : i < xs.length)
    (hdec : evaluate re inner { o with locals := o.locals ++ listBindings sel b i } d
      = .val (op == .any))
    (hbefore : ∀ j, j < i →
      evaluate re inner { o with locals := o.locals ++ listBindings sel b j } d
        = .val (op == .all)) :
    evaluate re (.coll op sel b inner) o d = .val (op == .any) := by
  rw [coll_list_first re o d op sel b inner v xs hl hv hb i hi _ hdec (by cases op <;> decide)
    hbefore, foldColl_singleton]

/-! ## 3. What can be iterated -/

/-- the values `any`/`all` iterate: slices, arrays, and maps whose key type is exactly `string` -/
def Iterable : Any → Prop
  | some (.slice ..) => True
  | some (.array ..) => True
  | some (.map _ kt _ _ _) => kt = GoType.stringT
  | _ => False

theorem collIndices_eq_none {v : Any} (h : ¬ Iterable v) : collIndices v = none := by
  cases v with
  | none => rfl
  | some w => cases w <;> simp_all [Iterable, collIndices]

/-- A selector that resolves to anything else — nil, a scalar, a struct, a pointer (even
    to a slice), a map with another key type (named string types included) — is an error -/
theorem coll_bad_kind (op : CollOp) (sel : Selector) (b : Binding) (inner : Expr) (v : Any)
    (hv : getValue o d sel.path = .present v) (hbad : ¬ Iterable v) :
    evaluate re (.coll op sel b inner) o d = .err false := by
  simp only [evaluate_coll, hv, collIndices_eq_none hbad]

example : ¬ Iterable none ∧ ¬ Iterable (some (.int .int "" 1)) ∧ ¬ Iterable (some (.struct "T" []))
    ∧ ¬ Iterable (some (.ptr (.slice "" .iface) (some (.slice "" .iface false []))))
    ∧ ¬ Iterable (some (.map "" (.basic .int "") .iface false []))
    ∧ ¬ Iterable (some (.map "" (.basic .string "main.MyStr") .iface false []))
    ∧ ¬ Iterable (some (.map "" .iface .iface false [])) := by
  simp [Iterable, GoType.stringT]

/-! ## 4. Binding semantics -/

/-- the binding record as the parser builds it (`CollectionNameBinding`): exactly the names of
    its mode are set -/
def Shaped (b : Binding) : Prop :=
  match b.mode with
  | .default => b.default ≠ [] ∧ b.index = [] ∧ b.value = []
  | .index => b.default = [] ∧ b.index ≠ [] ∧ b.value = []
  | .value => b.default = [] ∧ b.index = [] ∧ b.value ≠ []
  | .indexAndValue => b.default = [] ∧ b.index ≠ [] ∧ b.value ≠ []

instance (b : Binding) : Decidable (Shaped b) := by unfold Shaped; split <;> infer_instance

/-- the name that aliases the ELEMENT of a list: the one name of the one-name form, the value
    name of the other forms -/
def listValueName (b : Binding) : Option GoString :=
  match b.mode with
  | .default => some b.default
  | .value => some b.value
  | .indexAndValue => some b.value
  | .index => none

/-- the name bound to the INDEX of a list element -/
def listIndexName (b : Binding) : Option GoString :=
  match b.mode with
  | .index => some b.index
  | .indexAndValue => some b.index
  | _ => none

/-- the name that aliases the VALUE of a map entry -/
def mapValueName (b : Binding) : Option GoString :=
  match b.mode with
  | .value => some b.value
  | .indexAndValue => some b.value
  | _ => none

/-- the name bound to the KEY of a map entry: the one name of the one-name form, the index name
    of the other forms -/
def mapKeyName (b : Binding) : Option GoString :=
  match b.mode with
  | .default => some b.default
  | .index => some b.index
  | .indexAndValue => some b.index
  | .value => none

/-- a binding that stands for a path (the element, the entry's value) -/
def aliasVar (x : GoString) (path : List GoString) : LocalVar :=
  { name := x, path := path, value := none }
/-- a binding that holds a value (the index, the key) -/
def valueVar (k : GoString) (v : GoVal) : LocalVar :=
  { name := k, path := [], value := some v }

/-- the bindings of one quantifier as the parser's binding records give them: at most one alias
    (of the element / the entry's value), and after it (newer) at most one key/index value -/
def scopeBindings (vn kn : Option GoString) (path : List GoString) (w : GoVal) : List LocalVar :=
  (match vn with
    | some x => [aliasVar x path]
    | none => []) ++
  (match kn with
    | some k => [valueVar k w]
    | none => [])

theorem listBindings_shaped (sel : Selector) (b : Binding) (i : Nat) (hs : Shaped b) :
    listBindings sel b i =
      scopeBindings (listValueName b) (listIndexName b) (sel.path ++ [GoString.natToDec i])
        (.int .int "" i) := by
  unfold Shaped at hs
  unfold listBindings scopeBindings listValueName listIndexName aliasVar valueVar
  cases hm : b.mode <;> simp only [hm] at hs <;> obtain ⟨h1, h2, h3⟩ := hs <;>
    simp [h1, h2, h3]

theorem mapBindings_shaped (sel : Selector) (b : Binding) (key : GoString) (hs : Shaped b) :
    mapBindings sel b key =
      scopeBindings (mapValueName b) (mapKeyName b) (sel.path ++ [key]) (.str "" key) := by
  unfold Shaped at hs
  unfold mapBindings scopeBindings mapValueName mapKeyName aliasVar valueVar
  cases hm : b.mode <;> simp only [hm] at hs <;> obtain ⟨h1, h2, h3⟩ := hs <;>
    simp [h1, h2, h3]

/-- The one-name form: `any S as x {…}` binds the VALUE for lists and the KEY for maps -/
theorem one_name_form (sel : Selector) (b : Binding) (hs : Shaped b) (hm : b.mode = .default) :
    (∀ i, listBindings sel b i = [aliasVar b.default (sel.path ++ [GoString.natToDec i])]) ∧
    (∀ key, mapBindings sel b key = [valueVar b.default (.str "" key)]) := by
  constructor
  · intro i
    rw [listBindings_shaped sel b i hs]; simp [scopeBindings, listValueName, listIndexName, hm]
  · intro k
    rw [mapBindings_shaped sel b k hs]; simp [scopeBindings, mapValueName, mapKeyName, hm]

/-! ### The scan of `getValue` over the local variables -/

theorem resolveLocals_nil_path (ls : List LocalVar) : resolveLocals ls [] = .ok (.inr []) := by
  cases ls <;> rfl

/-- a binding whose name is not the first part of the path is skipped -/
theorem resolveLocals_miss (lv : LocalVar) (older : List LocalVar) (n : GoString)
    (rest : List GoString) (h : n ≠ lv.name) :
    resolveLocals (lv :: older) (n :: rest) = resolveLocals older (n :: rest) := by
  have : (n == lv.name) = false := by simpa using h
  simp [resolveLocals, this]

/-- an alias binding replaces the first part by its path; the scan continues with the OLDER
    bindings only -/
theorem resolveLocals_alias (lv : LocalVar) (older : List LocalVar) (n : GoString)
    (rest : List GoString) (hn : n = lv.name) (hp : lv.path ≠ []) :
    resolveLocals (lv :: older) (n :: rest) = resolveLocals older (lv.path ++ rest) := by
  simp [resolveLocals, hn, hp]

/-- a key/index binding ends the scan: its value if nothing follows, an error otherwise -/
theorem resolveLocals_value (lv : LocalVar) (older : List LocalVar) (n : GoString)
    (rest : List GoString) (hn : n = lv.name) (hp : lv.path = []) :
    resolveLocals (lv :: older) (n :: rest) =
      if rest = [] then .ok (.inl lv.value) else .error () := by
  cases rest <;> simp [resolveLocals, hn, hp]

theorem resolveLocals_append (A B : List LocalVar) (p : List GoString) :
    resolveLocals (A ++ B) p =
      match resolveLocals A p with
      | .ok (.inr q) => resolveLocals B q
      | r => r := by
  induction A generalizing p with
  | nil => rfl
  | cons lv A ih =>
    cases p with
    | nil => simp [resolveLocals, resolveLocals_nil_path]
    | cons n rest =>
      rw [List.cons_append]
      by_cases hn : n = lv.name
      · by_cases hp : lv.path = []
        · rw [resolveLocals_value _ _ _ _ hn hp, resolveLocals_value _ _ _ _ hn hp]
          split <;> rfl
        · rw [resolveLocals_alias _ _ _ _ hn hp, resolveLocals_alias _ _ _ _ hn hp, ih]
      · rw [resolveLocals_miss _ _ _ _ hn, resolveLocals_miss _ _ _ _ hn, ih]

theorem resolveLocals_skip (A B : List LocalVar) (n : GoString) (rest : List GoString)
    (h : ∀ lv ∈ A, lv.name ≠ n) :
    resolveLocals (A ++ B) (n :: rest) = resolveLocals B (n :: rest) := by
  induction A with
  | nil => rfl
  | cons lv A ih =>
    rw [List.cons_append, resolveLocals_miss _ _ _ _ (fun e => h lv (by simp) e.symm)]
    exact ih fun lv' hl => h lv' (by simp [hl])

theorem getValue_congr (o o' : Opts) (p p' : List GoString)
    (ht : o.tagName = o'.tagName) (hh : o.hook = o'.hook) (hu : o.unknown = o'.unknown)
    (h : resolveLocals o.locals.reverse p = resolveLocals o'.locals.reverse p') :
    getValue o d p = getValue o' d p' := by
  unfold getValue Opts.cfg
  rw [h, ht, hh, hu]

theorem getValue_of_resolve_value (k : GoString) (v : Any)
    (h : ∀ rest, resolveLocals o.locals.reverse (k :: rest) =
      if rest = [] then .ok (.inl v) else .error ()) :
    getValue o d [k] = .present v ∧ ∀ p ps, getValue o d (k :: p :: ps) = .error := by
  refine ⟨?_, fun p ps => ?_⟩ <;> unfold getValue <;> rw [h] <;> rfl

/-- the alias sends `x.rest` to its path, to be resolved by `L` alone (the key/index binding
    above it has another name and is skipped) -/
theorem resolve_scope_alias (L : List LocalVar) (vn kn : Option GoString) (path : List GoString)
    (w : GoVal) (x : GoString) (hx : vn = some x) (hk : kn ≠ some x) (hp : path ≠ [])
    (rest : List GoString) :
    resolveLocals (L ++ scopeBindings vn kn path w).reverse (x :: rest) =
      resolveLocals L.reverse (path ++ rest) := by
  subst hx
  unfold scopeBindings
  rw [List.reverse_append, List.reverse_append, List.append_assoc,
    resolveLocals_skip _ _ _ _ (by cases kn <;> simp_all [valueVar])]
  exact resolveLocals_alias (aliasVar x path) _ x rest rfl hp

theorem resolve_scope_value (L : List LocalVar) (vn kn : Option GoString) (path : List GoString)
    (w : GoVal) (k : GoString) (hk : kn = some k) (rest : List GoString) :
    resolveLocals (L ++ scopeBindings vn kn path w).reverse (k :: rest) =
      if rest = [] then .ok (.inl (some w)) else .error () := by
  subst hk
  unfold scopeBindings
  rw [List.reverse_append, List.reverse_append]
  exact resolveLocals_value (valueVar k w) _ k rest rfl rfl

/-- Inside the braces of a quantifier over a list, `x.rest` (`x` the value name) is the element's
    path `S.i.rest` resolved by the ENCLOSING scopes only: neither the index name of the same
    quantifier nor `x` itself can capture the first part of `S` (`getValue` in evaluate.go goes on
    with the OLDER bindings once an alias has fired).  `x` must not also be the index name: that
    is `any S as x, x`, an error by `coll_same_name_error`. -/
theorem alias_resolves_in_outer_scope (sel : Selector) (b : Binding) (i : Nat) (hs : Shaped b)
    (x : GoString) (hx : listValueName b = some x) (hk : listIndexName b ≠ some x)
    (rest : List GoString) :
    resolveLocals (o.locals ++ listBindings sel b i).reverse (x :: rest) =
      resolveLocals o.locals.reverse (sel.path ++ [GoString.natToDec i] ++ rest) := by
  rw [listBindings_shaped sel b i hs]
  exact resolve_scope_alias _ _ _ _ _ x hx hk (by simp) rest

/-- Lists, value name: `x.rest` inside the braces selects `rest` within element
    `i` of `S`, as seen from outside the braces -/
theorem binding_scope_value (sel : Selector) (b : Binding) (i : Nat) (hs : Shaped b)
    (x : GoString) (hx : listValueName b = some x) (hk : listIndexName b ≠ some x)
    (rest : List GoString) :
    getValue { o with locals := o.locals ++ listBindings sel b i } d (x :: rest) =
      getValue o d (sel.path ++ [GoString.natToDec i] ++ rest) :=
  getValue_congr d _ _ _ _ rfl rfl rfl
    (alias_resolves_in_outer_scope o sel b i hs x hx hk rest)

/-- Lists, index name: the index name is the position itself, an `int`;
    selecting into it is an error -/
theorem binding_scope_index (sel : Selector) (b : Binding) (i : Nat) (hs : Shaped b)
    (k : GoString) (hk : listIndexName b = some k) :
    getValue { o with locals := o.locals ++ listBindings sel b i } d [k] =
      .present (some (.int .int "" i)) ∧
    ∀ p ps, getValue { o with locals := o.locals ++ listBindings sel b i } d (k :: p :: ps) =
      .error := by
  rw [listBindings_shaped sel b i hs]
  exact getValue_of_resolve_value _ d k _ (resolve_scope_value _ _ _ _ _ k hk)

/-- Maps, value name: the value name aliases the entry `S.key` -/
theorem binding_scope_map_value (sel : Selector) (b : Binding) (key : GoString) (hs : Shaped b)
    (x : GoString) (hx : mapValueName b = some x) (hk : mapKeyName b ≠ some x)
    (rest : List GoString) :
    getValue { o with locals := o.locals ++ mapBindings sel b key } d (x :: rest) =
      getValue o d (sel.path ++ [key] ++ rest) := by
  rw [mapBindings_shaped sel b key hs]
  exact getValue_congr d _ _ _ _ rfl rfl rfl
    (resolve_scope_alias _ _ _ _ _ x hx hk (by simp) rest)

/-- Maps, key name: the key name is the key itself, a `string`; selecting into it is an
    error -/
theorem binding_scope_key (sel : Selector) (b : Binding) (key : GoString) (hs : Shaped b)
    (k : GoString) (hk : mapKeyName b = some k) :
    getValue { o with locals := o.locals ++ mapBindings sel b key } d [k] =
      .present (some (.str "" key)) ∧
    ∀ p ps, getValue { o with locals := o.locals ++ mapBindings sel b key } d (k :: p :: ps) =
      .error := by
  rw [mapBindings_shaped sel b key hs]
  exact getValue_of_resolve_value _ d k _ (resolve_scope_value _ _ _ _ _ k hk)

/-- Scoping: a path whose first part is none of the names the quantifier binds means
    inside the braces what it means outside -/
theorem binding_scope_other (bs : List LocalVar) (y : GoString) (rest : List GoString)
    (hy : ∀ lv ∈ bs, lv.name ≠ y) :
    getValue { o with locals := o.locals ++ bs } d (y :: rest) = getValue o d (y :: rest) := by
  refine getValue_congr d { o with locals := o.locals ++ bs } o _ _ rfl rfl rfl ?_
  show resolveLocals (o.locals ++ bs).reverse (y :: rest) = _
  rw [List.reverse_append]
  exact resolveLocals_skip _ _ y rest fun lv h => hy lv (List.mem_reverse.mp h)

/-- Shadowing of an outer quantifier's index `x = w` (the newest enclosing binding): inside the
    braces of `any S as x {…}` over a list `x` is element `i` of `S`, and of `any S as x, v {…}`
    it is the index; outside (with `o.locals` only) it is `w`.  (`shadowing_field` is the case of
    a top-level field of the datum.) -/
theorem shadowing (sel : Selector) (b : Binding) (i : Nat) (hs : Shaped b) (x : GoString)
    (outer : List LocalVar) (w : GoVal) (ho : o.locals = outer ++ [valueVar x w]) :
    -- outside: the outer binding
    getValue o d [x] = .present (some w) ∧
    -- inside, `x` the value name: the element, resolved in the outer scope
    (listValueName b = some x → listIndexName b ≠ some x →
      getValue { o with locals := o.locals ++ listBindings sel b i } d [x] =
        getValue o d (sel.path ++ [GoString.natToDec i])) ∧
    -- inside, `x` the index name: the position
    (listIndexName b = some x →
      getValue { o with locals := o.locals ++ listBindings sel b i } d [x] =
        .present (some (.int .int "" i))) := by
  refine ⟨?_, fun hx hk => ?_, fun hk => (binding_scope_index o d sel b i hs x hk).1⟩
  · refine (getValue_of_resolve_value o d x _ fun rest => ?_).1
    rw [ho]
    exact resolve_scope_value outer none (some x) [] w x rfl rest
  · simpa using binding_scope_value o d sel b i hs x hx hk []

/-- Shadowing of a top-level field: with no enclosing binding of `x`, outside the
    braces `x.rest` is the datum's field/key `x`; inside it is the binding -/
theorem shadowing_field (sel : Selector) (b : Binding) (i : Nat) (hs : Shaped b) (x : GoString)
    (rest : List GoString) (hno : ∀ lv ∈ o.locals, lv.name ≠ x)
    (hx : listValueName b = some x) (hk : listIndexName b ≠ some x) :
    resolveLocals o.locals.reverse (x :: rest) = .ok (.inr (x :: rest)) ∧
    getValue { o with locals := o.locals ++ listBindings sel b i } d (x :: rest) =
      getValue o d (sel.path ++ [GoString.natToDec i] ++ rest) := by
  refine ⟨?_, binding_scope_value o d sel b i hs x hx hk rest⟩
  simpa [resolveLocals] using resolveLocals_skip o.locals.reverse [] x rest fun lv h =>
    hno lv (List.mem_reverse.mp h)

/-- A quantifier as the left operand of `and`: the right operand is evaluated under the
    enclosing options `o`, without the quantifier's bindings (`C03.and_table` instantiated). -/
theorem scope_ends_at_brace (op : CollOp) (sel : Selector) (b : Binding) (inner r : Expr) :
    evaluate re (.and (.coll op sel b inner) r) o d =
      C03.andTable (evaluate re (.coll op sel b inner) o d) (evaluate re r o d) :=
  C03.and_table re o d _ r

/-! ## 5. Unrolling: `any S as x {P(x)}` = `P(S.0) or P(S.1) or …` -/

/-- replace a leading `x` of a selector path by the element's path -/
def substPath (x : GoString) (elem : List GoString) : List GoString → List GoString
  | [] => []
  | n :: rest => if n = x then elem ++ rest else n :: rest

def substSel (x : GoString) (elem : List GoString) (sel : Selector) : Selector :=
  { sel with path := substPath x elem sel.path }

/-- the quantifier pushes a binding named `x` -/
def bindsName (b : Binding) (x : GoString) : Bool :=
  (!b.default.isEmpty && b.default == x) || (!b.index.isEmpty && b.index == x) ||
    (!b.value.isEmpty && b.value == x)

/-- capture-avoiding substitution of the element path for the value name `x`: every selector
    (of a match and of a quantifier — the collection selector stands OUTSIDE the braces) that is
    in the scope of the outer `x`; the body of a quantifier that rebinds `x` is left alone -/
def subst (x : GoString) (elem : List GoString) : Expr → Expr
  | .not e => .not (subst x elem e)
  | .and l r => .and (subst x elem l) (subst x elem r)
  | .or l r => .or (subst x elem l) (subst x elem r)
  | .match_ sel op v => .match_ (substSel x elem sel) op v
  | .coll op sel b inner =>
    .coll op (substSel x elem sel) b (if bindsName b x then inner else subst x elem inner)

/-- right-nested disjunction of a non-empty list (`orChain [] ` is a dummy) -/
def orChain : List Expr → Expr
  | [] => .match_ ⟨.unknown, []⟩ .isEmpty none
  | [e] => e
  | e :: e' :: es => .or e (orChain (e' :: es))

def andChain : List Expr → Expr
  | [] => .match_ ⟨.unknown, []⟩ .isEmpty none
  | [e] => e
  | e :: e' :: es => .and e (andChain (e' :: es))

/-- at most one of the bindings a quantifier pushes is an alias (true of every parser-built
    binding record: the one-name form sets `default` only) -/
def oneAlias (b : Binding) : Bool := b.default.isEmpty || b.value.isEmpty

/-- Side condition of the unrolling, for the substituted name `x` and the FIRST part `h` of the
    element path that replaces it.  For every quantifier in the body that is in the scope of the
    outer `x`:
     * its selector has at least one part (with an empty selector the alias path is the bare
       index/key, which is not a selector occurrence that `subst` can see);
     * its binding record pushes at most one alias;
     * unless it rebinds `x`, it binds no name equal to `h` — otherwise the substituted path
       `h.….i.rest` would be captured by that binding, while the original `x.rest` is not. -/
def unrollOK (x h : GoString) : Expr → Bool
  | .not e => unrollOK x h e
  | .and l r => unrollOK x h l && unrollOK x h r
  | .or l r => unrollOK x h l && unrollOK x h r
  | .match_ .. => true
  | .coll _ sel b inner =>
    !sel.path.isEmpty && oneAlias b &&
      (bindsName b x || (!bindsName b h && unrollOK x h inner))

def substLV (x : GoString) (elem : List GoString) (lv : LocalVar) : LocalVar :=
  { lv with path := substPath x elem lv.path }

@[simp] theorem substPath_nil (x : GoString) (elem : List GoString) : substPath x elem [] = [] := rfl

theorem substPath_append (x : GoString) (elem p q : List GoString) (hp : p ≠ []) :
    substPath x elem (p ++ q) = substPath x elem p ++ q := by
  cases p with
  | nil => exact absurd rfl hp
  | cons n rest =>
    simp only [List.cons_append, substPath]
    split <;> simp

theorem substPath_eq_nil (x : GoString) (elem p : List GoString) (he : elem ≠ []) :
    substPath x elem p = [] ↔ p = [] := by
  cases p with
  | nil => simp
  | cons n rest => simp only [substPath]; split <;> simp [he]

theorem substPath_head (x : GoString) (elem rest : List GoString) :
    substPath x elem (x :: rest) = elem ++ rest := by
  simp [substPath]

theorem substPath_ne_head (x : GoString) (elem : List GoString) (n : GoString)
    (rest : List GoString) (h : n ≠ x) : substPath x elem (n :: rest) = n :: rest := by
  simp [substPath, h]

/-- the scope of the outer `x` is still open: `Xr` (newest first) are inner bindings, none named
    `x` or `h` -/
theorem resolve_active (x h : GoString) (et : List GoString) (outer : List LocalVar) :
    ∀ (Xr : List LocalVar), (∀ lv ∈ Xr, lv.name ≠ x ∧ lv.name ≠ h) → ∀ p,
    resolveLocals (Xr ++ aliasVar x (h :: et) :: outer) p =
      resolveLocals (Xr.map (substLV x (h :: et)) ++ outer) (substPath x (h :: et) p) := by
  intro Xr
  induction Xr with
  | nil =>
    intro _ p
    cases p with
    | nil => simp [resolveLocals_nil_path]
    | cons n rest =>
      by_cases hn : n = x
      · subst hn
        rw [substPath_head]
        exact resolveLocals_alias (aliasVar n (h :: et)) outer n rest rfl (List.cons_ne_nil _ _)
      · rw [substPath_ne_head _ _ _ _ hn]
        exact resolveLocals_miss _ _ _ _ hn
  | cons lv Xr ih =>
    intro hX p
    obtain ⟨hlx, hlh⟩ := hX lv (by simp)
    have ih' := ih fun l hl => hX l (by simp [hl])
    cases p with
    | nil => simp [resolveLocals_nil_path]
    | cons n rest =>
      rw [List.cons_append, List.map_cons, List.cons_append]
      by_cases hn : n = lv.name
      · -- the binding fires on both sides (its name is not `x`, so the path is unchanged)
        rw [substPath_ne_head _ _ _ _ (hn ▸ hlx)]
        by_cases hp : lv.path = []
        · rw [resolveLocals_value _ _ _ _ hn hp,
            resolveLocals_value (substLV x (h :: et) lv) _ _ _ hn (by simp [substLV, hp])]
          rfl
        · rw [resolveLocals_alias _ _ _ _ hn hp,
            resolveLocals_alias (substLV x (h :: et) lv) _ _ _ hn
              (by simpa [substLV, substPath_eq_nil] using hp), ih']
          exact congrArg _ (substPath_append _ _ _ _ hp)
      · rw [resolveLocals_miss _ _ _ _ hn, ih']
        by_cases hnx : n = x
        · subst hnx
          rw [substPath_head]
          exact (resolveLocals_miss (substLV n (h :: et) lv) _ h _ (Ne.symm hlh)).symm
        · rw [substPath_ne_head _ _ _ _ hnx]
          exact (resolveLocals_miss (substLV x (h :: et) lv) _ n _ hn).symm

/-- The bindings of one quantifier, all but the oldest of which are key/index bindings:
    substituting in the alias commutes with the scan, provided the scanned path does
    not start with an `x` that falls through -/
theorem resolve_one_quantifier (x : GoString) (elem : List GoString) (he : elem ≠ []) :
    ∀ (bsr : List LocalVar), (∀ lv ∈ bsr.dropLast, lv.path = []) → ∀ p,
    ((∃ lv ∈ bsr, lv.name = x) ∨ p.head? ≠ some x) →
    resolveLocals (bsr.map (substLV x elem)) p =
      match resolveLocals bsr p with
      | .ok (.inr q) => .ok (.inr (substPath x elem q))
      | r => r := by
  intro bsr
  induction bsr with
  | nil =>
    intro _ p hp
    cases p with
    | nil => rfl
    | cons n rest =>
      have hn : n ≠ x := by simpa using hp
      simp [resolveLocals, substPath_ne_head _ _ _ _ hn]
  | cons lv rest ih =>
    intro hval p hp
    cases p with
    | nil => rfl
    | cons n tl =>
      rw [List.map_cons]
      by_cases hn : n = lv.name
      · by_cases hpe : lv.path = []
        · rw [resolveLocals_value _ _ _ _ hn hpe,
            resolveLocals_value (substLV x elem lv) _ _ _ hn (by simp [substLV, hpe])]
          split <;> rfl
        · -- an alias is the oldest binding of its quantifier: the scan ends here
          obtain rfl : rest = [] := by
            cases rest with
            | nil => rfl
            | cons r rs => exact absurd (hval lv (by simp [List.dropLast])) hpe
          rw [resolveLocals_alias _ _ _ _ hn hpe, resolveLocals_alias (substLV x elem lv) _ _ _ hn
            (by simpa [substLV, substPath_eq_nil _ _ _ he] using hpe)]
          simp [resolveLocals, substLV, substPath_append _ _ _ _ hpe]
      · rw [resolveLocals_miss (substLV x elem lv) _ _ _ hn, resolveLocals_miss _ _ _ _ hn]
        refine ih (fun l hl => hval l ?_) _ ?_
        · cases rest with
          | nil => simp at hl
          | cons r rs => simp [List.dropLast, hl]
        · rcases hp with ⟨l, hl, hlx⟩ | hp
          · rcases List.mem_cons.mp hl with rfl | hl
            · exact Or.inr (by simpa using fun h : n = x => hn (h.trans hlx.symm))
            · exact Or.inl ⟨l, hl, hlx⟩
          · exact Or.inr hp

theorem evaluate_coll_congr (op : CollOp) (sel sel' : Selector) (b : Binding)
    (inner inner' : Expr) (o₁ o₂ : Opts)
    (hg : getValue o₁ d sel.path = getValue o₂ d sel'.path)
    (hstep : ∀ ix,
      evaluate re inner { o₁ with locals := o₁.locals ++ elemBindings sel b ix } d =
        evaluate re inner' { o₂ with locals := o₂.locals ++ elemBindings sel' b ix } d) :
    evaluate re (.coll op sel b inner) o₁ d = evaluate re (.coll op sel' b inner') o₂ d := by
  rw [evaluate_coll, evaluate_coll, hg]
  cases getValue o₂ d sel'.path with
  | present v =>
    dsimp only
    cases collIndices v with
    | none => rfl
    | some idx => exact Proofs.Options.collLoop_congr _ _ o₁ o₂ op b idx _ _ fun ix _ => hstep ix
  | _ => rfl

theorem evaluate_congr_locals (e : Expr) : ∀ (o : Opts) (L1 L2 : List LocalVar),
    (∀ p, resolveLocals L1.reverse p = resolveLocals L2.reverse p) →
    evaluate re e { o with locals := L1 } d = evaluate re e { o with locals := L2 } d := by
  induction e with
  | not e ih => intro o L1 L2 h; simp only [evaluate]; rw [ih o L1 L2 h]
  | and l r ihl ihr | or l r ihl ihr =>
    intro o L1 L2 h; simp only [evaluate]; rw [ihl o L1 L2 h, ihr o L1 L2 h]
  | match_ sel op v =>
    intro o L1 L2 h
    simp only [evaluate]
    exact C05.match_depends_on_getValue re _ d _ d sel sel op v
      (getValue_congr d _ _ _ _ rfl rfl rfl (h sel.path))
  | coll op sel b inner ih =>
    intro o L1 L2 h
    refine evaluate_coll_congr re d op sel sel b inner inner _ _
      (getValue_congr d _ _ _ _ rfl rfl rfl (h sel.path)) fun ix => ih o _ _ fun p => ?_
    -- what the pushed bindings leave of the path is scanned alike by `L1` and `L2`
    rw [List.reverse_append, List.reverse_append, resolveLocals_append, resolveLocals_append]
    cases resolveLocals (elemBindings sel b ix).reverse p with
    | error e => rfl
    | ok r => cases r <;> simp [h]

/-! ### facts about the pushed bindings -/

/-- `listBindings` and `mapBindings` are three optional singletons: quantifying over such a
    list is a condition on the one element -/
theorem exists_mem_opt {α : Type} (c : Bool) (v : α) (P : α → Prop) :
    (∃ a ∈ (if c then [v] else []), P a) ↔ c = true ∧ P v := by
  cases c <;> simp

theorem forall_mem_opt {α : Type} (c : Bool) (v : α) (P : α → Prop) :
    (∀ a ∈ (if c then [v] else []), P a) ↔ (c = true → P v) := by
  cases c <;> simp

theorem elemBindings_names (sel : Selector) (b : Binding) (ix : Nat ⊕ GoString) (x : GoString) :
    (∃ lv ∈ elemBindings sel b ix, lv.name = x) ↔ bindsName b x = true := by
  cases ix <;>
    simp only [elemBindings, listBindings, mapBindings, bindsName, List.mem_append, or_and_right,
      exists_or, exists_mem_opt, Bool.or_eq_true, Bool.and_eq_true, beq_iff_eq]
  -- the same three disjuncts, in the order of the push resp. of `bindsName`
  · exact or_right_comm
  · exact or_assoc.trans or_comm

theorem elemBindings_subst (x : GoString) (elem : List GoString) (sel : Selector) (b : Binding)
    (ix : Nat ⊕ GoString) (hs : sel.path ≠ []) :
    elemBindings (substSel x elem sel) b ix = (elemBindings sel b ix).map (substLV x elem) := by
  cases ix <;>
    simp [elemBindings, listBindings, mapBindings, substSel, substLV, substPath_append _ _ _ _ hs,
      apply_ite (List.map _)]

theorem elemBindings_oneAlias (sel : Selector) (b : Binding) (ix : Nat ⊕ GoString)
    (h : oneAlias b = true) :
    ∀ lv ∈ (elemBindings sel b ix).reverse.dropLast, lv.path = [] := by
  unfold oneAlias at h
  cases ix <;> simp only [elemBindings, listBindings, mapBindings] <;>
    cases h1 : b.default.isEmpty <;> cases h2 : b.value.isEmpty <;> cases h3 : b.index.isEmpty <;>
    simp [h1, h2, List.dropLast] at h ⊢

theorem elemBindings_paths (sel : Selector) (b : Binding) (ix : Nat ⊕ GoString) :
    ∀ lv ∈ elemBindings sel b ix, lv.path = [] ∨ lv.path = sel.path ++ [elemKey ix] := by
  cases ix <;>
    simp only [elemBindings, listBindings, mapBindings, elemKey, List.forall_mem_append,
      forall_mem_opt, or_true, true_or, implies_true, and_self]

theorem scan_active (x h : GoString) (et : List GoString) (O X : List LocalVar)
    (hX : ∀ lv ∈ X, lv.name ≠ x ∧ lv.name ≠ h) (p : List GoString) :
    resolveLocals (O ++ aliasVar x (h :: et) :: X).reverse p =
      resolveLocals (O ++ X.map (substLV x (h :: et))).reverse (substPath x (h :: et) p) := by
  have e1 : (O ++ aliasVar x (h :: et) :: X).reverse =
      X.reverse ++ aliasVar x (h :: et) :: O.reverse := by simp
  have e2 : (O ++ X.map (substLV x (h :: et))).reverse =
      X.reverse.map (substLV x (h :: et)) ++ O.reverse := by simp [List.map_reverse]
  rw [e1, e2]
  exact resolve_active x h et O.reverse X.reverse
    (fun lv hl => hX lv (List.mem_reverse.mp hl)) p

/-- the scope of the outer `x` has been closed by a quantifier that rebinds `x` (bindings `bs`) -/
theorem scan_shadowed (x h : GoString) (et : List GoString) (O X bs : List LocalVar)
    (hX : ∀ lv ∈ X, lv.name ≠ x ∧ lv.name ≠ h)
    (hone : ∀ lv ∈ bs.reverse.dropLast, lv.path = []) (hx : ∃ lv ∈ bs, lv.name = x)
    (p : List GoString) :
    resolveLocals ((O ++ aliasVar x (h :: et) :: X) ++ bs).reverse p =
      resolveLocals ((O ++ X.map (substLV x (h :: et))) ++ bs.map (substLV x (h :: et))).reverse
        p := by
  rw [List.reverse_append (as := O ++ aliasVar x (h :: et) :: X),
    List.reverse_append (as := O ++ X.map (substLV x (h :: et))), resolveLocals_append,
    resolveLocals_append, ← List.map_reverse]
  rw [resolve_one_quantifier x (h :: et) (by simp) bs.reverse hone p
    (Or.inl (by obtain ⟨lv, hl, hn⟩ := hx; exact ⟨lv, List.mem_reverse.mpr hl, hn⟩))]
  cases resolveLocals bs.reverse p with
  | error e => rfl
  | ok r =>
    cases r with
    | inl v => rfl
    | inr q => exact scan_active x h et O X hX q

/-- Key lemma of the unrolling: with the alias `x ↦ h :: et` in the local list (below it `O`,
    above it the bindings `X` of inner quantifiers that do not rebind `x`), evaluating `P` is
    evaluating the substituted `P` without the alias. -/
theorem evaluate_subst (x h : GoString) (et : List GoString) (O : List LocalVar) (P : Expr) :
    ∀ (o : Opts) (X : List LocalVar), unrollOK x h P = true →
      (∀ lv ∈ X, lv.name ≠ x ∧ lv.name ≠ h) →
      evaluate re P { o with locals := O ++ aliasVar x (h :: et) :: X } d =
        evaluate re (subst x (h :: et) P)
          { o with locals := O ++ X.map (substLV x (h :: et)) } d := by
  induction P with
  | not e ih =>
    intro o X hok hX
    simp only [unrollOK] at hok
    simp only [subst, evaluate]; rw [ih o X hok hX]
  | and l r ihl ihr | or l r ihl ihr =>
    intro o X hok hX
    simp only [unrollOK, Bool.and_eq_true] at hok
    simp only [subst, evaluate]; rw [ihl o X hok.1 hX, ihr o X hok.2 hX]
  | match_ sel op v =>
    intro o X _ hX
    simp only [subst, evaluate]
    exact C05.match_depends_on_getValue re _ d _ d sel (substSel x (h :: et) sel) op v
      (getValue_congr d _ _ _ _ rfl rfl rfl (scan_active x h et O X hX sel.path))
  | coll op sel b inner ih =>
    intro o X hok hX
    simp only [unrollOK, Bool.and_eq_true, Bool.or_eq_true, Bool.not_eq_true'] at hok
    obtain ⟨⟨hsel, hone⟩, hbind⟩ := hok
    have hselne : sel.path ≠ [] := by intro h0; simp [h0] at hsel
    refine evaluate_coll_congr re d op sel _ b inner _ _ _
      (getValue_congr d _ _ _ _ rfl rfl rfl (scan_active x h et O X hX sel.path)) fun ix => ?_
    rw [elemBindings_subst x (h :: et) sel b ix hselne]
    have hnx := elemBindings_names sel b ix x
    by_cases hb : bindsName b x = true
    · -- the quantifier rebinds `x`: its body is left alone, and both sides scan every path alike
      simp only [hb, if_true]
      exact evaluate_congr_locals re d inner o _ _
        (scan_shadowed x h et O X _ hX (elemBindings_oneAlias sel b ix hone) (hnx.mpr hb))
    · -- it does not, and does not bind `h` either: its bindings join `X`
      have hbh : bindsName b h = false ∧ unrollOK x h inner = true := hbind.resolve_left hb
      simp only [hb, Bool.false_eq_true, if_false, List.append_assoc, List.cons_append,
        ← List.map_append]
      refine ih o (X ++ elemBindings sel b ix) hbh.2 fun lv hl => ?_
      rcases List.mem_append.mp hl with hl | hl
      · exact hX lv hl
      · exact ⟨fun hn => hb (hnx.mp ⟨lv, hl, hn⟩), fun hn => by
          simpa [hbh.1] using (elemBindings_names sel b ix h).mp ⟨lv, hl, hn⟩⟩

/-! ### an unused binding can be dropped (for the two-name form) -/

/-- `k` may be looked up as the first part of a selector of `P` that is not in the scope of a
    quantifier of `P` binding `k`.  (A quantifier with an EMPTY selector counts as a use: its
    alias paths start with the bare index / key, which might spell `k`.) -/
def usesName (k : GoString) : Expr → Bool
  | .not e => usesName k e
  | .and l r => usesName k l || usesName k r
  | .or l r => usesName k l || usesName k r
  | .match_ sel _ _ => sel.path.head? == some k
  | .coll _ sel b inner =>
    sel.path.head? == some k || sel.path.isEmpty || (!bindsName b k && usesName k inner)

/-- scan-order invariant: an alias whose path starts with `k` has an OLDER binding of `k` in the
    same list -/
def kClosed (k : GoString) : List LocalVar → Prop
  | [] => True
  | lv :: older =>
    kClosed k older ∧ (lv.path = [] ∨ lv.path.head? ≠ some k ∨ ∃ l ∈ older, l.name = k)

theorem resolve_drop (k : GoString) (kb : LocalVar) (hk : kb.name = k) (R : List LocalVar) :
    ∀ (Xr : List LocalVar), kClosed k Xr → ∀ p,
    (p.head? ≠ some k ∨ ∃ l ∈ Xr, l.name = k) →
    resolveLocals (Xr ++ kb :: R) p = resolveLocals (Xr ++ R) p := by
  intro Xr
  induction Xr with
  | nil =>
    intro _ p hp
    cases p with
    | nil => simp [resolveLocals_nil_path]
    | cons n rest =>
      refine resolveLocals_miss kb R n rest ?_
      simpa [hk] using hp
  | cons lv older ih =>
    intro ⟨hco, hlv⟩ p hp
    cases p with
    | nil => simp [resolveLocals_nil_path]
    | cons n rest =>
      by_cases hn : n = lv.name
      · by_cases hpe : lv.path = []
        · rw [List.cons_append, List.cons_append, resolveLocals_value _ _ _ _ hn hpe,
            resolveLocals_value _ _ _ _ hn hpe]
        · -- the alias fires: its path does not start with a `k` that `older` leaves unbound
          rw [List.cons_append, List.cons_append, resolveLocals_alias _ _ _ _ hn hpe,
            resolveLocals_alias _ _ _ _ hn hpe]
          refine ih hco _ ((hlv.resolve_left hpe).imp_left fun h1 => ?_)
          obtain ⟨a, as, hq⟩ := List.exists_cons_of_ne_nil hpe
          rwa [hq] at h1 ⊢
      · rw [List.cons_append, List.cons_append, resolveLocals_miss _ _ _ _ hn,
          resolveLocals_miss _ _ _ _ hn]
        refine ih hco _ ?_
        rcases hp with hp | ⟨l, hl, hlk⟩
        · exact Or.inl hp
        · rcases List.mem_cons.mp hl with rfl | hl
          · exact Or.inl (by simpa using fun h : n = k => hn (h.trans hlk.symm))
          · exact Or.inr ⟨l, hl, hlk⟩

theorem kClosed_append (k : GoString) (A B : List LocalVar) (hB : kClosed k B)
    (hA : ∀ lv ∈ A, lv.path = [] ∨ lv.path.head? ≠ some k ∨ ∃ l ∈ B, l.name = k) :
    kClosed k (A ++ B) := by
  induction A with
  | nil => exact hB
  | cons lv A ih =>
    refine ⟨ih (fun l hl => hA l (by simp [hl])), ?_⟩
    rcases hA lv (by simp) with h | h | ⟨l, hl, hk⟩
    · exact Or.inl h
    · exact Or.inr (Or.inl h)
    · exact Or.inr (Or.inr ⟨l, by simp [hl], hk⟩)

theorem evaluate_drop (k : GoString) (kb : LocalVar) (hk : kb.name = k) (O : List LocalVar)
    (P : Expr) : ∀ (o : Opts) (X : List LocalVar), kClosed k X.reverse →
      (usesName k P = false ∨ ∃ l ∈ X, l.name = k) →
      evaluate re P { o with locals := O ++ kb :: X } d =
        evaluate re P { o with locals := O ++ X } d := by
  have hscan : ∀ X : List LocalVar, kClosed k X.reverse → ∀ p,
      (p.head? ≠ some k ∨ ∃ l ∈ X, l.name = k) →
      resolveLocals (O ++ kb :: X).reverse p = resolveLocals (O ++ X).reverse p := by
    intro X hc p hp
    have e1 : (O ++ kb :: X).reverse = X.reverse ++ kb :: O.reverse := by simp
    rw [e1, List.reverse_append]
    apply resolve_drop k kb hk O.reverse X.reverse hc p
    rcases hp with hp | ⟨l, hl, hlk⟩
    · exact Or.inl hp
    · exact Or.inr ⟨l, List.mem_reverse.mpr hl, hlk⟩
  induction P with
  | not e ih =>
    intro o X hc hu
    simp only [usesName] at hu
    simp only [evaluate]; rw [ih o X hc hu]
  | and l r ihl ihr | or l r ihl ihr =>
    intro o X hc hu
    simp only [usesName, Bool.or_eq_false_iff] at hu
    simp only [evaluate]
    rw [ihl o X hc (hu.imp_left (·.1)), ihr o X hc (hu.imp_left (·.2))]
  | match_ sel op v =>
    intro o X hc hu
    simp only [evaluate]
    refine C05.match_depends_on_getValue re _ d _ d sel sel op v
      (getValue_congr d _ _ _ _ rfl rfl rfl (hscan X hc sel.path ?_))
    exact hu.imp_left (by simp [usesName])
  | coll op sel b inner ih =>
    intro o X hc hu
    have hsel : sel.path.head? ≠ some k ∨ ∃ l ∈ X, l.name = k :=
      hu.imp_left (by simp only [usesName, Bool.or_eq_false_iff]; intro h; simpa using h.1.1)
    refine evaluate_coll_congr re d op sel sel b inner inner _ _
      (getValue_congr d _ _ _ _ rfl rfl rfl (hscan X hc sel.path hsel)) fun ix => ?_
    simp only [List.append_assoc, List.cons_append]
    refine ih o (X ++ elemBindings sel b ix) ?_ ?_
    · -- the new aliases stand for `sel.path ++ [_]`, which does not start with an unbound `k`
      rw [List.reverse_append]
      refine kClosed_append k _ _ hc fun lv hl => ?_
      rcases elemBindings_paths sel b ix lv (List.mem_reverse.mp hl) with hp | hp
      · exact Or.inl hp
      · rcases hu with hu | ⟨l, hl', hlk⟩
        · right; left
          simp only [usesName, Bool.or_eq_false_iff] at hu
          rw [hp]
          cases hsp : sel.path with
          | nil => simp [hsp] at hu
          | cons a as => have := hu.1.1; rw [hsp] at this; simpa using this
        · right; right; exact ⟨l, List.mem_reverse.mpr hl', hlk⟩
    · rcases hu with hu | ⟨l, hl', hlk⟩
      · simp only [usesName, Bool.or_eq_false_iff, Bool.and_eq_false_iff,
          Bool.not_eq_false'] at hu
        rcases hu.2 with hb | hi
        · right
          obtain ⟨lv, hl, hn⟩ := (elemBindings_names sel b ix k).mpr hb
          exact ⟨lv, by simp [hl], hn⟩
        · left; exact hi
      · right; exact ⟨l, by simp [hl'], hlk⟩

theorem evaluate_drop_newest (kb : LocalVar) (L : List LocalVar) (P : Expr)
    (hu : usesName kb.name P = false) :
    evaluate re P { o with locals := L ++ [kb] } d = evaluate re P { o with locals := L } d := by
  simpa using evaluate_drop re d kb.name kb rfl L P o [] (by simp [kClosed]) (Or.inl hu)

/-! ### the chains -/

def chain : CollOp → List Expr → Expr
  | .any => orChain
  | .all => andChain

/-- The chain evaluates to the fold of its members' outcomes.  `or`/`and` hand an error of a
    member on with its boolean while the fold gives `.err false`: equal because every error
    carries `false` (`C03.err_bool_false`). -/
theorem evaluate_chain (op : CollOp) (es : List Expr) (hne : es ≠ []) :
    evaluate re (chain op es) o d = foldColl op (es.map fun e => evaluate re e o d) := by
  induction es with
  | nil => exact absurd rfl hne
  | cons e rest ih =>
    have hx := C03.err_bool_false re d e o
    cases rest with
    | nil =>
      rw [show chain op [e] = e by cases op <;> rfl, List.map_cons, List.map_nil]
      cases he : evaluate re e o d with
      | val r => exact (foldColl_singleton op r).symm
      | err eb => rw [hx eb he]; rfl
      | _ => rfl
    | cons e' es =>
      have ih' := ih (by simp)
      cases op <;> simp only [chain, orChain, andChain, evaluate, List.map_cons] at ih' ⊢ <;>
        rw [ih'] <;> cases he : evaluate re e o d with
        | val r => cases r <;> rfl
        | err eb => rw [hx eb he]; rfl
        | _ => rfl

/-- the first part of the path of element `i` (resp. of the entry `key`) of the collection at
    `sel`: the first part of `sel`, or the index / key itself for an empty selector -/
def elemHead (sel : Selector) (last : GoString) : GoString := (sel.path ++ [last]).headD []

theorem elem_path_cons (sel : Selector) (last : GoString) :
    ∃ et, sel.path ++ [last] = elemHead sel last :: et := by
  unfold elemHead
  cases sel.path with
  | nil => exact ⟨[], rfl⟩
  | cons s ss => exact ⟨ss ++ [last], rfl⟩

theorem unroll_element (x : GoString) (sel : Selector) (last : GoString) (P : Expr)
    (hok : unrollOK x (elemHead sel last) P = true) :
    evaluate re P { o with locals := o.locals ++ [aliasVar x (sel.path ++ [last])] } d =
      evaluate re (subst x (sel.path ++ [last]) P) o d := by
  obtain ⟨et, he⟩ := elem_path_cons sel last
  rw [he]
  have := evaluate_subst re d x (elemHead sel last) et o.locals P o [] hok (by simp)
  simpa using this

/-- The general form of the unrolling, over whatever the selector ranges over (`keys`, embedded
    by `ix` as positions or map keys); `hb`: the pushed bindings act on `P` like the single alias
    `x ↦ S.key`. -/
theorem coll_unroll_of {ι : Type} (op : CollOp) (sel : Selector) (b : Binding) (P : Expr)
    (v : Any) (keys : List ι) (ix : ι → Nat ⊕ GoString)
    (hv : getValue o d sel.path = .present v) (hi : collIndices v = some (keys.map ix))
    (hne : keys ≠ []) (x : GoString) (hns : ¬ sameName b)
    (hb : ∀ j ∈ keys,
      evaluate re P { o with locals := o.locals ++ elemBindings sel b (ix j) } d =
        evaluate re P
          { o with locals := o.locals ++ [aliasVar x (sel.path ++ [elemKey (ix j)])] } d)
    (hok : ∀ j ∈ keys, unrollOK x (elemHead sel (elemKey (ix j))) P = true) :
    evaluate re (.coll op sel b P) o d =
      evaluate re (chain op (keys.map fun j => subst x (sel.path ++ [elemKey (ix j)]) P)) o d := by
  rw [coll_fold re o d op sel b P v _ hv hi (fun h => absurd h hns),
    evaluate_chain re o d op _ (by simpa using hne), List.map_map, List.map_map]
  exact congrArg _ (List.map_congr_left fun j hj =>
    (hb j hj).trans (unroll_element re o d x sel _ P (hok j hj)))

/-- A quantifier over a present list of `n ≥ 1` elements whose binding pushes exactly the alias
    `x ↦ S.i` equals the right-nested `or` / `and` chain of the instances `P[x := S.i]` evaluated
    in the enclosing scope.  (For `n = 0` see `coll_empty`: the expression language has no
    constant to unroll to.) -/
theorem coll_unroll (op : CollOp) (sel : Selector) (b : Binding) (P : Expr) (v : Any)
    (xs : List GoVal) (hl : IsList v xs) (hv : getValue o d sel.path = .present v)
    (hne : xs ≠ []) (x : GoString) (hns : ¬ sameName b)
    (hb : ∀ i, listBindings sel b i = [aliasVar x (sel.path ++ [GoString.natToDec i])])
    (hok : ∀ i, i < xs.length → unrollOK x (elemHead sel (GoString.natToDec i)) P = true) :
    evaluate re (.coll op sel b P) o d =
      evaluate re (chain op ((List.range xs.length).map fun i =>
        subst x (sel.path ++ [GoString.natToDec i]) P)) o d :=
  coll_unroll_of re o d op sel b P v (List.range xs.length) .inl hv (collIndices_list hl)
    (by simpa using hne) x hns (fun i _ => by simp only [elemBindings, elemKey, hb i])
    fun i hi => hok i (List.mem_range.mp hi)

theorem elemBindings_value (sel : Selector) (b : Binding) (ix : Nat ⊕ GoString) (hs : Shaped b)
    (hm : b.mode = .value) :
    elemBindings sel b ix = [aliasVar b.value (sel.path ++ [elemKey ix])] := by
  cases ix <;>
    simp [elemBindings, elemKey, listBindings_shaped _ _ _ hs, mapBindings_shaped _ _ _ hs,
      scopeBindings, listValueName, listIndexName, mapValueName, mapKeyName, hm]

theorem two_name_step (sel : Selector) (b : Binding) (P : Expr) (ix : Nat ⊕ GoString)
    (hs : Shaped b) (hm : b.mode = .indexAndValue) (hunused : usesName b.index P = false) :
    evaluate re P { o with locals := o.locals ++ elemBindings sel b ix } d =
      evaluate re P { o with locals := o.locals ++ [aliasVar b.value (sel.path ++ [elemKey ix])] } d := by
  cases ix <;>
    simp only [elemBindings, elemKey, listBindings_shaped _ _ _ hs, mapBindings_shaped _ _ _ hs,
      scopeBindings, listValueName, listIndexName, mapValueName, mapKeyName, hm,
      ← List.append_assoc] <;>
    exact evaluate_drop_newest re o d (valueVar b.index _) _ P hunused

/-- the one-name form `any S as x {P}` (lists: the name is the element) -/
theorem coll_unroll_default (op : CollOp) (sel : Selector) (b : Binding) (P : Expr) (v : Any)
    (xs : List GoVal) (hl : IsList v xs) (hv : getValue o d sel.path = .present v)
    (hne : xs ≠ []) (hs : Shaped b) (hm : b.mode = .default)
    (hok : ∀ i, i < xs.length →
      unrollOK b.default (elemHead sel (GoString.natToDec i)) P = true) :
    evaluate re (.coll op sel b P) o d =
      evaluate re (chain op ((List.range xs.length).map fun i =>
        subst b.default (sel.path ++ [GoString.natToDec i]) P)) o d :=
  coll_unroll re o d op sel b P v xs hl hv hne b.default (by simp [sameName, hm])
    (one_name_form sel b hs hm).1 hok

/-- the value form `any S as _, x {P}` (mode `value`) -/
theorem coll_unroll_value (op : CollOp) (sel : Selector) (b : Binding) (P : Expr) (v : Any)
    (xs : List GoVal) (hl : IsList v xs) (hv : getValue o d sel.path = .present v)
    (hne : xs ≠ []) (hs : Shaped b) (hm : b.mode = .value)
    (hok : ∀ i, i < xs.length →
      unrollOK b.value (elemHead sel (GoString.natToDec i)) P = true) :
    evaluate re (.coll op sel b P) o d =
      evaluate re (chain op ((List.range xs.length).map fun i =>
        subst b.value (sel.path ++ [GoString.natToDec i]) P)) o d :=
  coll_unroll re o d op sel b P v xs hl hv hne b.value (by simp [sameName, hm])
    (fun i => elemBindings_value sel b (.inl i) hs hm) hok

/-- the value form over a string-keyed map: the chain over the entries in sorted key order -/
theorem coll_unroll_map_value (op : CollOp) (sel : Selector) (b : Binding) (P : Expr)
    (n : String) (vt : GoType) (nl : Bool) (es : List (GoVal × GoVal))
    (hv : getValue o d sel.path = .present (some (.map n GoType.stringT vt nl es)))
    (hne : es ≠ []) (hs : Shaped b) (hm : b.mode = .value)
    (hok : ∀ k ∈ sortKeys (es.map fun e => strKey e.1),
      unrollOK b.value (elemHead sel k) P = true) :
    evaluate re (.coll op sel b P) o d =
      evaluate re (chain op ((sortKeys (es.map fun e => strKey e.1)).map fun k =>
        subst b.value (sel.path ++ [k]) P)) o d := by
  refine coll_unroll_of re o d op sel b P _ _ .inr hv (collIndices_map n vt nl es)
    (by simpa [sortKeys_eq_nil] using hne) b.value (by simp [sameName, hm]) (fun k _ => ?_) hok
  rw [elemBindings_value sel b _ hs hm]

/-- the two-name form `any S as k, x {P}` over a list, the index name `k` not used by the body -/
theorem coll_unroll_index_and_value (op : CollOp) (sel : Selector) (b : Binding) (P : Expr)
    (v : Any) (xs : List GoVal) (hl : IsList v xs) (hv : getValue o d sel.path = .present v)
    (hne : xs ≠ []) (hs : Shaped b) (hm : b.mode = .indexAndValue) (hkx : b.index ≠ b.value)
    (hunused : usesName b.index P = false)
    (hok : ∀ i, i < xs.length →
      unrollOK b.value (elemHead sel (GoString.natToDec i)) P = true) :
    evaluate re (.coll op sel b P) o d =
      evaluate re (chain op ((List.range xs.length).map fun i =>
        subst b.value (sel.path ++ [GoString.natToDec i]) P)) o d := by
  exact coll_unroll_of re o d op sel b P v (List.range xs.length) .inl hv (collIndices_list hl)
    (by simpa using hne) b.value (fun h => hkx h.2)
    (fun i _ => two_name_step re o d sel b P _ hs hm hunused)
    fun i hi => hok i (List.mem_range.mp hi)

/-- the two-name form over a string-keyed map, the key name not used by the body -/
theorem coll_unroll_map_index_and_value (op : CollOp) (sel : Selector) (b : Binding) (P : Expr)
    (n : String) (vt : GoType) (nl : Bool) (es : List (GoVal × GoVal))
    (hv : getValue o d sel.path = .present (some (.map n GoType.stringT vt nl es)))
    (hne : es ≠ []) (hs : Shaped b) (hm : b.mode = .indexAndValue) (hkx : b.index ≠ b.value)
    (hunused : usesName b.index P = false)
    (hok : ∀ k ∈ sortKeys (es.map fun e => strKey e.1),
      unrollOK b.value (elemHead sel k) P = true) :
    evaluate re (.coll op sel b P) o d =
      evaluate re (chain op ((sortKeys (es.map fun e => strKey e.1)).map fun k =>
        subst b.value (sel.path ++ [k]) P)) o d := by
  exact coll_unroll_of re o d op sel b P _ _ .inr hv (collIndices_map n vt nl es)
    (by simpa [sortKeys_eq_nil] using hne) b.value (fun h => hkx h.2)
    (fun k _ => two_name_step re o d sel b P _ hs hm hunused) hok

/-! ## Non-vacuity and the necessity of the side conditions -/

section Examples

def f64_1 : GoVal := .float .float64 "" 0x3FF0000000000000
def f64_2 : GoVal := .float .float64 "" 0x4000000000000000

/-- `{"k": [1, 2]}` as `encoding/json` decodes it -/
def exDatum : Any :=
  some (.map "" GoType.stringT .iface false
    [(.str "" [107], .iface (some (.slice "" .iface false [.iface (some f64_1), .iface (some f64_2)])))])

def exOpts : Opts := { tagName := [98, 101, 120, 112, 114], hook := .off, unknown := none, locals := [] }
def noRe : RegexOracle := fun _ => none

def selK : Selector := ⟨.bexpr, [[107]]⟩                         -- k
def bindX : Binding := { mode := .default, default := [120] }      -- as x
def bodyXeq (lit : UInt8) : Expr := .match_ ⟨.bexpr, [[120]]⟩ .equal (some [lit])   -- x == lit

theorem exDatum_k : getValue exOpts exDatum selK.path = .present (some (.slice "" .iface false
    [.iface (some f64_1), .iface (some f64_2)])) := rfl

/-- `any k as x { x == 2 }` is true, `all k as x { x == 2 }` false -/
example : evaluate noRe (.coll .any selK bindX (bodyXeq 50)) exOpts exDatum = .val true := by
  decide +kernel
example : evaluate noRe (.coll .all selK bindX (bodyXeq 50)) exOpts exDatum = .val false := by
  decide +kernel

/-- … and equals its unrolling `k.0 == 2 or k.1 == 2` by `coll_unroll_default` -/
example : evaluate noRe (.coll .any selK bindX (bodyXeq 50)) exOpts exDatum =
    evaluate noRe (.or (.match_ ⟨.bexpr, [[107], [48]]⟩ .equal (some [50]))
      (.match_ ⟨.bexpr, [[107], [49]]⟩ .equal (some [50]))) exOpts exDatum := by
  exact coll_unroll_default noRe exOpts exDatum .any selK bindX (bodyXeq 50) _
    [.iface (some f64_1), .iface (some f64_2)] (Or.inl ⟨_, _, _, rfl⟩) exDatum_k
    (by simp) (by decide) rfl (by intro i _; rfl)

/-- a body that is itself a quantifier: `any k as x { any k as y { y == 2 } }` satisfies the side
    condition and unrolls to `(any k as y { y == 2 }) or (any k as y { y == 2 })` (the body does
    not mention `x`, so the substitution leaves it as it is) -/
example : evaluate noRe (.coll .any selK bindX
      (.coll .any selK { mode := .default, default := [121] }
        (.match_ ⟨.bexpr, [[121]]⟩ .equal (some [50])))) exOpts exDatum =
    evaluate noRe (chain .any ((List.range 2).map fun i =>
      subst [120] (selK.path ++ [GoString.natToDec i])
        (.coll .any selK { mode := .default, default := [121] }
          (.match_ ⟨.bexpr, [[121]]⟩ .equal (some [50]))))) exOpts exDatum := by
  exact coll_unroll_default noRe exOpts exDatum .any selK bindX _ _
    [.iface (some f64_1), .iface (some f64_2)] (Or.inl ⟨_, _, _, rfl⟩) exDatum_k
    (by simp) (by decide) rfl (by intro i _; rfl)

/-- `any k as k, v { v == 1 }`: the index name `k` of the quantifier does not capture the
    collection path `k` that the alias `v` stands for -/
example : evaluate noRe
    (.coll .any selK { mode := .indexAndValue, index := [107], value := [118] }
      (.match_ ⟨.bexpr, [[118]]⟩ .equal (some [49]))) exOpts exDatum = .val true := by
  decide +kernel

/-- the index name is the position: `any k as i, v { i == 1 and v == 2 }` -/
example : evaluate noRe
    (.coll .any selK { mode := .indexAndValue, index := [105], value := [118] }
      (.and (.match_ ⟨.bexpr, [[105]]⟩ .equal (some [49]))
        (.match_ ⟨.bexpr, [[118]]⟩ .equal (some [50])))) exOpts exDatum = .val true := by
  decide +kernel

/-- `any k as x, x {…}` over a non-empty list is an error -/
example : evaluate noRe
    (.coll .any selK { mode := .indexAndValue, index := [120], value := [120] } (bodyXeq 49))
    exOpts exDatum = .err false := by
  decide +kernel

/-- the first decisive element ends the fold: `any k as x { x == 1 or x.f == 1 }` never reaches
    the erroneous `x.f` of element 1, while `all` of the same body does -/
example : evaluate noRe (.coll .any selK bindX
    (.or (bodyXeq 49) (.match_ ⟨.bexpr, [[120], [102]]⟩ .equal (some [49])))) exOpts exDatum
      = .val true := by
  decide +kernel
example : evaluate noRe (.coll .all selK bindX
    (.or (bodyXeq 49) (.match_ ⟨.bexpr, [[120], [102]]⟩ .equal (some [49])))) exOpts exDatum
      = .err false := by
  decide +kernel

/-- iterating a scalar is an error -/
example : evaluate noRe (.coll .any ⟨.bexpr, [[107], [48]]⟩ bindX (bodyXeq 49)) exOpts exDatum
    = .err false := by
  decide +kernel

/-- `{"k": [{"a": [0], "b": 1}]}` -/
def capDatum : Any :=
  some (.map "" GoType.stringT .iface false
    [(.str "" [107], .iface (some (.slice "" .iface false
      [.iface (some (.map "" GoType.stringT .iface false
        [(.str "" [97], .iface (some (.slice "" .iface false
            [.iface (some (.float .float64 "" 0))]))),
         (.str "" [98], .iface (some f64_1))]))])))])

/-- `any x.a as k { x.b == 1 }`: the body of `any k as x {…}` below -/
def capBody : Expr :=
  .coll .any ⟨.bexpr, [[120], [97]]⟩ { mode := .default, default := [107] }
    (.match_ ⟨.bexpr, [[120], [98]]⟩ .equal (some [49]))

/-- The capture side condition of the unrolling is necessary.  In
    `any k as x { any x.a as k { x.b == 1 } }` the inner quantifier binds `k`, the first part of
    the outer collection path: `unrollOK` fails, and indeed the quantifier is true while the
    textual unrolling `any k.0.a as k { k.0.b == 1 }` is an error (its `k.0.b` is captured by the
    inner `k`). -/
example : unrollOK [120] (elemHead selK (GoString.natToDec 0)) capBody = false := by decide
example : evaluate noRe (.coll .any selK bindX capBody) exOpts capDatum = .val true := by
  decide +kernel
example : evaluate noRe (subst [120] (selK.path ++ [GoString.natToDec 0]) capBody) exOpts capDatum
    = .err false := by
  decide +kernel

end Examples

end Bexpr.Props.C06

#print axioms Bexpr.Props.C06.coll_list_fold
#print axioms Bexpr.Props.C06.coll_map_fold
#print axioms Bexpr.Props.C06.coll_same_name_error
#print axioms Bexpr.Props.C06.any_iff_exists
#print axioms Bexpr.Props.C06.all_iff_forall
#print axioms Bexpr.Props.C06.any_iff_exists_map
#print axioms Bexpr.Props.C06.all_iff_forall_map
#print axioms Bexpr.Props.C06.coll_empty
#print axioms Bexpr.Props.C06.coll_absent
#print axioms Bexpr.Props.C06.coll_first_error
#print axioms Bexpr.Props.C06.coll_first_decisive
#print axioms Bexpr.Props.C06.coll_bad_kind
#print axioms Bexpr.Props.C06.one_name_form
#print axioms Bexpr.Props.C06.alias_resolves_in_outer_scope
#print axioms Bexpr.Props.C06.binding_scope_value
#print axioms Bexpr.Props.C06.binding_scope_index
#print axioms Bexpr.Props.C06.binding_scope_map_value
#print axioms Bexpr.Props.C06.binding_scope_key
#print axioms Bexpr.Props.C06.binding_scope_other
#print axioms Bexpr.Props.C06.shadowing
#print axioms Bexpr.Props.C06.shadowing_field
#print axioms Bexpr.Props.C06.scope_ends_at_brace
#print axioms Bexpr.Props.C06.evaluate_congr_locals
#print axioms Bexpr.Props.C06.evaluate_subst
#print axioms Bexpr.Props.C06.evaluate_drop
#print axioms Bexpr.Props.C06.coll_unroll
#print axioms Bexpr.Props.C06.coll_unroll_default
#print axioms Bexpr.Props.C06.coll_unroll_value
#print axioms Bexpr.Props.C06.coll_unroll_index_and_value
#print axioms Bexpr.Props.C06.coll_unroll_map_value
#print axioms Bexpr.Props.C06.coll_unroll_map_index_and_value
