/-
  C03 — not/and/or are truth-functional, short-circuit left to right, errors propagate.

  The theorems are about `Eval.evaluate` (the model of evaluate.go:evaluate) and hold for every
  regexp oracle, option record and datum; the outcomes of the operands are arbitrary.  The tie of
  the connectives to the source is `Ties/EvaluateSem.lean` (the regenerated GoLite term of `evaluate`
  interpreted on every combination of operand outcomes: results equal to the tables below, calls
  exactly `evaluate(left)` [`, evaluate(right)`]) and the `conn` correspondence fragment.
-/
import Bexpr.Eval.Impl

namespace Bexpr.Props.C03
open Bexpr Bexpr.Eval Bexpr.Go

variable (re : RegexOracle) (o : Opts) (d : Any)

/-- the outcome table of `and`: A's outcome if A is false or an error, otherwise B's -/
def andTable (a b : Out) : Out :=
  match a with
  | .val true => b
  | x => x

/-- the outcome table of `or`: A's outcome if A is true or an error, otherwise B's -/
def orTable (a b : Out) : Out :=
  match a with
  | .val false => b
  | x => x

/-- `not` swaps true and false and passes an error through (with `false`) -/
def notTable (a : Out) : Out :=
  match a with
  | .val b => .val (!b)
  | .err _ => .err false
  | x => x

theorem and_table (l r : Expr) :
    evaluate re (.and l r) o d = andTable (evaluate re l o d) (evaluate re r o d) := by
  rw [evaluate]
  cases evaluate re l o d with
  | val b => cases b <;> rfl
  | _ => rfl

theorem or_table (l r : Expr) :
    evaluate re (.or l r) o d = orTable (evaluate re l o d) (evaluate re r o d) := by
  rw [evaluate]
  cases evaluate re l o d with
  | val b => cases b <;> rfl
  | _ => rfl

theorem not_table (e : Expr) :
    evaluate re (.not e) o d = notTable (evaluate re e o d) := by
  rw [evaluate]
  cases evaluate re e o d <;> rfl

/-- an error in a sub-expression that the short circuit never reaches is not reported -/
theorem unreached_error_silent_and (l r : Expr) (h : evaluate re l o d = .val false) :
    evaluate re (.and l r) o d = .val false := by
  rw [and_table, h]; rfl

theorem unreached_error_silent_or (l r : Expr) (h : evaluate re l o d = .val true) :
    evaluate re (.or l r) o d = .val true := by
  rw [or_table, h]; rfl

/-- an error on the left is the result (the right side is not consulted) -/
theorem left_error_propagates_and (l r : Expr) (b : Bool) (h : evaluate re l o d = .err b) :
    evaluate re (.and l r) o d = .err b := by
  rw [and_table, h]; rfl

theorem left_error_propagates_or (l r : Expr) (b : Bool) (h : evaluate re l o d = .err b) :
    evaluate re (.or l r) o d = .err b := by
  rw [or_table, h]; rfl

/-! ## The tables on arbitrary outcomes -/

theorem notTable_err {a : Out} {b : Bool} (h : notTable a = .err b) : b = false := by
  cases a <;> cases h <;> rfl

theorem notTable_panic {a : Out} (h : notTable a = .panic) : a = .panic := by
  cases a <;> first | rfl | cases h

theorem andTable_cases (a c : Out) : andTable a c = a ∨ andTable a c = c := by
  cases a with
  | val v => cases v with
    | true => exact .inr rfl
    | false => exact .inl rfl
  | _ => exact .inl rfl

theorem orTable_cases (a c : Out) : orTable a c = a ∨ orTable a c = c := by
  cases a with
  | val v => cases v with
    | false => exact .inr rfl
    | true => exact .inl rfl
  | _ => exact .inl rfl

/-- `not` is an involution except that it forgets the boolean of an error -/
theorem notTable_notTable {a : Out} (h : a ≠ .err true) : notTable (notTable a) = a := by
  cases a with
  | val v => cases v <;> rfl
  | err b => cases b with
    | false => rfl
    | true => exact absurd rfl h
  | _ => rfl

/-- De Morgan holds for the tables on all outcomes, errors and panics included -/
theorem notTable_andTable (a c : Out) :
    notTable (andTable a c) = orTable (notTable a) (notTable c) := by
  cases a with
  | val v => cases v <;> rfl
  | _ => rfl

theorem notTable_orTable (a c : Out) :
    notTable (orTable a c) = andTable (notTable a) (notTable c) := by
  cases a with
  | val v => cases v <;> rfl
  | _ => rfl

/-! ## Every error outcome carries `false`

Each function below returns an outcome written in its body (`.err false`, `.val _`, …), the
outcome of another function of the list, or `negate` of one. -/

/-- `notTable` is the model's `negate` -/
theorem notTable_eq_negate (x : Out) : notTable x = negate x := by
  cases x <;> rfl

theorem negate_err_false (x : Out) (b : Bool) (h : negate x = .err b) : b = false :=
  notTable_err (notTable_eq_negate x ▸ h)

theorem doMatchEqual_err_false (raw : Option GoString) (v : RV) (b : Bool)
    (h : doMatchEqual raw v = .err b) : b = false := by
  unfold doMatchEqual at h
  simp only [] at h
  repeat' split at h
  all_goals cases h <;> rfl

theorem inIfaceLoop_err_false (raw : GoString) (xs : List GoVal) (b : Bool)
    (h : inIfaceLoop raw xs = .err b) : b = false := by
  induction xs with
  | nil => cases h
  | cons x xs ih =>
    unfold inIfaceLoop at h
    simp only [] at h
    repeat' split at h
    all_goals first | exact ih h | cases h <;> rfl

theorem inConcreteLoop_err_false (k : Kind) (lit : Lit) (xs : List GoVal) (b : Bool)
    (h : inConcreteLoop k lit xs = .err b) : b = false := by
  induction xs with
  | nil => cases h
  | cons x xs ih =>
    unfold inConcreteLoop at h
    repeat' split at h
    all_goals first | exact ih h | cases h <;> rfl

theorem inElems_err_false (raw : GoString) (elem : GoType) (xs : List GoVal) (b : Bool)
    (h : doMatchIn.inElems raw elem xs = .err b) : b = false := by
  unfold doMatchIn.inElems at h
  simp only [] at h
  split at h
  · exact inIfaceLoop_err_false _ _ _ h
  · split at h
    · cases h
    · split at h
      · cases h; rfl
      · split at h
        · cases h; rfl
        · exact inConcreteLoop_err_false _ _ _ _ h

theorem doMatchIn_err_false (raw : Option GoString) (v : RV) (b : Bool)
    (h : doMatchIn raw v = .err b) : b = false := by
  unfold doMatchIn at h
  repeat' split at h
  all_goals first | exact inElems_err_false _ _ _ _ h | cases h <;> rfl

theorem doMatchIsEmpty_err_false (v : RV) (b : Bool) (h : doMatchIsEmpty v = .err b) :
    b = false := by
  unfold doMatchIsEmpty at h
  repeat' split at h
  all_goals cases h <;> rfl

theorem doMatchMatches_err_false (raw : Option GoString) (v : RV) (b : Bool)
    (h : doMatchMatches re raw v = .err b) : b = false := by
  unfold doMatchMatches at h
  repeat' split at h
  all_goals cases h <;> rfl

theorem evaluateMatch_err_false (sel : Selector) (op : MatchOp) (raw : Option GoString) (b : Bool)
    (h : evaluateMatch re o d sel op raw = .err b) : b = false := by
  unfold evaluateMatch at h
  split at h
  · cases h; rfl
  · cases h
  · cases h
  · split at h
    · cases h; rfl
    · cases op <;> simp only [] at h
      · exact doMatchEqual_err_false _ _ _ h
      · exact negate_err_false _ _ h
      · exact doMatchIn_err_false _ _ _ h
      · exact negate_err_false _ _ h
      · exact doMatchIsEmpty_err_false _ _ h
      · exact negate_err_false _ _ h
      · exact doMatchMatches_err_false re _ _ _ h
      · exact negate_err_false _ _ h

theorem collLoop_err_false (f : Opts → Out) (op : CollOp) (bnd : Binding)
    (bss : List (List LocalVar)) (b : Bool) (h : collLoop f o op bnd bss = .err b) :
    b = false := by
  induction bss with
  | nil => cases h
  | cons bs rest ih =>
    unfold collLoop at h
    split at h
    · cases h; rfl
    · split at h
      · split at h
        · cases h
        · exact ih h
      · cases h; rfl
      · next _ hne => exact absurd h (hne _)

/-- an error outcome always carries `false` (the documented contract of Evaluate) -/
theorem err_bool_false (e : Expr) : ∀ (o : Opts) (b : Bool), evaluate re e o d = .err b → b = false := by
  induction e with
  | not e ih => intro o b h; rw [not_table] at h; exact notTable_err h
  | and l r ihl ihr =>
    intro o b h
    rw [and_table] at h
    rcases andTable_cases (evaluate re l o d) (evaluate re r o d) with e | e <;> rw [e] at h
    · exact ihl o b h
    · exact ihr o b h
  | or l r ihl ihr =>
    intro o b h
    rw [or_table] at h
    rcases orTable_cases (evaluate re l o d) (evaluate re r o d) with e | e <;> rw [e] at h
    · exact ihl o b h
    · exact ihr o b h
  | match_ sel op raw =>
    intro o b h
    rw [evaluate] at h
    exact evaluateMatch_err_false re o d sel op raw b h
  | coll op sel bnd inner ih =>
    intro o b h
    rw [evaluate] at h
    split at h
    · cases h; rfl
    · cases h
    · cases h
    · split at h
      · split at h
        · cases h; rfl
        · exact collLoop_err_false _ _ _ _ _ _ h
      · exact collLoop_err_false _ _ _ _ _ _ h
      · exact collLoop_err_false _ _ _ _ _ _ h
      · cases h; rfl

theorem not_not (e : Expr) : evaluate re (.not (.not e)) o d = evaluate re e o d := by
  rw [not_table, not_table]
  exact notTable_notTable fun h => nomatch err_bool_false re d e o true h

theorem de_morgan_and (a b : Expr) :
    evaluate re (.not (.and a b)) o d = evaluate re (.or (.not a) (.not b)) o d := by
  rw [not_table, and_table, or_table, not_table, not_table, notTable_andTable]

theorem de_morgan_or (a b : Expr) :
    evaluate re (.not (.or a b)) o d = evaluate re (.and (.not a) (.not b)) o d := by
  rw [not_table, or_table, and_table, not_table, not_table, notTable_orTable]

example : andTable (.val true) (.err false) = .err false ∧ andTable (.val false) (.err false) = .val false
    ∧ orTable (.val true) (.err false) = .val true ∧ orTable (.err false) (.val true) = .err false := by
  decide

end Bexpr.Props.C03

#print axioms Bexpr.Props.C03.and_table
#print axioms Bexpr.Props.C03.or_table
#print axioms Bexpr.Props.C03.not_table
#print axioms Bexpr.Props.C03.err_bool_false
#print axioms Bexpr.Props.C03.not_not
#print axioms Bexpr.Props.C03.de_morgan_and
#print axioms Bexpr.Props.C03.de_morgan_or
