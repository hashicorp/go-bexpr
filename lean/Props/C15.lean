/-
  Property C15 (the parser implements the grammar):

    "The parser accepts precisely the strings derivable from the grammar (as an ordered-choice
     PEG, including its explicit error productions) and rejects all others, and for each
     accepted string returns the syntax tree the grammar prescribes."

  The grammar is the rule table `g` (C20 identifies the table with `grammar.peg`), its meaning
  is the declarative big-step semantics `Sem` of `Bexpr/Peg/Sem.lean` (no budget, no fuel),
  `SemN` is `Sem` with the size of the derivation.  The theorems hold for every action
  semantics `env`, every rule table `g`, every input:

    * `engine_sound` / `engine_sound_abort` / `engine_sound_steps` — every result of the engine
      is a derivation (of size = the number of steps the engine took);
    * `sem_deterministic` / `semN_deterministic` — at most one outcome (and one size);
    * `engine_complete` / `engine_complete_abort` / `engine_exceeds` — the engine finds every
      derivation, in exactly `N` steps, whenever the budget allows, and otherwise stops with
      the budget error;
    * `sem_fail_restores` — a failed match does not move the position;
    * `run_accepts_iff`, `run_accepts_iff_budget`, `run_of_acceptsIn`, `run_rejects`,
      `run_rejects_underivable` — the top level `run` (= pigeon's `Parse`) against `Accepts`,
      `AcceptsIn`, `Rejects` of `Bexpr/Peg/Sem.lean`.
-/
import Bexpr.Peg.Engine
import Bexpr.Peg.Sem
import Proofs.Budget
import Proofs.SemRefine

namespace Bexpr.Props.C15
open Bexpr Bexpr.Peg
open Bexpr.Proofs.Budget (runMax run_eq_runMax outOf outOf_exceeded)
open Bexpr.Proofs.SemRefine

/-! ## 1. Soundness: what the engine returns is derivable -/

/-- A result `ok` of `parseExpr` is a derivation of the declarative semantics, from the
    position and log of the initial state to those of the final state. -/
theorem engine_sound (env : Env) (g : Grammar) (max fuel : Nat) (rule : String) (e : PExpr)
    (fr : Frame) (st : PState) {st' : PState} {fr' : Frame} {v : PVal} {m : Bool}
    (h : eval env g max fuel rule e fr st = .ok st' fr' v m) :
    Sem env g rule e fr st.pt st.errs (.res st'.pt st'.errs fr' v m) := by
  have := eval_snd env g max fuel rule e fr st
  rw [h] at this; exact this

/-- A panic of the engine (other than the budget) is an `abort` derivation. -/
theorem engine_sound_abort (env : Env) (g : Grammar) (max fuel : Nat) (rule : String)
    (e : PExpr) (fr : Frame) (st : PState) {st' : PState} {msg : String}
    (h : eval env g max fuel rule e fr st = .abort st' msg) :
    Sem env g rule e fr st.pt st.errs (.abort msg) := by
  have := eval_snd env g max fuel rule e fr st
  rw [h] at this; exact this

/-- Soundness with the step count: the derivation has exactly as many nodes as the engine
    made `parseExpr` calls. -/
theorem engine_sound_steps (env : Env) (g : Grammar) (max fuel : Nat) (rule : String)
    (e : PExpr) (fr : Frame) (st : PState) {st' : PState} {fr' : Frame} {v : PVal} {m : Bool}
    (h : eval env g max fuel rule e fr st = .ok st' fr' v m) :
    ∃ N, SemN env g rule e fr st.pt st.errs (.res st'.pt st'.errs fr' v m) N ∧
      st'.cnt = st.cnt + N := by
  -- soundness gives a derivation; completeness runs it again from the same state, to `cnt + N`
  obtain ⟨N, hN⟩ := sem_semN (engine_sound env g max fuel rule e fr st h)
  refine ⟨N, hN, ?_⟩
  have hc : st.cnt ≤ max := by
    cases fuel with
    | zero => rw [Proofs.Budget.eval_zero] at h; cases h
    | succ fuel =>
      rw [Proofs.Budget.eval_succ] at h
      split at h
      · cases h
      · omega
  have hfl := Proofs.Budget.eval_fle env g max fuel (fuel + N) rule e fr st (by omega)
    (by rw [h]; simp)
  rw [h] at hfl
  have hat := cmpN_at (semN_cmp hN) max (fuel + N) st.cnt hc (by omega)
  by_cases hm : st.cnt + N ≤ max
  · have := hat.1 hm
    simp only [CmpRes] at this
    rw [hfl] at this
    injection this with h1
    rw [h1]
  · obtain ⟨s, hs, _⟩ := hat.2 (by omega)
    rw [hfl] at hs
    cases hs

/-! ## 2. Determinism -/

theorem sem_deterministic (env : Env) (g : Grammar) {rule : String} {e : PExpr} {fr : Frame}
    {pt : Pt} {errs : List PErr} {o₁ o₂ : SemOut}
    (h1 : Sem env g rule e fr pt errs o₁) (h2 : Sem env g rule e fr pt errs o₂) : o₁ = o₂ :=
  sem_det h1 h2

theorem semN_deterministic (env : Env) (g : Grammar) {rule : String} {e : PExpr} {fr : Frame}
    {pt : Pt} {errs : List PErr} {o₁ o₂ : SemOut} {N₁ N₂ : Nat}
    (h1 : SemN env g rule e fr pt errs o₁ N₁) (h2 : SemN env g rule e fr pt errs o₂ N₂) :
    o₁ = o₂ ∧ N₁ = N₂ :=
  semN_det h1 h2

/-- `Sem` is `SemN` with the size forgotten. -/
theorem sem_iff_semN (env : Env) (g : Grammar) {rule : String} {e : PExpr} {fr : Frame}
    {pt : Pt} {errs : List PErr} {o : SemOut} :
    Sem env g rule e fr pt errs o ↔ ∃ N, SemN env g rule e fr pt errs o N :=
  semN_iff

/-! ## 3. Completeness: the engine finds every derivation, in exactly `N` steps -/

/-- A derivation of size `N` is reproduced by the engine from every counter `cnt` with
    `cnt + N ≤ max`, with any fuel `≥ N`; the final counter is `cnt + N`. -/
theorem engine_complete (env : Env) (g : Grammar) {rule : String} {e : PExpr} {fr : Frame}
    {pt : Pt} {errs : List PErr} {pt' : Pt} {errs' : List PErr} {fr' : Frame} {v : PVal}
    {m : Bool} {N : Nat}
    (h : SemN env g rule e fr pt errs (.res pt' errs' fr' v m) N) :
    1 ≤ N ∧ ∀ max fuel cnt, cnt + N ≤ max → N ≤ fuel →
      eval env g max fuel rule e fr { pt := pt, cnt := cnt, errs := errs } =
        .ok { pt := pt', cnt := cnt + N, errs := errs' } fr' v m :=
  semN_cmp h

/-- The same from a size-free derivation. -/
theorem engine_complete_sem (env : Env) (g : Grammar) {rule : String} {e : PExpr} {fr : Frame}
    {pt : Pt} {errs : List PErr} {pt' : Pt} {errs' : List PErr} {fr' : Frame} {v : PVal}
    {m : Bool}
    (h : Sem env g rule e fr pt errs (.res pt' errs' fr' v m)) :
    ∃ N, 1 ≤ N ∧ ∀ max fuel cnt, cnt + N ≤ max → N ≤ fuel →
      eval env g max fuel rule e fr { pt := pt, cnt := cnt, errs := errs } =
        .ok { pt := pt', cnt := cnt + N, errs := errs' } fr' v m := by
  obtain ⟨N, hN⟩ := sem_semN h
  exact ⟨N, engine_complete env g hN⟩

/-- With the fuel invariant of C11 (`eval_never_fuelOut`) instead of `N ≤ fuel`. -/
theorem engine_complete_fuel (env : Env) (g : Grammar) {rule : String} {e : PExpr} {fr : Frame}
    {pt : Pt} {errs : List PErr} {pt' : Pt} {errs' : List PErr} {fr' : Frame} {v : PVal}
    {m : Bool} {N : Nat}
    (h : SemN env g rule e fr pt errs (.res pt' errs' fr' v m) N)
    (max fuel cnt : Nat) (hm : cnt + N ≤ max) (hf : max + 1 ≤ fuel + cnt) :
    eval env g max fuel rule e fr { pt := pt, cnt := cnt, errs := errs } =
      .ok { pt := pt', cnt := cnt + N, errs := errs' } fr' v m :=
  (engine_complete env g h).2 max fuel cnt hm (by omega)

/-- An `abort` derivation is reproduced as a panic with the same message. -/
theorem engine_complete_abort (env : Env) (g : Grammar) {rule : String} {e : PExpr}
    {fr : Frame} {pt : Pt} {errs : List PErr} {msg : String} {N : Nat}
    (h : SemN env g rule e fr pt errs (.abort msg) N) :
    1 ≤ N ∧ ∀ max fuel cnt, cnt + N ≤ max → N ≤ fuel →
      ∃ pt' errs', eval env g max fuel rule e fr { pt := pt, cnt := cnt, errs := errs } =
        .abort { pt := pt', cnt := cnt + N, errs := errs' } msg :=
  semN_cmp h

/-- If the budget does not allow the `N` steps the engine stops with the budget error, at
    exactly `max + 1` steps. -/
theorem engine_exceeds (env : Env) (g : Grammar) {rule : String} {e : PExpr} {fr : Frame}
    {pt : Pt} {errs : List PErr} {o : SemOut} {N : Nat}
    (h : SemN env g rule e fr pt errs o N)
    (max fuel cnt : Nat) (hc : cnt ≤ max) (hm : max < cnt + N) (hf : N ≤ fuel) :
    ∃ s, eval env g max fuel rule e fr { pt := pt, cnt := cnt, errs := errs } = .exceeded s ∧
      s.cnt = max + 1 :=
  (cmpN_at (semN_cmp h) max fuel cnt hc hf).2 hm

/-! ## 4. A failed match does not move the position

  This is what makes the rule for ordered choice the textbook one: a failed alternative hands
  on its log, nothing else. -/

theorem sem_fail_restores (env : Env) (g : Grammar) {rule : String} {e : PExpr} {fr : Frame}
    {pt : Pt} {errs : List PErr} {pt' : Pt} {errs' : List PErr} {fr' : Frame} {v : PVal}
    (h : Sem env g rule e fr pt errs (.res pt' errs' fr' v false)) : pt' = pt :=
  sem_failPt h

/-! ## 5. The top level: `run` = pigeon's `Parse` -/

theorem accepts_iff_acceptsIn (env : Env) (g : Grammar) (input : GoString) (v : PVal) :
    Accepts env g input v ↔ ∃ N, AcceptsIn env g input v N := by
  constructor
  · rintro ⟨start, pt', fr', hs, h⟩
    obtain ⟨N, hN⟩ := sem_semN h
    exact ⟨N, start, pt', fr', hs, hN⟩
  · rintro ⟨N, start, pt', fr', hs, h⟩
    exact ⟨start, pt', fr', hs, semN_sem h⟩

/-- The accepted value and the size of the derivation are unique. -/
theorem acceptsIn_unique (env : Env) (g : Grammar) (input : GoString) {v₁ v₂ : PVal}
    {N₁ N₂ : Nat} (h1 : AcceptsIn env g input v₁ N₁) (h2 : AcceptsIn env g input v₂ N₂) :
    v₁ = v₂ ∧ N₁ = N₂ := by
  obtain ⟨s1, p1, f1, hs1, h1⟩ := h1
  obtain ⟨s2, p2, f2, hs2, h2⟩ := h2
  rw [hs1] at hs2
  cases hs2
  obtain ⟨ho, hN⟩ := semN_det h1 h2
  injection ho with _ _ _ hv
  exact ⟨hv, hN⟩

theorem accepts_unique (env : Env) (g : Grammar) (input : GoString) {v₁ v₂ : PVal}
    (h1 : Accepts env g input v₁) (h2 : Accepts env g input v₂) : v₁ = v₂ := by
  obtain ⟨N₁, h1⟩ := (accepts_iff_acceptsIn env g input v₁).1 h1
  obtain ⟨N₂, h2⟩ := (accepts_iff_acceptsIn env g input v₂).1 h2
  exact (acceptsIn_unique env g input h1 h2).1

/-- What an accepting `run` looks like inside. -/
theorem runMax_accepted (env : Env) (g : Grammar) (max : Nat) (input : GoString)
    (h : (runMax env g max input).accepted = true) :
    ∃ start pt' fr' cnt, startRule g = some start ∧
      eval env g max (max + 2) start.shown start.expr []
        { pt := (Pt.start input).next, cnt := 0, errs := logRead "" (Pt.start input).next [] } =
        .ok { pt := pt', cnt := cnt, errs := [] } fr' (runMax env g max input).val true := by
  cases hs : startRule g with
  | none =>
    rw [startRule_eq_none.1 hs, runMax_nil] at h
    simp [ParseOut.accepted] at h
  | some start =>
    rw [runMax_start hs] at h ⊢
    generalize hR : eval env g max (max + 2) start.shown start.expr [] _ = R at h ⊢
    cases R with
    | ok st fr v m =>
      cases m
      · simp only [outOf, ParseOut.accepted] at h
        split at h <;> simp_all
      · obtain ⟨pt', cnt, errs'⟩ := st
        simp only [outOf, ParseOut.accepted, List.isEmpty_reverse, List.isEmpty_iff] at h
        subst h
        exact ⟨start, pt', fr, cnt, rfl, hR⟩
    | exceeded s => simp [outOf, ParseOut.accepted, PState.addErr] at h
    | abort s msg => simp [outOf, ParseOut.accepted, PState.addErr] at h
    | fuelOut => simp [outOf, ParseOut.accepted] at h

/-- Soundness of `run`, for EVERY budget `n`: if `run` reports no error, the input is derivable
    from the grammar and the value returned is the one the grammar prescribes. -/
theorem run_accepted_sound (env : Env) (g : Grammar) (n : Nat) (input : GoString)
    (h : (run env g n input).accepted = true) :
    Accepts env g input (run env g n input).val := by
  rw [run_eq_runMax] at h ⊢
  obtain ⟨start, pt', fr', cnt, hs, he⟩ := runMax_accepted env g _ input h
  exact ⟨start, pt', fr', hs, engine_sound env g _ _ _ _ _ _ he⟩

/-- Completeness of `run`: a derivation of size `N` that fits the effective budget is found,
    the result is the prescribed value, no errors, after exactly `N` steps. -/
theorem run_of_acceptsIn (env : Env) (g : Grammar) (n : Nat) (input : GoString) {v : PVal}
    {N : Nat} (h : AcceptsIn env g input v N) (hN : N ≤ effectiveMax n) :
    run env g n input = { val := v, errs := [], cnt := N } := by
  obtain ⟨start, pt', fr', hs, hd⟩ := h
  rw [run_eq_runMax, runMax_start hs]
  have := (cmpN_run (semN_cmp hd) (effectiveMax n)).1 hN
  simp only [CmpRes] at this
  rw [this]
  rfl

/-- … and one that does not fit is reported as the budget error. -/
theorem run_of_acceptsIn_exceeded (env : Env) (g : Grammar) (n : Nat) (input : GoString)
    {v : PVal} {N : Nat} (h : AcceptsIn env g input v N) (hN : effectiveMax n < N) :
    (run env g n input).val = .nil ∧ (∃ e ∈ (run env g n input).errs, e.kind = .maxExpr) ∧
      (run env g n input).cnt = effectiveMax n + 1 := by
  obtain ⟨start, pt', fr', hs, hd⟩ := h
  rw [run_eq_runMax, runMax_start hs]
  obtain ⟨s, hs', hc⟩ := (cmpN_run (semN_cmp hd) (effectiveMax n)).2 hN
  rw [hs']
  exact ⟨(outOf_exceeded s).1, (outOf_exceeded s).2, hc⟩

/-- C15 for an arbitrary budget `n` (effective budget `effectiveMax n`): `run` accepts with
    value `v` iff the grammar derives `(input, v)` by a derivation of at most that size. -/
theorem run_accepts_iff_budget (env : Env) (g : Grammar) (n : Nat) (input : GoString)
    (v : PVal) :
    ((run env g n input).accepted = true ∧ (run env g n input).val = v) ↔
      ∃ N, N ≤ effectiveMax n ∧ AcceptsIn env g input v N := by
  constructor
  · rintro ⟨ha, hv⟩
    rw [run_eq_runMax] at ha hv
    obtain ⟨start, pt', fr', cnt, hs, he⟩ := runMax_accepted env g _ input ha
    rw [hv] at he
    obtain ⟨N, hN⟩ := sem_semN (engine_sound env g _ _ _ _ _ _ he)
    refine ⟨N, ?_, start, pt', fr', hs, hN⟩
    apply Nat.le_of_not_lt
    intro hlt
    obtain ⟨s, hs', _⟩ := (cmpN_run (semN_cmp hN) (effectiveMax n)).2 hlt
    rw [he] at hs'
    cases hs'
  · rintro ⟨N, hN, h⟩
    rw [run_of_acceptsIn env g n input h hN]
    exact ⟨rfl, rfl⟩

/-- C15, unlimited budget (`n = 0`, i.e. `math.MaxUint64` expressions): `run` reports no error
    and returns `v` iff the grammar derives `(input, v)` — by a derivation of at most
    `2^64 - 1` nodes, the one number the hard limit of the real engine imposes. -/
theorem run_accepts_iff (env : Env) (g : Grammar) (input : GoString) (v : PVal) :
    ((run env g 0 input).accepted = true ∧ (run env g 0 input).val = v) ↔
      ∃ N, N ≤ 2 ^ 64 - 1 ∧ AcceptsIn env g input v N :=
  run_accepts_iff_budget env g 0 input v

/-- … in terms of the size-free `Accepts`: the side condition is only about the size. -/
theorem run_accepts_iff' (env : Env) (g : Grammar) (input : GoString) (v : PVal) :
    ((run env g 0 input).accepted = true ∧ (run env g 0 input).val = v) ↔
      Accepts env g input v ∧ ∀ N, AcceptsIn env g input v N → N ≤ 2 ^ 64 - 1 := by
  rw [run_accepts_iff]
  constructor
  · rintro ⟨N, hN, h⟩
    refine ⟨(accepts_iff_acceptsIn env g input v).2 ⟨N, h⟩, fun N' h' => ?_⟩
    rw [← (acceptsIn_unique env g input h h').2]; exact hN
  · rintro ⟨ha, hN⟩
    obtain ⟨N, h⟩ := (accepts_iff_acceptsIn env g input v).1 ha
    exact ⟨N, hN N h, h⟩

/-- Rejection, for EVERY budget: if the start rule fails, or matches with a non-empty error log
    (an explicit error production fired, or the input is not valid UTF-8), or panics, or there
    is no start rule, then `run` reports errors. -/
theorem run_rejects (env : Env) (g : Grammar) (input : GoString) (h : Rejects env g input)
    (n : Nat) : (run env g n input).accepted = false := by
  cases ha : (run env g n input).accepted with
  | false => rfl
  | true =>
    exfalso
    obtain ⟨start, pt', fr', hs, hd⟩ := run_accepted_sound env g n input ha
    rcases h with h | ⟨start', o, hs', hd', ho⟩
    · rw [h] at hs; cases hs
    · rw [hs] at hs'
      cases hs'
      have := sem_det hd hd'
      subst this
      simp at ho

/-- "… and rejects all others": an input with no accepting derivation at all (this includes
    inputs on which the grammar loops) is rejected under every budget. -/
theorem run_rejects_underivable (env : Env) (g : Grammar) (input : GoString)
    (h : ∀ v, ¬ Accepts env g input v) (n : Nat) : (run env g n input).accepted = false := by
  cases ha : (run env g n input).accepted with
  | false => rfl
  | true => exact absurd (run_accepted_sound env g n input ha) (h _)

/-! ## 6. Non-vacuity: `S <- "a" S / "a"` on `"aa"`, derivations built by hand -/

namespace Example

def env : Env where
  action := fun name _ b =>
    if name == "bad" then .ret (.bytes b) (some "boom") else .ret (.bytes b) none
  pred := fun _ _ => .ret true none
  classIn := fun _ _ => some false

abbrev a : PExpr := .lit [97] false
abbrev alt1 : PExpr := .seq [a, .ruleRef "S"]
abbrev sExpr : PExpr := .choice [alt1, a]
def sRule : Rule := { name := "S", displayName := "", expr := sExpr }
def g : Grammar := [sRule]
def input : GoString := [97, 97]

def pt1 : Pt := { rest := [97, 97], off := 0, rn := 97, w := 1 }
def pt2 : Pt := { rest := [97], off := 1, rn := 97, w := 1 }
def pt3 : Pt := { rest := [], off := 2, rn := 0xFFFD, w := 0 }

theorem start_next : (Pt.start input).next = pt1 := by decide
theorem start_log : logRead "" (Pt.start input).next [] = [] := by decide
theorem pt1_next : pt1.next = pt2 := by decide
theorem pt2_next : pt2.next = pt3 := by decide
theorem look : lookupRule g "S" = some sRule := rfl
theorem shown : sRule.shown = "S" := by decide

/-- `"a"` matches at `pt1` and at `pt2`, and fails at the end of input. -/
theorem lit1 : SemLit "S" [97] pt1 [] pt2 [] true := .step rfl .nil
theorem lit2 : SemLit "S" [97] pt2 [] pt3 [] true := .step rfl .nil
theorem lit3 : SemLit "S" [97] pt3 [] pt3 [] false := .mismatch (by decide)
abbrev b : PVal := .bytes [97]

/-- `S` at the end of input: both alternatives fail (4 steps). -/
theorem S_at3 (fr : Frame) : SemN env g "S" sExpr fr pt3 [] (.res pt3 [] fr .nil false) 4 :=
  .choice (.next (.seq_fail (.fail (.lit_fail lit3))) (.next (.lit_fail lit3) .exhausted))

/-- `S` at `pt2` (one `a` left): the first alternative fails in the recursive call, the position
    is restored, the second alternative matches (9 steps). -/
theorem S_at2 (fr : Frame) : SemN env g "S" sExpr fr pt2 [] (.res pt3 [] fr b true) 9 :=
  .choice (.next
    (.seq_fail (.cons (.lit_ok lit2) (.fail (.ruleRef_res (by decide) look (S_at3 [])))))
    (.hit (.lit_ok lit2)))

/-- `S` at `pt1` (the whole input `aa`): the first alternative matches (13 steps). -/
theorem S_at1 : SemN env g "S" sExpr [] pt1 [] (.res pt3 [] [] (.list [b, b]) true) 13 :=
  .choice (.hit (.seq_ok
    (.cons (.lit_ok lit1) (.cons (.ruleRef_res (by decide) look (S_at2 [])) .nil))))

theorem acceptsIn_aa : AcceptsIn env g input (.list [b, b]) 13 :=
  ⟨sRule, pt3, [], rfl, S_at1⟩

/-- The engine: same value, no errors, exactly 13 steps (by computation …). -/
example : (run env g 0 input).val = .list [b, b] := rfl
example : (run env g 0 input).errs = [] := by decide
example : (run env g 0 input).cnt = 13 := by decide
/-- … and as instances of the theorems. -/
example : run env g 0 input = { val := .list [b, b], errs := [], cnt := 13 } :=
  run_of_acceptsIn env g 0 input acceptsIn_aa (by decide)
example : (run env g 0 input).accepted = true ∧ (run env g 0 input).val = .list [b, b] :=
  (run_accepts_iff env g input _).2 ⟨13, by decide, acceptsIn_aa⟩
example : run env g 13 input = { val := .list [b, b], errs := [], cnt := 13 } :=
  run_of_acceptsIn env g 13 input acceptsIn_aa (by decide)
example : (run env g 12 input).cnt = 13 ∧ (run env g 12 input).val = .nil :=
  let h := run_of_acceptsIn_exceeded env g 12 input acceptsIn_aa (by decide)
  ⟨h.2.2, h.1⟩
example : Accepts env g input (.list [b, b]) :=
  (accepts_iff_acceptsIn env g input _).2 ⟨13, acceptsIn_aa⟩
/-- completeness at the level of `eval`, from an arbitrary counter -/
example : eval env g 1000 20 "S" sExpr [] { pt := pt1, cnt := 7, errs := [] } =
    .ok { pt := pt3, cnt := 20, errs := [] } [] (.list [b, b]) true :=
  (engine_complete env g S_at1).2 1000 20 7 (by decide) (by decide)

/-! A rejected input: `""` (the start rule fails, empty log → "no match found"). -/
def ptE : Pt := { rest := [], off := 0, rn := 0xFFFD, w := 0 }
theorem startE : (Pt.start []).next = ptE := by decide
theorem litE : SemLit "S" [97] ptE [] ptE [] false := .mismatch (by decide)
theorem S_atE : Sem env g "S" sExpr [] ptE [] (.res ptE [] [] .nil false) :=
  .choice (.next (.seq_fail (.fail (.lit_fail litE))) (.next (.lit_fail litE) .exhausted))
theorem rejects_empty : Rejects env g [] :=
  .inr ⟨sRule, _, rfl, S_atE, .inl rfl⟩
example : (run env g 0 []).accepted = false := run_rejects env g [] rejects_empty 0
example : (run env g 0 []).errs = [{ off := 0, rule := "", kind := .noMatch }] := by decide

/-! An explicit error production: `E <- "a" { return c.text, errors.New("boom") }`.  The match
    succeeds, the error is logged at the start offset of the action, the input is rejected. -/
def eRule : Rule := { name := "E", displayName := "", expr := .action "bad" a }
def gE : Grammar := [eRule]
def ptA : Pt := { rest := [97], off := 0, rn := 97, w := 1 }
def ptA' : Pt := { rest := [], off := 1, rn := 0xFFFD, w := 0 }
theorem litA : SemLit "E" [97] ptA [] ptA' [] true := .step rfl .nil
theorem E_at : Sem env gE "E" (.action "bad" a) [] ptA []
    (.res ptA' [{ off := 0, rule := "E", kind := .action "boom" }] [] b true) :=
  .action_ret (err := some "boom") (.lit_ok litA) rfl
theorem rejects_err : Rejects env gE [97] :=
  .inr ⟨eRule, _, rfl, E_at, .inr (by simp)⟩
example : (run env gE 0 [97]).accepted = false := run_rejects env gE [97] rejects_err 0
example : (run env gE 0 [97]).errs = [{ off := 0, rule := "E", kind := .action "boom" }] := by
  decide

/-! Repetition and predicates: `T <- "a"* !.` on `"a"` (6 steps). -/
def tRule : Rule := { name := "T", displayName := "", expr := .seq [.zeroOrMore a, .notP .any] }
def gT : Grammar := [tRule]
theorem litT : SemLit "T" [97] ptA [] ptA' [] true := .step rfl .nil
theorem litT' : SemLit "T" [97] ptA' [] ptA' [] false := .mismatch (by decide)
theorem T_at : SemN env gT "T" (.seq [.zeroOrMore a, .notP .any]) [] ptA []
    (.res ptA' [] [] (.list [.list [b], .nil]) true) 6 :=
  .seq_ok (.cons (.star_done (.more (.lit_ok litT) (.stop (.lit_fail litT'))))
    (.cons (.notP_res (.any_eof rfl)) .nil))
example : run env gT 0 [97] = { val := .list [.list [b], .nil], errs := [], cnt := 6 } :=
  run_of_acceptsIn env gT 0 [97] ⟨tRule, ptA', [], rfl, T_at⟩ (by decide)
example : (run env gT 0 [97]).cnt = 6 := by decide

end Example

end Bexpr.Props.C15

#print axioms Bexpr.Props.C15.engine_sound
#print axioms Bexpr.Props.C15.engine_sound_abort
#print axioms Bexpr.Props.C15.engine_sound_steps
#print axioms Bexpr.Props.C15.sem_deterministic
#print axioms Bexpr.Props.C15.semN_deterministic
#print axioms Bexpr.Props.C15.sem_iff_semN
#print axioms Bexpr.Props.C15.engine_complete
#print axioms Bexpr.Props.C15.engine_complete_sem
#print axioms Bexpr.Props.C15.engine_complete_fuel
#print axioms Bexpr.Props.C15.engine_complete_abort
#print axioms Bexpr.Props.C15.engine_exceeds
#print axioms Bexpr.Props.C15.sem_fail_restores
#print axioms Bexpr.Props.C15.accepts_iff_acceptsIn
#print axioms Bexpr.Props.C15.acceptsIn_unique
#print axioms Bexpr.Props.C15.accepts_unique
#print axioms Bexpr.Props.C15.run_accepted_sound
#print axioms Bexpr.Props.C15.run_of_acceptsIn
#print axioms Bexpr.Props.C15.run_of_acceptsIn_exceeded
#print axioms Bexpr.Props.C15.run_accepts_iff_budget
#print axioms Bexpr.Props.C15.run_accepts_iff
#print axioms Bexpr.Props.C15.run_accepts_iff'
#print axioms Bexpr.Props.C15.run_rejects
#print axioms Bexpr.Props.C15.run_rejects_underivable
#print axioms Bexpr.Props.C15.Example.acceptsIn_aa
#print axioms Bexpr.Props.C15.Example.rejects_empty
#print axioms Bexpr.Props.C15.Example.rejects_err
#print axioms Bexpr.Props.C15.Example.T_at
