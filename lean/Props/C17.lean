/-
  C17 — `(*Filter).Execute` returns exactly the elements for which `Evaluate` is true.

  Model: `Bexpr.Eval.execute` (`Bexpr/Eval/Create.lean`), Go: `/repo/filter.go`.  The closed form
  of the element loops and the facts about one run are in `Proofs/FilterLemmas.lean`.
-/
import Bexpr.Eval.Create
import Proofs.FilterLemmas

namespace Bexpr.Props.C17
open Bexpr Bexpr.Go Bexpr.Eval Bexpr.Proofs.Filter

/-! ### The result is the filtered container -/

/-- Slice input, every element evaluates to a value: the result is a (non-nil) slice of the same
    named slice type and element type holding exactly the `true` elements in original order. -/
theorem execute_slice_spec (re : RegexOracle) (ev : Evaluator)
    (name : String) (elem : GoType) (isNil : Bool) (xs : List GoVal)
    (h : ∀ x ∈ xs, ∃ b, ev.evaluate re x.toAny = .val b) :
    execute re (some ev) (some (.slice name elem isNil xs)) =
      .ok (some (.slice name elem false
        (xs.filter fun x => ev.evaluate re x.toAny == .val true))) := by
  rw [execute_slice_eq, runLoop_of_all_val _ _ xs h]

/-- Array input: the result is a slice of the unnamed type `[]elem`. -/
theorem execute_array_spec (re : RegexOracle) (ev : Evaluator)
    (elem : GoType) (xs : List GoVal)
    (h : ∀ x ∈ xs, ∃ b, ev.evaluate re x.toAny = .val b) :
    execute re (some ev) (some (.array elem xs)) =
      .ok (some (.slice "" elem false
        (xs.filter fun x => ev.evaluate re x.toAny == .val true))) := by
  rw [execute_array_eq, runLoop_of_all_val _ _ xs h]

/-- Map input: same map type, the entries (key and value unchanged) whose value is `true`. -/
theorem execute_map_spec (re : RegexOracle) (ev : Evaluator)
    (name : String) (kt vt : GoType) (isNil : Bool) (es : List (GoVal × GoVal))
    (h : ∀ e ∈ es, ∃ b, ev.evaluate re e.2.toAny = .val b) :
    execute re (some ev) (some (.map name kt vt isNil es)) =
      .ok (some (.map name kt vt false
        (es.filter fun e => ev.evaluate re e.2.toAny == .val true))) := by
  rw [execute_map_eq, runLoop_of_all_val _ _ es h]

/-! ### The first non-value outcome decides -/

/-- Slice: the result is the image of the FIRST non-value outcome. -/
theorem execute_first_error_slice (re : RegexOracle) (ev : Evaluator)
    (name : String) (elem : GoType) (isNil : Bool) (pre : List GoVal) (x : GoVal)
    (post : List GoVal)
    (hpre : ∀ y ∈ pre, ∃ b, ev.evaluate re y.toAny = .val b)
    (hx : ∀ b, ev.evaluate re x.toAny ≠ .val b) :
    execute re (some ev) (some (.slice name elem isNil (pre ++ x :: post))) =
      outToExec (ev.evaluate re x.toAny) := by
  rw [execute_slice_eq, runLoop_first_error _ _ pre x post hpre hx]

theorem execute_first_error_array (re : RegexOracle) (ev : Evaluator)
    (elem : GoType) (pre : List GoVal) (x : GoVal) (post : List GoVal)
    (hpre : ∀ y ∈ pre, ∃ b, ev.evaluate re y.toAny = .val b)
    (hx : ∀ b, ev.evaluate re x.toAny ≠ .val b) :
    execute re (some ev) (some (.array elem (pre ++ x :: post))) =
      outToExec (ev.evaluate re x.toAny) := by
  rw [execute_array_eq, runLoop_first_error _ _ pre x post hpre hx]

theorem outToExec_err (b : Bool) : outToExec (.err b) = .err := rfl

/-- Slices with a first non-value element: the result is not `.ok`; it is `.err` when that
    outcome is `.err _` and `.panic` when it is `.panic`. -/
theorem execute_first_error (re : RegexOracle) (ev : Evaluator)
    (name : String) (elem : GoType) (isNil : Bool) (pre : List GoVal) (x : GoVal)
    (post : List GoVal)
    (hpre : ∀ y ∈ pre, ∃ b, ev.evaluate re y.toAny = .val b)
    (hx : ∀ b, ev.evaluate re x.toAny ≠ .val b) :
    (∀ r, execute re (some ev) (some (.slice name elem isNil (pre ++ x :: post))) ≠ .ok r) ∧
    (∀ b, ev.evaluate re x.toAny = .err b →
      execute re (some ev) (some (.slice name elem isNil (pre ++ x :: post))) = .err) ∧
    (ev.evaluate re x.toAny = .panic →
      execute re (some ev) (some (.slice name elem isNil (pre ++ x :: post))) = .panic) := by
  rw [execute_first_error_slice re ev name elem isNil pre x post hpre hx]
  exact outToExec_failure _

theorem execute_first_error_array' (re : RegexOracle) (ev : Evaluator)
    (elem : GoType) (pre : List GoVal) (x : GoVal) (post : List GoVal)
    (hpre : ∀ y ∈ pre, ∃ b, ev.evaluate re y.toAny = .val b)
    (hx : ∀ b, ev.evaluate re x.toAny ≠ .val b) :
    (∀ r, execute re (some ev) (some (.array elem (pre ++ x :: post))) ≠ .ok r) ∧
    (∀ b, ev.evaluate re x.toAny = .err b →
      execute re (some ev) (some (.array elem (pre ++ x :: post))) = .err) := by
  rw [execute_first_error_array re ev elem pre x post hpre hx]
  exact ⟨(outToExec_failure _).1, (outToExec_failure _).2.1⟩

/-- Existence of a first non-value element whenever some element is not a value (so the
    hypotheses of `execute_first_error` can always be met). -/
theorem exists_first_nonval (re : RegexOracle) (ev : Evaluator) (xs : List GoVal)
    (h : ∃ x ∈ xs, ∀ b, ev.evaluate re x.toAny ≠ .val b) :
    ∃ pre x post, xs = pre ++ x :: post ∧
      (∀ y ∈ pre, ∃ b, ev.evaluate re y.toAny = .val b) ∧
      ∀ b, ev.evaluate re x.toAny ≠ .val b := by
  rcases split_first_nonval (fun x : GoVal => ev.evaluate re x.toAny) xs with hall | hex
  · obtain ⟨x, hx, hn⟩ := h
    obtain ⟨b, hb⟩ := hall x hx
    exact absurd hb (hn b)
  · exact hex

/-- Map: when every entry's outcome is a value or an error, `Execute` fails with `.err` iff
    some entry errs — a statement that does not mention the iteration order. -/
theorem execute_map_err_iff (re : RegexOracle) (ev : Evaluator)
    (name : String) (kt vt : GoType) (isNil : Bool) (es : List (GoVal × GoVal))
    (hve : ∀ e ∈ es, (∃ b, ev.evaluate re e.2.toAny = .val b) ∨
                      ∃ b, ev.evaluate re e.2.toAny = .err b) :
    execute re (some ev) (some (.map name kt vt isNil es)) = .err ↔
      ∃ e ∈ es, ∃ b, ev.evaluate re e.2.toAny = .err b := by
  rw [execute_map_eq, runLoop_err_iff _ _ es hve]

/-- Map: the error verdict is invariant under permutation of the entries (Go's map iteration
    order is unspecified). -/
theorem execute_first_error_map_perm (re : RegexOracle) (ev : Evaluator)
    (name : String) (kt vt : GoType) (isNil : Bool) (es es' : List (GoVal × GoVal))
    (hp : es.Perm es')
    (hve : ∀ e ∈ es, (∃ b, ev.evaluate re e.2.toAny = .val b) ∨
                      ∃ b, ev.evaluate re e.2.toAny = .err b) :
    execute re (some ev) (some (.map name kt vt isNil es)) = .err ↔
      execute re (some ev) (some (.map name kt vt isNil es')) = .err := by
  rw [execute_map_err_iff re ev name kt vt isNil es hve,
      execute_map_err_iff re ev name kt vt isNil es' fun e he => hve e (hp.mem_iff.2 he)]
  constructor
  · rintro ⟨e, he, b, hb⟩; exact ⟨e, hp.mem_iff.1 he, b, hb⟩
  · rintro ⟨e, he, b, hb⟩; exact ⟨e, hp.mem_iff.2 he, b, hb⟩

theorem execute_map_any_err (re : RegexOracle) (ev : Evaluator)
    (name : String) (kt vt : GoType) (isNil : Bool) (es : List (GoVal × GoVal))
    (hve : ∀ e ∈ es, (∃ b, ev.evaluate re e.2.toAny = .val b) ∨
                      ∃ b, ev.evaluate re e.2.toAny = .err b)
    (e : GoVal × GoVal) (he : e ∈ es) (b : Bool) (hb : ev.evaluate re e.2.toAny = .err b) :
    execute re (some ev) (some (.map name kt vt isNil es)) = .err :=
  (execute_map_err_iff re ev name kt vt isNil es hve).2 ⟨e, he, b, hb⟩

/-- Map, successful case: the kept entries of a permuted input are a permutation of the kept
    entries (the result map is the same set of entries). -/
theorem execute_map_ok_perm (re : RegexOracle) (ev : Evaluator)
    (name : String) (kt vt : GoType) (isNil : Bool) (es es' : List (GoVal × GoVal))
    (hp : es.Perm es')
    (h : ∀ e ∈ es, ∃ b, ev.evaluate re e.2.toAny = .val b) :
    ∃ k k', execute re (some ev) (some (.map name kt vt isNil es)) =
              .ok (some (.map name kt vt false k)) ∧
            execute re (some ev) (some (.map name kt vt isNil es')) =
              .ok (some (.map name kt vt false k')) ∧ k.Perm k' :=
  ⟨_, _, execute_map_spec re ev name kt vt isNil es h,
    execute_map_spec re ev name kt vt isNil es' fun e he => h e (hp.mem_iff.2 he), hp.filter _⟩

/-! ### Nil filter, other kinds -/

theorem execute_nil_filter (re : RegexOracle) (data : Any) : execute re none data = .ok data := rfl

def isContainer : GoVal → Bool
  | .slice .. | .array .. | .map .. => true
  | _ => false

/-- untyped nil, or any value that is not a slice / array / map: an error, never a panic -/
theorem execute_other_kind (re : RegexOracle) (ev : Evaluator) :
    execute re (some ev) none = .err ∧
    ∀ v, isContainer v = false → execute re (some ev) (some v) = .err := by
  refine ⟨rfl, ?_⟩
  intro v hv
  cases v <;> first | rfl | cases hv

/-- conversely an `.ok` result only arises from a container input -/
theorem execute_ok_container (re : RegexOracle) (ev : Evaluator) (data r : Any)
    (h : execute re (some ev) data = .ok r) : ∃ v, data = some v ∧ isContainer v = true := by
  cases data with
  | none => cases h
  | some v =>
    refine ⟨v, rfl, ?_⟩
    cases hc : isContainer v
    · rw [(execute_other_kind re ev).2 v hc] at h; cases h
    · rfl

/-! ### Idempotence -/

/-- Executing a filter on its own successful result returns that result (any input: only
    slices, arrays and maps produce `.ok`). -/
theorem execute_idem (re : RegexOracle) (ev : Evaluator) (data r : Any)
    (h : execute re (some ev) data = .ok r) : execute re (some ev) r = .ok r := by
  obtain ⟨v, rfl, hc⟩ := execute_ok_container re ev data r h
  cases v <;> cases hc
  case slice name elem isNil xs =>
    rw [execute_slice_eq] at h
    obtain ⟨kept, rfl, hk⟩ := runLoop_idem _ _ xs r h
    rw [execute_slice_eq, hk]
  case array elem xs =>
    rw [execute_array_eq] at h
    obtain ⟨kept, rfl, hk⟩ := runLoop_idem _ _ xs r h
    rw [execute_slice_eq, hk]
  case map name kt vt isNil es =>
    rw [execute_map_eq] at h
    obtain ⟨kept, rfl, hk⟩ := runLoop_idem _ _ es r h
    rw [execute_map_eq, hk]

theorem execute_idem_nil (re : RegexOracle) (data r : Any)
    (_h : execute re none data = .ok r) : execute re none r = .ok r := rfl

/-! ### A filter and its negation partition the input -/

/-- What the partition property needs of the negated evaluator: values are negated.  (The
    hypothesis of `execute_partition`, which is what C03 proves for `not (E)` up to the boolean
    carried by an error, also fixes the non-values.) -/
def NegatesVals (re : RegexOracle) (ev evN : Evaluator) : Prop :=
  ∀ x b, ev.evaluate re x = .val b → evN.evaluate re x = .val (!b)

theorem negatesVals_of_negates {re : RegexOracle} {ev evN : Evaluator}
    (h : ∀ x, evN.evaluate re x = match ev.evaluate re x with | .val b => .val (!b) | o => o) :
    NegatesVals re ev evN := by
  intro x b hb
  rw [h x, hb]

theorem not_negatesVals (re : RegexOracle) (ev : Evaluator) :
    NegatesVals re ev { ev with ast := .not ev.ast } := by
  intro x b hb
  simp only [Evaluator.evaluate, Eval.evaluate] at *
  rw [hb]

/-- … and satisfies the full negation hypothesis wherever `ev` does not return `.err true` (the
    `not` branch of `evaluate` returns `false, err`, i.e. it resets the boolean of an error). -/
theorem not_negates_at (re : RegexOracle) (ev : Evaluator) (x : Any)
    (hnoerr : ev.evaluate re x ≠ .err true) :
    ({ ev with ast := .not ev.ast } : Evaluator).evaluate re x =
      match ev.evaluate re x with | .val b => .val (!b) | o => o := by
  simp only [Evaluator.evaluate, Eval.evaluate] at *
  generalize evaluate re ev.ast _ x = o at *
  cases o with
  | err b =>
    cases b
    · rfl
    · exact absurd rfl hnoerr
  | _ => rfl

/-- Slices (weak hypothesis): the elements kept by `ev` followed by those kept by `evN` are a
    permutation of the input, and the lengths add up. -/
theorem execute_partition_vals (re : RegexOracle) (ev evN : Evaluator)
    (hneg : NegatesVals re ev evN)
    (name : String) (elem : GoType) (isNil : Bool) (xs : List GoVal) (r rN : Any)
    (h : execute re (some ev) (some (.slice name elem isNil xs)) = .ok r)
    (hN : execute re (some evN) (some (.slice name elem isNil xs)) = .ok rN) :
    ∃ k kN, r = some (.slice name elem false k) ∧ rN = some (.slice name elem false kN) ∧
      (k ++ kN).Perm xs ∧ k.length + kN.length = xs.length := by
  rw [execute_slice_eq] at h hN
  exact runLoop_partition _ _ _ (fun x => hneg x.toAny) xs r rN h hN

theorem execute_partition (re : RegexOracle) (ev evN : Evaluator)
    (hneg : ∀ x, evN.evaluate re x =
      match ev.evaluate re x with | .val b => .val (!b) | o => o)
    (name : String) (elem : GoType) (isNil : Bool) (xs : List GoVal) (r rN : Any)
    (h : execute re (some ev) (some (.slice name elem isNil xs)) = .ok r)
    (hN : execute re (some evN) (some (.slice name elem isNil xs)) = .ok rN) :
    ∃ k kN, r = some (.slice name elem false k) ∧ rN = some (.slice name elem false kN) ∧
      (k ++ kN).Perm xs ∧ k.length + kN.length = xs.length :=
  execute_partition_vals re ev evN (negatesVals_of_negates hneg) name elem isNil xs r rN h hN

/-- Slices, instantiated with the `not`-wrapped evaluator: no hypothesis left. -/
theorem execute_partition_not (re : RegexOracle) (ev : Evaluator)
    (name : String) (elem : GoType) (isNil : Bool) (xs : List GoVal) (r rN : Any)
    (h : execute re (some ev) (some (.slice name elem isNil xs)) = .ok r)
    (hN : execute re (some { ev with ast := .not ev.ast })
            (some (.slice name elem isNil xs)) = .ok rN) :
    ∃ k kN, r = some (.slice name elem false k) ∧ rN = some (.slice name elem false kN) ∧
      (k ++ kN).Perm xs ∧ k.length + kN.length = xs.length :=
  execute_partition_vals re ev _ (not_negatesVals re ev) name elem isNil xs r rN h hN

theorem execute_partition_array (re : RegexOracle) (ev evN : Evaluator)
    (hneg : ∀ x, evN.evaluate re x =
      match ev.evaluate re x with | .val b => .val (!b) | o => o)
    (elem : GoType) (xs : List GoVal) (r rN : Any)
    (h : execute re (some ev) (some (.array elem xs)) = .ok r)
    (hN : execute re (some evN) (some (.array elem xs)) = .ok rN) :
    ∃ k kN, r = some (.slice "" elem false k) ∧ rN = some (.slice "" elem false kN) ∧
      (k ++ kN).Perm xs ∧ k.length + kN.length = xs.length := by
  rw [execute_array_eq] at h hN
  exact runLoop_partition _ _ _ (fun x => negatesVals_of_negates hneg x.toAny) xs r rN h hN

/-- Maps: the two result maps partition the entries. -/
theorem execute_partition_map (re : RegexOracle) (ev evN : Evaluator)
    (hneg : ∀ x, evN.evaluate re x =
      match ev.evaluate re x with | .val b => .val (!b) | o => o)
    (name : String) (kt vt : GoType) (isNil : Bool) (es : List (GoVal × GoVal)) (r rN : Any)
    (h : execute re (some ev) (some (.map name kt vt isNil es)) = .ok r)
    (hN : execute re (some evN) (some (.map name kt vt isNil es)) = .ok rN) :
    ∃ k kN, r = some (.map name kt vt false k) ∧ rN = some (.map name kt vt false kN) ∧
      (k ++ kN).Perm es ∧ k.length + kN.length = es.length := by
  rw [execute_map_eq] at h hN
  exact runLoop_partition _ _ _ (fun e => negatesVals_of_negates hneg e.2.toAny) es r rN h hN

/-! ### Non-vacuity -/

section examples

/-- ASCII bytes of a literal; unlike `GoString.ofString` (which goes through `ByteArray`) this
    reduces by `rfl`; the two agree on the literals used here (checked below). -/
def gs (x : String) : GoString := x.toList.map GoString.byteOfChar

example : gs "x" = GoString.ofString "x" ∧ gs "1" = GoString.ofString "1" ∧
    gs "bexpr" = GoString.ofString "bexpr" := by decide +kernel

/-- `x == "1"` -/
def exEv : Evaluator :=
  { ast := .match_ ⟨.bexpr, [gs "x"]⟩ .equal (some (gs "1")),
    tagName := gs "bexpr", hook := .off, unknown := none, expression := gs "x == \"1\"" }

/-- `not (x == "1")` -/
def exEvN : Evaluator := { exEv with ast := .not exEv.ast }

def noRe : RegexOracle := fun _ => none

def rowT : GoType := .struct "main.Row"

/-- `Row{x: v}` (one exported field `x` without tags) -/
def row (v : String) : GoVal := .struct "main.Row" [(⟨gs "x", true, []⟩, .str "" (gs v))]

/-- a struct without the field `x`: selecting `x` is an error -/
def badRow : GoVal := .struct "main.Row" [(⟨gs "y", true, []⟩, .str "" (gs "1"))]

def key (k : String) : GoVal := .str "" (gs k)

example : exEv.evaluate noRe (row "1").toAny = .val true := by decide
example : exEv.evaluate noRe (row "2").toAny = .val false := by decide
example : exEv.evaluate noRe badRow.toAny = .err false := by decide

/-- a value of the named slice type `main.Rows = []Row` with three rows -/
def exSlice : Any := some (.slice "main.Rows" rowT false [row "1", row "2", row "1"])

example : execute noRe (some exEv) exSlice =
    .ok (some (.slice "main.Rows" rowT false [row "1", row "1"])) := rfl

example : execute noRe (some exEvN) exSlice =
    .ok (some (.slice "main.Rows" rowT false [row "2"])) := rfl

/-- `[3]Row` -/
example : execute noRe (some exEv) (some (.array rowT [row "2", row "1", row "3"])) =
    .ok (some (.slice "" rowT false [row "1"])) := rfl

/-- `map[string]Row` of the named type `main.M` -/
def exMap : Any :=
  some (.map "main.M" GoType.stringT rowT false
    [(key "a", row "1"), (key "b", row "2"), (key "c", row "1")])

example : execute noRe (some exEv) exMap =
    .ok (some (.map "main.M" GoType.stringT rowT false
      [(key "a", row "1"), (key "c", row "1")])) := rfl

/-- the first error aborts (the later `row "1"` is not looked at) -/
example : execute noRe (some exEv)
    (some (.slice "" rowT false [row "1", badRow, row "1"])) = .err := rfl

/-- the hypotheses of `execute_slice_spec` / `execute_first_error` hold on these data -/
example : ∀ x ∈ [row "1", row "2", row "1"], ∃ b, exEv.evaluate noRe x.toAny = .val b := by
  intro x hx
  simp only [List.mem_cons, List.not_mem_nil, or_false] at hx
  rcases hx with rfl | rfl | rfl
  · exact ⟨true, by decide⟩
  · exact ⟨false, by decide⟩
  · exact ⟨true, by decide⟩

example : ∀ b, exEv.evaluate noRe badRow.toAny ≠ .val b := by decide

/-- nil filter, untyped nil, a non-container -/
example : execute noRe none exSlice = .ok exSlice := rfl
example : execute noRe (some exEv) none = .err := rfl
example : execute noRe (some exEv) (some (row "1")) = .err := rfl

/-- `exEvN` satisfies the negation hypothesis of `execute_partition` on the example rows -/
example : ∀ x ∈ [row "1", row "2", row "1"],
    exEvN.evaluate noRe x.toAny =
      match exEv.evaluate noRe x.toAny with | .val b => .val (!b) | o => o := by
  intro x hx
  simp only [List.mem_cons, List.not_mem_nil, or_false] at hx
  rcases hx with rfl | rfl | rfl <;> decide

end examples

end Bexpr.Props.C17

#print axioms Bexpr.Props.C17.execute_slice_spec
#print axioms Bexpr.Props.C17.execute_array_spec
#print axioms Bexpr.Props.C17.execute_map_spec
#print axioms Bexpr.Props.C17.execute_first_error_slice
#print axioms Bexpr.Props.C17.execute_first_error_array
#print axioms Bexpr.Props.C17.execute_first_error
#print axioms Bexpr.Props.C17.execute_first_error_array'
#print axioms Bexpr.Props.C17.exists_first_nonval
#print axioms Bexpr.Props.C17.execute_map_err_iff
#print axioms Bexpr.Props.C17.execute_first_error_map_perm
#print axioms Bexpr.Props.C17.execute_map_any_err
#print axioms Bexpr.Props.C17.execute_map_ok_perm
#print axioms Bexpr.Props.C17.execute_nil_filter
#print axioms Bexpr.Props.C17.execute_other_kind
#print axioms Bexpr.Props.C17.execute_ok_container
#print axioms Bexpr.Props.C17.execute_idem
#print axioms Bexpr.Props.C17.execute_partition_vals
#print axioms Bexpr.Props.C17.execute_partition
#print axioms Bexpr.Props.C17.execute_partition_not
#print axioms Bexpr.Props.C17.execute_partition_array
#print axioms Bexpr.Props.C17.execute_partition_map
#print axioms Bexpr.Props.C17.not_negatesVals
#print axioms Bexpr.Props.C17.not_negates_at
