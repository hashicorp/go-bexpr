/-
  Property C07 (selector spellings):

    "A path spelled `a.b.0`, `a["b"]["0"]` (or with backticks) or `"/a/b/0"` selects the same
     element … In the JSON-Pointer spelling ~1 and ~0 denote '/' and '~'."

  At parser level (grammar = the PINNED table, semantics `Sem`, engine by `Props/C15.lean`):
   * `selector_bexpr_spellings` — every bexpr spelling of a part list (first identifier, then
     parts written `.ident`, `.digits`, `["…"]`, [`…`], with blanks inside the brackets)
     yields `Selector{Type: bexpr, Path: parts}`;
   * `selector_pointer_spelling` — the JSON-pointer spelling `"/p₁/p₂…"` of a path, each
     element RFC 6901-escaped (`~` ↦ `~0`, `/` ↦ `~1`), yields
     `Selector{Type: jsonPointer, Path: path}`: `~1` and `~0` denote `/` and `~`;
   * `selector_spellings_same_path` — so all spellings of one path yield selectors with the
     same `.path` (they differ in the `ty` field only);
   * `evaluate_ignores_selector_type` — the evaluator reads `.path` only: two trees that differ
     only in selector `ty` fields evaluate alike on every datum;
   * `spellings_same_outcome` — two whole renderings that differ only in how selectors are
     spelled are both accepted, and the two trees evaluate alike.

  NOT TREATED here or in `Props/C07Eval.lean`: the last clause of the property (each path
  part is matched against map keys and struct field names exactly, case-sensitively, no
  trimming); it is about the lookup `Go.get`, not about spellings.

  The surrounding input is valid UTF-8 (`VT` = Go's `utf8.ValidString`, `C16.valid_text_iff`).
  RESTRICTIONS: in the pointer spelling every escaped element is non-empty valid UTF-8 whose
  runes are in the grammar's class `[\pL\pN-_.~:|]` (`SegOK`: letters and numbers by Go's
  `unicode.L` / `unicode.N` tables, non-ASCII ones included, or one of `-_.~:|` — a property of
  the grammar), the path is non-empty; index literals are `q body q` with a valid UTF-8 body
  without the byte `q` (denoting `strconv.Unquote` of the token).  Whole renderings: those of
  `Props/C16.lean`.
-/
import Bexpr.Eval.Impl
import Props.C15
import Props.C16Lex
import Proofs.RoundTripExpr

namespace Bexpr.Props.C07
open Bexpr Bexpr.Peg Bexpr.Driver Bexpr.Eval Bexpr.Proofs.RoundTrip
open Bexpr.Props.C16Lex (ptrEscape)

/-! ## 1. Parser level: all spellings of a path give that path -/

/-- bexpr spellings: `a.b.0`, `a["b"][`0`]`, `a[ "b" ].0` -/
theorem selector_bexpr_spellings (σ : SelSp) (h : σ.WF) (rest : GoString) (hstop : stopsSel rest)
    (hr : VT rest) (rule : String) (fr : Frame) (off : Nat) (errs : List PErr) :
    Sem pinEnv pinGrammar rule (.ruleRef "Selector") fr (ptAt (σ.text ++ rest) off) errs
      (.res (ptAt rest (off + σ.text.length)) errs fr (.sel { ty := .bexpr, path := σ.path })
        true) :=
  eats_Selector_bexpr σ h hstop hr

/-- JSON-pointer spelling: `"/a/b~1c/0"` is the path `[a, b/c, 0]`. -/
theorem selector_pointer_spelling (path : List GoString) (hne : path ≠ [])
    (h : ∀ p ∈ path, SegOK (ptrEscape p)) (rest : GoString) (hr : VT rest) (rule : String)
    (fr : Frame) (off : Nat) (errs : List PErr) :
    Sem pinEnv pinGrammar rule (.ruleRef "Selector") fr (ptAt (pointerText path ++ rest) off) errs
      (.res (ptAt rest (off + (pointerText path).length)) errs fr
        (.sel { ty := .jsonPointer, path := path }) true) :=
  eats_Selector_pointer path hne h hr

/-- Any two spellings of the same path — two bexpr spellings, or a bexpr spelling and the
    pointer spelling — parse to selectors with the same `.path`. -/
theorem selector_spellings_same_path (x₁ x₂ : SelX) (h₁ : x₁.WF) (h₂ : x₂.WF)
    (hp : x₁.sel.path = x₂.sel.path) (rest₁ rest₂ : GoString) (hf₁ : x₁.follow rest₁)
    (hf₂ : x₂.follow rest₂) (hr₁ : VT rest₁) (hr₂ : VT rest₂) (rule : String) (fr : Frame)
    (off : Nat) (errs : List PErr) :
    ∃ s₁ s₂ : Selector,
      Sem pinEnv pinGrammar rule (.ruleRef "Selector") fr (ptAt (x₁.text ++ rest₁) off) errs
        (.res (ptAt rest₁ (off + x₁.text.length)) errs fr (.sel s₁) true) ∧
      Sem pinEnv pinGrammar rule (.ruleRef "Selector") fr (ptAt (x₂.text ++ rest₂) off) errs
        (.res (ptAt rest₂ (off + x₂.text.length)) errs fr (.sel s₂) true) ∧
      s₁.path = s₂.path :=
  ⟨x₁.sel, x₂.sel, eats_SelX x₁ h₁ hf₁ hr₁, eats_SelX x₂ h₂ hf₂ hr₂, hp⟩

theorem bexpr_vs_pointer (σ : SelSp) : (SelX.bexpr σ).sel.path = (SelX.ptr σ.path).sel.path := rfl

/-- the same at the level of the engine's `parseExpr`: from any state on that input, with
    enough budget and fuel, both calls succeed with selectors of equal path -/
theorem selector_spellings_engine (x₁ x₂ : SelX) (h₁ : x₁.WF) (h₂ : x₂.WF)
    (hp : x₁.sel.path = x₂.sel.path) (rest₁ rest₂ : GoString) (hf₁ : x₁.follow rest₁)
    (hf₂ : x₂.follow rest₂) (hr₁ : VT rest₁) (hr₂ : VT rest₂) (rule : String) (fr : Frame)
    (off : Nat) (errs : List PErr) :
    ∃ (s₁ s₂ : Selector) (N₁ N₂ : Nat), s₁.path = s₂.path ∧
      ∀ max fuel cnt, cnt + N₁ ≤ max → N₁ ≤ fuel → cnt + N₂ ≤ max → N₂ ≤ fuel →
        eval pinEnv pinGrammar max fuel rule (.ruleRef "Selector") fr
            { pt := ptAt (x₁.text ++ rest₁) off, cnt := cnt, errs := errs } =
          .ok { pt := ptAt rest₁ (off + x₁.text.length), cnt := cnt + N₁, errs := errs } fr
            (.sel s₁) true ∧
        eval pinEnv pinGrammar max fuel rule (.ruleRef "Selector") fr
            { pt := ptAt (x₂.text ++ rest₂) off, cnt := cnt, errs := errs } =
          .ok { pt := ptAt rest₂ (off + x₂.text.length), cnt := cnt + N₂, errs := errs } fr
            (.sel s₂) true := by
  obtain ⟨N₁, _, e₁⟩ := C15.engine_complete_sem pinEnv pinGrammar
    (eats_SelX (rule := rule) (fr := fr) (off := off) (errs := errs) x₁ h₁ hf₁ hr₁)
  obtain ⟨N₂, _, e₂⟩ := C15.engine_complete_sem pinEnv pinGrammar
    (eats_SelX (rule := rule) (fr := fr) (off := off) (errs := errs) x₂ h₂ hf₂ hr₂)
  exact ⟨x₁.sel, x₂.sel, N₁, N₂, hp, fun max fuel cnt a b c d =>
    ⟨e₁ max fuel cnt a b, e₂ max fuel cnt c d⟩⟩

/-! ## 2. Evaluator level: the selector type is never read -/

def eraseTySel (s : Selector) : Selector := { s with ty := .bexpr }

/-- the tree with every selector's type field reset -/
def eraseTy : Expr → Expr
  | .not e => .not (eraseTy e)
  | .and l r => .and (eraseTy l) (eraseTy r)
  | .or l r => .or (eraseTy l) (eraseTy r)
  | .match_ s o v => .match_ (eraseTySel s) o v
  | .coll o s b e => .coll o (eraseTySel s) b (eraseTy e)

theorem evaluate_eraseTy (re : RegexOracle) : ∀ (e : Expr) (o : Opts) (d : Go.Any),
    evaluate re (eraseTy e) o d = evaluate re e o d
  | .not e, o, d => by simp only [eraseTy, evaluate, evaluate_eraseTy re e]
  | .and l r, o, d => by
    simp only [eraseTy, evaluate, evaluate_eraseTy re l, evaluate_eraseTy re r]
  | .or l r, o, d => by
    simp only [eraseTy, evaluate, evaluate_eraseTy re l, evaluate_eraseTy re r]
  | .match_ s op v, o, d => rfl
  | .coll op s b e, o, d => by
    have ih : (fun o' => evaluate re (eraseTy e) o' d) = (fun o' => evaluate re e o' d) :=
      funext fun o' => evaluate_eraseTy re e o' d
    simp only [eraseTy, evaluate, ih]
    rfl

/-- Two expressions that differ only in selector `ty` fields (quantifier selectors included)
    have the same outcome — value, error or panic — on every datum, options and regexp oracle. -/
theorem evaluate_ignores_selector_type (re : RegexOracle) (e₁ e₂ : Expr)
    (h : eraseTy e₁ = eraseTy e₂) (o : Opts) (d : Go.Any) :
    evaluate re e₁ o d = evaluate re e₂ o d := by
  rw [← evaluate_eraseTy re e₁, ← evaluate_eraseTy re e₂, h]

/-! ## 3. Whole expressions -/

theorem eraseTy_notFold (e : Expr) : eraseTy (notFold e) = notFold (eraseTy e) := by
  cases e <;> rfl

theorem eraseTy_norm : ∀ e : Expr, eraseTy (norm e) = norm (eraseTy e)
  | .not e => by simp only [norm, eraseTy, eraseTy_notFold, eraseTy_norm e]
  | .and l r => by simp only [norm, eraseTy, eraseTy_norm l, eraseTy_norm r]
  | .or l r => by simp only [norm, eraseTy, eraseTy_norm l, eraseTy_norm r]
  | .match_ .. => rfl
  | .coll _ _ _ e => by simp only [norm, eraseTy, eraseTy_norm e]

/-- Two well-formed renderings whose trees differ only in the selector types (i.e. which
    differ in how paths are spelled — and in blanks, parentheses, literal styles) are both
    accepted by the parser, and the trees it returns evaluate alike. -/
theorem spellings_same_outcome (ρ₁ ρ₂ : Top) (h₁ : ρ₁.WF) (h₂ : ρ₂.WF)
    (hsame : eraseTy ρ₁.ast = eraseTy ρ₂.ast) :
    ∃ e₁ e₂, Accepts pinEnv pinGrammar ρ₁.text (.expr e₁) ∧
      Accepts pinEnv pinGrammar ρ₂.text (.expr e₂) ∧
      ∀ re o d, evaluate re e₁ o d = evaluate re e₂ o d := by
  refine ⟨norm ρ₁.ast, norm ρ₂.ast, accepts_top_norm ρ₁ h₁, accepts_top_norm ρ₂ h₂, ?_⟩
  intro re o d
  exact evaluate_ignores_selector_type re _ _ (by rw [eraseTy_norm, eraseTy_norm, hsame]) o d

theorem respell_match (σ : SelSp) (o : OpSp) (v : ValSp) (p : PostSp) (i : InSp) :
    eraseTy (MatchSp.opValue (.bexpr σ) o v).ast = eraseTy (MatchSp.opValue (.ptr σ.path) o v).ast ∧
    eraseTy (MatchSp.post (.bexpr σ) p).ast = eraseTy (MatchSp.post (.ptr σ.path) p).ast ∧
    eraseTy (MatchSp.inSel v i (.bexpr σ)).ast = eraseTy (MatchSp.inSel v i (.ptr σ.path)).ast :=
  ⟨rfl, rfl, rfl⟩

/-! ## 4. Non-vacuity: `a.b.0`, `a["b"][`0`]`, `"/a/b/0"` -/

namespace Example

def dotted : SelSp := ⟨97, [], [.dotIdent 98 [], .dotDigits 48 []]⟩
def bracketed : SelSp := ⟨97, [], [.index [] 0x22 [98] [] [98], .index [32] 0x60 [48] [32] [48]]⟩
def path : List GoString := [[97], [98], [48]]

def asc (s : String) : GoString := s.toList.map GoString.byteOfChar

theorem asc_ofList (cs : List Char) : asc (String.ofList cs) = cs.map GoString.byteOfChar := by
  rw [asc, String.toList_ofList]

theorem texts : dotted.text = asc "a.b.0" ∧ bracketed.text = asc "a[\"b\"][ `0` ]" ∧
    pointerText path = asc "\"/a/b/0\"" := by
  rw [asc_ofList, asc_ofList, asc_ofList]
  decide +kernel

theorem paths : dotted.path = path ∧ bracketed.path = path := ⟨rfl, rfl⟩

theorem dotted_WF : dotted.WF := by decide +kernel
theorem bracketed_WF : bracketed.WF := by decide +kernel
theorem pointer_WF : (SelX.ptr path).WF := by decide +kernel

/-- non-ASCII path elements: `a["ключ"][`名前`]` and `"/a/ключ/名前"` -/
def keyK : GoString := [0xD0, 0xBA, 0xD0, 0xBB, 0xD1, 0x8E, 0xD1, 0x87]  -- ключ
def keyN : GoString := [0xE5, 0x90, 0x8D, 0xE5, 0x89, 0x8D]              -- 名前
def bracketedU : SelSp := ⟨97, [], [.index [] 0x22 keyK [] keyK, .index [] 0x60 keyN [] keyN]⟩

theorem bracketedU_WF : bracketedU.WF := by decide +kernel
theorem pointerU_WF : (SelX.ptr [[97], keyK, keyN]).WF := by decide +kernel

theorem unicode_same_path :
    (SelX.bexpr bracketedU).sel.path = (SelX.ptr [[97], keyK, keyN]).sel.path := rfl

/-- the escapes: `"/a~1b/c~0d"` is the path `[a/b, c~d]` -/
theorem escapes : pointerText [asc "a/b", asc "c~d"] = asc "\"/a~1b/c~0d\"" := by
  rw [asc_ofList, asc_ofList, asc_ofList]
  simp only [pointerText, List.map, C16Lex.ptrEscape_eq_flatMap]
  decide +kernel

end Example

end Bexpr.Props.C07

#print axioms Bexpr.Props.C07.selector_bexpr_spellings
#print axioms Bexpr.Props.C07.selector_pointer_spelling
#print axioms Bexpr.Props.C07.selector_spellings_same_path
#print axioms Bexpr.Props.C07.selector_spellings_engine
#print axioms Bexpr.Props.C07.evaluate_eraseTy
#print axioms Bexpr.Props.C07.evaluate_ignores_selector_type
#print axioms Bexpr.Props.C07.eraseTy_norm
#print axioms Bexpr.Props.C07.spellings_same_outcome
#print axioms Bexpr.Props.C07.respell_match
#print axioms Bexpr.Props.C07.Example.texts
#print axioms Bexpr.Props.C07.Example.dotted_WF
#print axioms Bexpr.Props.C07.Example.bracketed_WF
#print axioms Bexpr.Props.C07.Example.pointer_WF
#print axioms Bexpr.Props.C07.Example.bracketedU_WF
#print axioms Bexpr.Props.C07.Example.pointerU_WF
#print axioms Bexpr.Props.C07.Example.unicode_same_path
#print axioms Bexpr.Props.C07.Example.escapes
