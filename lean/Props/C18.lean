/-
  C18 — Options act only on their own aspect, in any order.

  Model: `Options`, `Opt`, `Opt.apply`, `getOpts`, `createEvaluator` (`Bexpr/Eval/Create.lean`),
  `Evaluator.evaluate` (`Bexpr/Eval/Impl.lean`), `getStep` (`Bexpr/Go/Pointer.lean`).
  Go: `/repo/options.go`, `/repo/bexpr.go`.
  `Opt.kind`, `Opt.maxArg` … and `lastSome` are defined in `Proofs/OptionLemmas.lean`.
-/
import Bexpr.Eval.Create
import Proofs.OptionLemmas

namespace Bexpr.Props.C18
open Bexpr Bexpr.Go Bexpr.Eval Bexpr.Peg Bexpr.Proofs.Options

/-! ### 1: every field of `getOpts opts` is the argument of the LAST option of its kind, else
    the default.  (`lastSome f l = (l.filterMap f).getLast?`; `nilOpt` has no argument of any
    kind, so it is skipped.) -/

theorem getOpts_maxExpressions (opts : List Opt) :
    (getOpts opts).maxExpressions = (lastSome Opt.maxArg opts).getD 0 :=
  foldl_lastSome_getD Opt.apply (·.maxExpressions) Opt.maxArg (fun _ a => by cases a <;> rfl) opts _

theorem getOpts_tagName (opts : List Opt) :
    (getOpts opts).tagName = (lastSome Opt.tagArg opts).getD (GoString.ofString "bexpr") :=
  foldl_lastSome_getD Opt.apply (·.tagName) Opt.tagArg (fun _ a => by cases a <;> rfl) opts _

theorem getOpts_hook (opts : List Opt) :
    (getOpts opts).hook = (lastSome Opt.hookArg opts).getD .off :=
  foldl_lastSome_getD Opt.apply (·.hook) Opt.hookArg (fun _ a => by cases a <;> rfl) opts _

/-- `withUnknown` is a pointer: `nil` unless some `WithUnknownValue(v)` was given, then the
    address of the last `v`. -/
theorem getOpts_unknown (opts : List Opt) :
    (getOpts opts).unknown = lastSome Opt.unknownArg opts :=
  (foldl_lastSome Opt.apply (·.unknown) Opt.unknownArg (fun _ a => by cases a <;> rfl) opts _).trans
    (Option.or_none ..)

theorem getOpts_fields (opts : List Opt) :
    getOpts opts =
      { maxExpressions := (lastSome Opt.maxArg opts).getD 0,
        tagName := (lastSome Opt.tagArg opts).getD (GoString.ofString "bexpr"),
        hook := (lastSome Opt.hookArg opts).getD .off,
        unknown := lastSome Opt.unknownArg opts } := by
  rw [← getOpts_maxExpressions, ← getOpts_tagName, ← getOpts_hook, ← getOpts_unknown]

/-- `lastSome` really is "the last one": a fold that keeps overwriting. -/
theorem lastSome_eq_foldl {α β : Type} (f : α → Option β) (l : List α) :
    lastSome f l = l.foldl (fun acc a => (f a).or acc) none :=
  ((foldl_lastSome (fun acc a => (f a).or acc) id f (fun _ _ => rfl) l none).trans
    (Option.or_none ..)).symm

/-! ### 2: permutation invariance for options of pairwise different kinds -/

theorem apply_comm_of_kind_ne (o : Options) (a b : Opt) (h : a.kind ≠ b.kind) :
    Opt.apply (Opt.apply o a) b = Opt.apply (Opt.apply o b) a := by
  cases a <;> cases b <;> first | rfl | exact absurd rfl h

/-- `nilOpt`s may be repeated: only the non-nil options must be of pairwise different kinds. -/
theorem getOpts_perm_nil (opts₁ opts₂ : List Opt) (hp : opts₁.Perm opts₂)
    (hk : opts₁.Pairwise fun a b => a.kind ≠ b.kind ∨ a.kind = .nil ∨ b.kind = .nil) :
    getOpts opts₁ = getOpts opts₂ := by
  unfold getOpts
  apply hp.foldl_eq'
  intro x hx y hy z
  have hs : ∀ a b : Opt, (a.kind ≠ b.kind ∨ a.kind = .nil ∨ b.kind = .nil) →
      (b.kind ≠ a.kind ∨ b.kind = .nil ∨ a.kind = .nil) :=
    fun a b h => h.elim (fun h => .inl (Ne.symm h)) fun h => .inr h.symm
  rcases pairwise_mem hs hk x hx y hy with rfl | hne | hn | hn
  · rfl
  · exact apply_comm_of_kind_ne z x y hne
  · cases x <;> first | rfl | cases hn
  · cases y <;> first | rfl | cases hn

theorem getOpts_perm (opts₁ opts₂ : List Opt) (hp : opts₁.Perm opts₂)
    (hk : opts₁.Pairwise fun a b => a.kind ≠ b.kind) :
    getOpts opts₁ = getOpts opts₂ :=
  getOpts_perm_nil opts₁ opts₂ hp (hk.imp .inl)

/-- The side condition is needed: two options of the same kind do not commute. -/
example : ∃ opts₁ opts₂ : List Opt, opts₁.Perm opts₂ ∧
    (getOpts opts₁).maxExpressions ≠ (getOpts opts₂).maxExpressions :=
  ⟨[.maxExpressions 1, .maxExpressions 2], [.maxExpressions 2, .maxExpressions 1],
    List.Perm.swap .., by decide⟩

/-! ### 3: the last option wins -/

theorem getOpts_append (opts more : List Opt) :
    getOpts (opts ++ more) = more.foldl Opt.apply (getOpts opts) :=
  List.foldl_append

theorem getOpts_last_wins (opts : List Opt) (o : Opt) :
    getOpts (opts ++ [o]) = o.apply (getOpts opts) :=
  getOpts_append opts [o]

/-- An option overwrites an earlier option of the same kind completely … -/
theorem apply_same_kind_overwrites (o : Options) (a b : Opt) (h : a.kind = b.kind) :
    Opt.apply (Opt.apply o a) b = Opt.apply o b := by
  cases a <;> cases b <;> first | rfl | cases h

/-- … so of two adjacent same-kind options only the later one matters, -/
theorem getOpts_same_kind_adjacent (opts rest : List Opt) (a b : Opt) (h : a.kind = b.kind) :
    getOpts (opts ++ a :: b :: rest) = getOpts (opts ++ b :: rest) := by
  simp only [getOpts_append, List.foldl_cons, apply_same_kind_overwrites _ a b h]

/-- and, with arbitrary options in between, the later one determines the field. -/
theorem getOpts_later_wins (pre mid : List Opt) :
    (∀ n m, (getOpts (pre ++ .maxExpressions n :: mid ++ [.maxExpressions m])).maxExpressions = m) ∧
    (∀ s t, (getOpts (pre ++ .tagName s :: mid ++ [.tagName t])).tagName = t) ∧
    (∀ h k, (getOpts (pre ++ .hookFn h :: mid ++ [.hookFn k])).hook = k) ∧
    (∀ v w, (getOpts (pre ++ .unknownValue v :: mid ++ [.unknownValue w])).unknown = some w) := by
  refine ⟨?_, ?_, ?_, ?_⟩ <;> intros <;> rw [getOpts_last_wins] <;> rfl

/-! ### 4: each option changes at most its own field -/

theorem apply_only_own_field_max (o : Options) (n : Nat) :
    Opt.apply o (.maxExpressions n) = { o with maxExpressions := n } ∧
    (Opt.apply o (.maxExpressions n)).tagName = o.tagName ∧
    (Opt.apply o (.maxExpressions n)).hook = o.hook ∧
    (Opt.apply o (.maxExpressions n)).unknown = o.unknown := ⟨rfl, rfl, rfl, rfl⟩

theorem apply_only_own_field_tag (o : Options) (s : GoString) :
    Opt.apply o (.tagName s) = { o with tagName := s } ∧
    (Opt.apply o (.tagName s)).maxExpressions = o.maxExpressions ∧
    (Opt.apply o (.tagName s)).hook = o.hook ∧
    (Opt.apply o (.tagName s)).unknown = o.unknown := ⟨rfl, rfl, rfl, rfl⟩

theorem apply_only_own_field_hook (o : Options) (h : Hook) :
    Opt.apply o (.hookFn h) = { o with hook := h } ∧
    (Opt.apply o (.hookFn h)).maxExpressions = o.maxExpressions ∧
    (Opt.apply o (.hookFn h)).tagName = o.tagName ∧
    (Opt.apply o (.hookFn h)).unknown = o.unknown := ⟨rfl, rfl, rfl, rfl⟩

theorem apply_only_own_field_unknown (o : Options) (v : Any) :
    Opt.apply o (.unknownValue v) = { o with unknown := some v } ∧
    (Opt.apply o (.unknownValue v)).maxExpressions = o.maxExpressions ∧
    (Opt.apply o (.unknownValue v)).tagName = o.tagName ∧
    (Opt.apply o (.unknownValue v)).hook = o.hook := ⟨rfl, rfl, rfl, rfl⟩

theorem apply_nilOpt (o : Options) : Opt.apply o .nilOpt = o := rfl

theorem apply_only_own_field (o : Options) (a : Opt) :
    (a.kind ≠ .maxExpressions → (Opt.apply o a).maxExpressions = o.maxExpressions) ∧
    (a.kind ≠ .tagName → (Opt.apply o a).tagName = o.tagName) ∧
    (a.kind ≠ .hook → (Opt.apply o a).hook = o.hook) ∧
    (a.kind ≠ .unknown → (Opt.apply o a).unknown = o.unknown) := by
  cases a <;> simp [Opt.kind, Opt.apply]

/-! ### 5: plumbing of the option record into parser and evaluator -/

theorem create_plumbing (env : Env) (g : Grammar) (expr : GoString) (opts : List Opt)
    (ev : Evaluator) (h : createEvaluator env g expr opts = .ok ev) :
    ev.tagName = (getOpts opts).tagName ∧
    ev.hook = (getOpts opts).hook ∧
    ev.unknown = (getOpts opts).unknown ∧
    ev.expression = expr ∧
    (Peg.run env g (getOpts opts).maxExpressions expr).val = .expr ev.ast ∧
    (Peg.run env g (getOpts opts).maxExpressions expr).accepted = true := by
  simp only [createEvaluator] at h
  split at h
  · cases h
  · next hacc =>
    split at h
    · next e he =>
      cases h
      refine ⟨rfl, rfl, rfl, rfl, he, ?_⟩
      simpa using hacc
    · cases h

/-- The outcome class (`ok`/`err`/`panic`) and the AST depend on the options only through
    `maxExpressions`: tag name, hook and unknown value never reach the parser. -/
theorem create_parser_sees_only_budget (env : Env) (g : Grammar) (expr : GoString)
    (opts₁ opts₂ : List Opt)
    (hm : (getOpts opts₁).maxExpressions = (getOpts opts₂).maxExpressions) :
    (createEvaluator env g expr opts₁ = .err ↔ createEvaluator env g expr opts₂ = .err) ∧
    (createEvaluator env g expr opts₁ = .panic ↔ createEvaluator env g expr opts₂ = .panic) ∧
    (∀ ev₁, createEvaluator env g expr opts₁ = .ok ev₁ →
      ∃ ev₂, createEvaluator env g expr opts₂ = .ok ev₂ ∧ ev₂.ast = ev₁.ast ∧
        ev₂.expression = ev₁.expression) := by
  simp only [createEvaluator, hm]
  split
  · simp
  · split <;> simp

/-- `createEvaluator` depends on the options only through the parse and the three fields
    tag/hook/unknown: with these equal the results are equal, whatever the budgets were. -/
theorem create_evaluator_ignores_budget (env : Env) (g : Grammar) (expr : GoString)
    (opts₁ opts₂ : List Opt)
    (hparse : Peg.run env g (getOpts opts₁).maxExpressions expr =
              Peg.run env g (getOpts opts₂).maxExpressions expr)
    (ht : (getOpts opts₁).tagName = (getOpts opts₂).tagName)
    (hh : (getOpts opts₁).hook = (getOpts opts₂).hook)
    (hu : (getOpts opts₁).unknown = (getOpts opts₂).unknown) :
    createEvaluator env g expr opts₁ = createEvaluator env g expr opts₂ := by
  simp only [createEvaluator, hparse, ht, hh, hu]

/-- `(*Evaluator).Evaluate` unfolded: it hands `evaluate` the fields `ast`, `tagName`, `hook`,
    `unknown` and an empty list of local variables (no budget, no expression text). -/
theorem evaluate_uses (re : RegexOracle) (ev : Evaluator) (d : Any) :
    ev.evaluate re d =
      evaluate re ev.ast
        { tagName := ev.tagName, hook := ev.hook, unknown := ev.unknown, locals := [] } d := rfl

theorem create_evaluate (env : Env) (g : Grammar) (expr : GoString) (opts : List Opt)
    (ev : Evaluator) (h : createEvaluator env g expr opts = .ok ev) (re : RegexOracle) (d : Any) :
    ev.evaluate re d =
      evaluate re ev.ast
        { tagName := (getOpts opts).tagName, hook := (getOpts opts).hook,
          unknown := (getOpts opts).unknown, locals := [] } d := by
  obtain ⟨h1, h2, h3, _⟩ := create_plumbing env g expr opts ev h
  rw [evaluate_uses, h1, h2, h3]

/-! ### 6: neutral settings -/

/-- prepending an option that sets a field to its default value is a no-op -/
theorem max_zero_neutral (opts : List Opt) :
    getOpts (.maxExpressions 0 :: opts) = getOpts opts := rfl

theorem tag_default_neutral (opts : List Opt) :
    getOpts (.tagName (GoString.ofString "bexpr") :: opts) = getOpts opts := rfl

theorem hook_off_neutral (opts : List Opt) :
    getOpts (.hookFn .off :: opts) = getOpts opts := rfl

theorem nilOpt_neutral (pre post : List Opt) :
    getOpts (pre ++ .nilOpt :: post) = getOpts (pre ++ post) := by
  rw [getOpts_append, getOpts_append, List.foldl_cons, apply_nilOpt]

/-- budget 0 is "unlimited" in the parser (`newParser`: 0 ↦ MaxUint64), so passing the default
    explicitly gives the same parse as the largest budget -/
theorem max_zero_is_unlimited (env : Env) (g : Grammar) (expr : GoString) :
    Peg.run env g 0 expr = Peg.run env g (2 ^ 64 - 1) expr := rfl

theorem hook_identity_neutral (v : GoVal) : Hook.identity.apply v = Hook.off.apply v := rfl

/-- The identity hook and no hook are the same function of the value, so they are
    interchangeable wherever the hook is used (`Proofs/OptionLemmas.lean`). -/
theorem getStep_identity_neutral (cfg : Config) (part : GoString) (cur : RV) :
    getStep { cfg with hook := .identity } part cur = getStep { cfg with hook := .off } part cur :=
  getStep_hook_congr _ _ hook_identity_neutral cfg.tagName part cur

theorem get_identity_neutral (cfg : Config) (parts : List GoString) (v : Any) :
    get { cfg with hook := .identity } parts v = get { cfg with hook := .off } parts v :=
  get_hook_congr _ _ hook_identity_neutral cfg.tagName parts v

theorem getValue_identity_neutral (o : Opts) (d : Any) (path : List GoString) :
    getValue { o with hook := .identity } d path = getValue { o with hook := .off } d path :=
  getValue_hook_congr _ _ hook_identity_neutral o d path

theorem evaluate_identity_neutral (re : RegexOracle) (e : Expr) (o : Opts) (d : Any) :
    evaluate re e { o with hook := .identity } d = evaluate re e { o with hook := .off } d :=
  evaluate_hook_congr _ _ hook_identity_neutral re e o d

theorem evaluator_identity_neutral (re : RegexOracle) (ev : Evaluator) (d : Any) :
    ({ ev with hook := .identity } : Evaluator).evaluate re d =
      ({ ev with hook := .off } : Evaluator).evaluate re d :=
  evaluate_identity_neutral re ev.ast ⟨ev.tagName, ev.hook, ev.unknown, []⟩ d

/-- `WithHookFn(identity)` as the last hook option vs. no hook option at all: the created
    evaluators (if any) evaluate identically. -/
theorem create_identity_neutral (env : Env) (g : Grammar) (expr : GoString) (opts : List Opt)
    (hnh : ∀ o ∈ opts, o.kind ≠ .hook) (ev₁ ev₂ : Evaluator)
    (h₁ : createEvaluator env g expr (opts ++ [.hookFn .identity]) = .ok ev₁)
    (h₂ : createEvaluator env g expr opts = .ok ev₂) (re : RegexOracle) (d : Any) :
    ev₁.evaluate re d = ev₂.evaluate re d := by
  have hoff : (getOpts opts).hook = .off := by
    have : opts.filterMap Opt.hookArg = [] := by
      rw [List.filterMap_eq_nil_iff]
      intro o ho
      have := hnh o ho
      cases o <;> first | rfl | exact absurd rfl this
    rw [getOpts_hook, lastSome, this]
    rfl
  -- both creations parse under the same budget: same tree, and the option records differ in
  -- the hook only
  obtain ⟨-, -, -, -, ha₁, -⟩ := create_plumbing env g expr _ ev₁ h₁
  obtain ⟨-, -, -, -, ha₂, -⟩ := create_plumbing env g expr _ ev₂ h₂
  rw [getOpts_last_wins] at ha₁
  rw [create_evaluate env g expr _ ev₁ h₁, create_evaluate env g expr _ ev₂ h₂, getOpts_last_wins,
    PVal.expr.inj (ha₁.symm.trans ha₂), hoff]
  exact evaluate_identity_neutral re ev₂.ast ⟨_, .off, _, []⟩ d

/-! ### 7: non-vacuity -/

section examples

def gs (x : String) : GoString := x.toList.map GoString.byteOfChar

def exOpts : List Opt :=
  [.tagName (gs "a"), .maxExpressions 3, .nilOpt, .tagName (gs "json"), .hookFn .unwrap,
   .unknownValue none, .unknownValue (some (.bool "" true)), .maxExpressions 7]

example : (getOpts exOpts).maxExpressions = 7 := rfl
example : (getOpts exOpts).tagName = gs "json" := rfl
example : (getOpts exOpts).hook = .unwrap := rfl
example : (getOpts exOpts).unknown = some (some (.bool "" true)) := rfl
example : lastSome Opt.maxArg exOpts = some 7 := by decide
example : lastSome Opt.tagArg exOpts = some (gs "json") := by decide
example : lastSome Opt.hookArg exOpts = some .unwrap := by decide
example : (getOpts []).maxExpressions = 0 ∧ (getOpts []).hook = .off ∧
    (getOpts []).tagName = GoString.ofString "bexpr" := ⟨rfl, rfl, rfl⟩

example : getOpts [.tagName (gs "t"), .maxExpressions 5, .hookFn .const42] =
          getOpts [.hookFn .const42, .tagName (gs "t"), .maxExpressions 5] :=
  getOpts_perm _ _ ((List.Perm.cons _ (List.Perm.swap ..)).trans (List.Perm.swap ..))
    (by simp [Opt.kind])

/-! A toy grammar `toyG` whose only rule is an action returning the fixed tree `toyTree` (through
    `toyEnv`): enough to exercise the `.ok` path of `createEvaluator` (the real grammar is exercised
    by the driver). -/
def toyTree : Expr := .match_ ⟨.bexpr, [gs "x"]⟩ .isEmpty none
def toyEnv : Env :=
  { action := fun _ _ _ => .ret (.expr toyTree) none, pred := fun _ _ => .panic "none",
    classIn := fun _ _ => none }
def toyG : Grammar := [{ name := "Input", displayName := "", expr := .action "mk" (.seq []) }]

example : ∃ ev, createEvaluator toyEnv toyG (gs "x is empty") exOpts = .ok ev ∧
    ev.ast = toyTree ∧ ev.tagName = gs "json" ∧ ev.hook = .unwrap ∧
    ev.unknown = some (some (.bool "" true)) := ⟨_, rfl, rfl, rfl, rfl, rfl⟩

/-- a budget that is too small makes creation fail: the budget does reach the parser -/
example : ∃ opts, (match createEvaluator toyEnv toyG (gs "x") opts with
    | .err => true | _ => false) = true := ⟨[.maxExpressions 1], rfl⟩

/-- the hooks differ in general: `identity` is neutral but `const42` is not -/
example : Hook.const42.apply (.bool "" true) ≠ Hook.off.apply (.bool "" true) := by
  simp [Hook.apply]

end examples

end Bexpr.Props.C18

#print axioms Bexpr.Props.C18.getOpts_maxExpressions
#print axioms Bexpr.Props.C18.getOpts_tagName
#print axioms Bexpr.Props.C18.getOpts_hook
#print axioms Bexpr.Props.C18.getOpts_unknown
#print axioms Bexpr.Props.C18.getOpts_fields
#print axioms Bexpr.Props.C18.lastSome_eq_foldl
#print axioms Bexpr.Props.C18.getOpts_perm
#print axioms Bexpr.Props.C18.getOpts_perm_nil
#print axioms Bexpr.Props.C18.getOpts_last_wins
#print axioms Bexpr.Props.C18.apply_same_kind_overwrites
#print axioms Bexpr.Props.C18.getOpts_same_kind_adjacent
#print axioms Bexpr.Props.C18.getOpts_later_wins
#print axioms Bexpr.Props.C18.apply_only_own_field_max
#print axioms Bexpr.Props.C18.apply_only_own_field_tag
#print axioms Bexpr.Props.C18.apply_only_own_field_hook
#print axioms Bexpr.Props.C18.apply_only_own_field_unknown
#print axioms Bexpr.Props.C18.apply_only_own_field
#print axioms Bexpr.Props.C18.create_plumbing
#print axioms Bexpr.Props.C18.create_parser_sees_only_budget
#print axioms Bexpr.Props.C18.create_evaluator_ignores_budget
#print axioms Bexpr.Props.C18.evaluate_uses
#print axioms Bexpr.Props.C18.create_evaluate
#print axioms Bexpr.Props.C18.max_zero_neutral
#print axioms Bexpr.Props.C18.tag_default_neutral
#print axioms Bexpr.Props.C18.hook_off_neutral
#print axioms Bexpr.Props.C18.nilOpt_neutral
#print axioms Bexpr.Props.C18.max_zero_is_unlimited
#print axioms Bexpr.Props.C18.hook_identity_neutral
#print axioms Bexpr.Props.C18.getStep_identity_neutral
#print axioms Bexpr.Props.C18.get_identity_neutral
#print axioms Bexpr.Props.C18.getValue_identity_neutral
#print axioms Bexpr.Props.C18.evaluate_identity_neutral
#print axioms Bexpr.Props.C18.evaluator_identity_neutral
#print axioms Bexpr.Props.C18.create_identity_neutral
