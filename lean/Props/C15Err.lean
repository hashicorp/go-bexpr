/-
  Property C15 (and C11, C10), the parser's ERROR REPORTING: the exact string
  `grammar.Parse("", input, MaxExpressions(n))` / `bexpr.CreateEvaluator` return as `err.Error()` —
  positions `line:col (offset)`, the rule on top of the rule stack, the farthest-failure message
  `no match found, expected: …`, de-duplication, line joining — is `Peg.errorText`
  (`Bexpr/Peg/EngineT.lean`, `Bexpr/Peg/ErrorText.lean`).

  The correspondence check compares that string with the real code on every parse case
  (`parsemsg` requests); the theorems here are about the model, for EVERY names table, wording
  (`MsgTexts`), action environment, grammar, budget and input.  The `Example`s are messages
  computed BY THE KERNEL on the pinned grammar (`Driver.pinEnv` / `pinGrammar`: the copy of the
  rule table and code blocks under `Bexpr/Peg/Pinned*`, which `Ties/PinnedGrammar.lean` compares
  with the regenerated one) with the pinned wording; they equal the strings the real parser
  returns (taken from the real code with a probe).

  What the model does not cover is listed in `ErrorText.lean`: the inner text of `.panic` entries
  (unreachable for a grammar that type-checks, C10) and a non-empty file name.
-/
import Bexpr.Driver
import Bexpr.Peg.ErrorText
import Bexpr.Peg.PinnedFailNames
import Proofs.EngineT
import Props.C11

namespace Bexpr.Props.C15Err
open Bexpr Bexpr.Peg Bexpr.Driver
open Bexpr.Proofs.EngineT
open Bexpr.Proofs.Budget (runMax run_eq_runMax initState eval_bnd eval_noFuelOut Bnd finalCnt)

/-! ## 1. Erasure -/

/-- **Instrumentation never changes the parse.** -/
theorem evalT_erase (nm : Names) (env : Env) (g : Grammar) (max fuel : Nat) (rule : String)
    (e : PExpr) (fr : Frame) (st : PState) (tr : Track) :
    (evalT nm env g max fuel rule e fr st tr).1 = eval env g max fuel rule e fr st :=
  evalT_fst nm env g max fuel rule e fr st tr

/-- The invariant of `Proofs/EngineT` at the call `parse` makes: the farthest offset does not go
    down and stays `≤ n`, the state stays within an input of `n` bytes (`StIn n`, which the
    engine's primitive steps preserve: `closedIn n`). -/
theorem start_good (nm : Names) (env : Env) (g : Grammar) (max fuel : Nat) (rule : String)
    (e : PExpr) (input : GoString) :
    Good (StIn input.length) (· ≤ input.length) 0
      (evalT nm env g max fuel rule e [] (initStateT input) Track.init) :=
  evalT_good (closedIn input.length) nm env g max fuel rule e [] (initStateT input) Track.init
    (initStateT_StIn input) (Nat.zero_le _)

/-- apart from the grammar without rules, `runT` is the epilogue of `parse` applied to the tracked
    call on the start rule, the same rule for every budget -/
theorem runT_cases (nm : Names) (env : Env) (g : Grammar) (input : GoString) :
    (∀ n, runT nm env g n input =
      { val := .nil, errs := [{ off := 0, rule := "", kind := .noRule }], cnt := 0,
        track := Track.init }) ∨
    ∃ start : Rule, ∀ n, runT nm env g n input =
      outOfT (evalT nm env g (effectiveMax n) (effectiveMax n + 2) start.shown start.expr []
        (initStateT input) Track.init) := by
  unfold runT
  cases g with
  | nil => exact .inl fun _ => rfl
  | cons r0 rs =>
    obtain ⟨start, hs⟩ :=
      Proofs.Budget.lookupRule_of_mem (g := r0 :: rs) (r := r0) List.mem_cons_self
    exact .inr ⟨start, fun _ => by simp only [hs]⟩

/-- **`runT` is `run`**: same value, same step count, same `(offset, rule, kind)` list once the
    farthest offset of the `.noMatch` entry and the rule of the `.maxExpr` / `.panic` entry —
    the two things `runT` adds — are forgotten (`PErr.forget`). -/
theorem runT_erase (nm : Names) (env : Env) (g : Grammar) (n : Nat) (input : GoString) :
    (runT nm env g n input).toParseOut = run env g n input := by
  rw [run_eq_runMax]
  unfold runT runMax
  cases g with
  | nil => rfl
  | cons r0 rs =>
    simp only []
    cases lookupRule (r0 :: rs) r0.name with
    | none => rfl
    | some start =>
      simp only []
      rw [outOfT_toParseOut (n := input.length) _ (start_good ..).2.2, evalT_fst, initStateT_eq]

theorem runT_val (nm : Names) (env : Env) (g : Grammar) (n : Nat) (input : GoString) :
    (runT nm env g n input).val = (run env g n input).val := by
  rw [← runT_erase nm]; rfl

theorem runT_cnt (nm : Names) (env : Env) (g : Grammar) (n : Nat) (input : GoString) :
    (runT nm env g n input).cnt = (run env g n input).cnt := by
  rw [← runT_erase nm]; rfl

theorem runT_errs (nm : Names) (env : Env) (g : Grammar) (n : Nat) (input : GoString) :
    (runT nm env g n input).errs.map PErr.forget = (run env g n input).errs := by
  rw [← runT_erase nm]; rfl

theorem runT_accepted (nm : Names) (env : Env) (g : Grammar) (n : Nat) (input : GoString) :
    (runT nm env g n input).accepted = (run env g n input).accepted := by
  rw [← runT_erase nm]
  simp [ParseOutT.accepted, ParseOut.accepted, ParseOutT.toParseOut]

/-- there is a message exactly when `run` rejects (`err != nil`) -/
theorem errorText_none_iff (nm : Names) (tx : MsgTexts) (env : Env) (g : Grammar) (n : Nat)
    (input : GoString) :
    errorText nm tx env g n input = none ↔ (run env g n input).accepted = true := by
  rw [← runT_accepted nm]
  unfold errorText errorTextOf ParseOutT.accepted
  split <;> simp_all

/-! ## 2. `failAt`, monotonicity -/

/-- `fail != maxFailInvertExpected`: nothing happens -/
theorem failAt_other (tr : Track) (bang : GoString) (fail : Bool) (off : Nat) (want : GoString)
    (h : fail ≠ tr.invert) : tr.failAt bang fail off want = tr := failAt_skip h

/-- `pos.offset < maxFailPos.offset`: nothing happens -/
theorem failAt_before (tr : Track) (bang : GoString) (fail : Bool) (off : Nat) (want : GoString)
    (h : off < tr.off) : tr.failAt bang fail off want = tr := failAt_lt h

/-- at the farthest offset: appended, with the `"!"` prefix when inverted -/
theorem failAt_at (tr : Track) (bang : GoString) (fail : Bool) (want : GoString)
    (h : fail = tr.invert) :
    (tr.failAt bang fail tr.off want).off = tr.off ∧
    (tr.failAt bang fail tr.off want).expected =
      tr.expected ++ [if tr.invert then bang ++ want else want] := by
  refine ⟨?_, failAt_eq_expected h⟩
  rw [failAt_eq h]

/-- beyond the farthest offset: the position moves there and the list restarts -/
theorem failAt_beyond (tr : Track) (bang : GoString) (fail : Bool) (off : Nat) (want : GoString)
    (h : fail = tr.invert) (hgt : tr.off < off) :
    (tr.failAt bang fail off want).off = off ∧
    (tr.failAt bang fail off want).expected = [if tr.invert then bang ++ want else want] := by
  rw [failAt_gt h hgt]; simp [Track.expected]

theorem failAt_keeps_invert (tr : Track) (bang : GoString) (fail : Bool) (off : Nat)
    (want : GoString) : (tr.failAt bang fail off want).invert = tr.invert :=
  failAt_invert tr bang fail off want

/-- **The farthest offset never decreases**, whatever the state, for every call of `parseExpr`
    (the same invariant with the trivial state predicate, `closedTrue`). -/
theorem track_monotone (nm : Names) (env : Env) (g : Grammar) (max fuel : Nat) (rule : String)
    (e : PExpr) (fr : Frame) (st : PState) (tr : Track) :
    tr.off ≤ (evalT nm env g max fuel rule e fr st tr).2.off :=
  (evalT_good closedTrue nm env g max fuel rule e fr st tr trivial trivial).1

theorem failAt_monotone (tr : Track) (bang : GoString) (fail : Bool) (off : Nat)
    (want : GoString) : tr.off ≤ (tr.failAt bang fail off want).off :=
  failAt_off_ge tr bang fail off want

/-! ## 3. Everything reported lies within the input -/

theorem farthest_le_length (nm : Names) (env : Env) (g : Grammar) (n : Nat) (input : GoString) :
    (runT nm env g n input).track.off ≤ input.length := by
  rcases runT_cases nm env g input with h | ⟨start, h⟩
  · rw [h]; exact Nat.zero_le _
  · rw [h, outOfT_track]; exact (start_good ..).2.1

theorem error_offsets_le_length (nm : Names) (env : Env) (g : Grammar) (n : Nat)
    (input : GoString) : ∀ e ∈ (runT nm env g n input).errs, e.off ≤ input.length := by
  rcases runT_cases nm env g input with h | ⟨start, h⟩
  · rw [h]; intro e he; rw [List.mem_singleton.mp he]; exact Nat.zero_le _
  · rw [h]; exact outOfT_errs_le _ (start_good ..).2.2 (start_good ..).2.1

/-! ## 4. Budget independence of the message (C11 at the level of the exact text) -/

theorem effectiveMax_zero : effectiveMax 0 = 2 ^ 64 - 1 := C11.effectiveMax_zero

theorem effectiveMax_pos {n : Nat} (h : n ≠ 0) : effectiveMax n = n :=
  C11.effectiveMax_pos (Nat.pos_of_ne_zero h)

/-- The whole tracked run — value, error list, step count AND farthest-failure state — under a
    budget `n ≥ N` is the unlimited one (`N` = steps of the unlimited parse, assumed to have stayed
    within `2^64 - 1`; `n` may even exceed `2^64 - 1` in the model). -/
theorem runT_budget_independent (nm : Names) (env : Env) (g : Grammar) (input : GoString)
    (n : Nat) (hN : (run env g 0 input).cnt ≤ n) (hM : (run env g 0 input).cnt ≤ 2 ^ 64 - 1) :
    runT nm env g n input = runT nm env g 0 input := by
  by_cases h0 : n = 0
  · rw [h0]
  rcases runT_cases nm env g input with h | ⟨start, h⟩
  · rw [h, h]
  -- a run that stays within its budget is not `Bad`: it ends neither `exceeded` (which stops at
  -- `m + 1` steps) nor `fuelOut`
  have key : ∀ m, m ≠ 0 → (run env g m input).cnt ≤ m →
      ¬ Bad (evalT nm env g m (m + 2) start.shown start.expr [] (initStateT input)
        Track.init).1 := by
    intro m hm0 hle
    rw [← runT_cnt nm, h m, outOfT_cnt, effectiveMax_pos hm0] at hle
    rw [evalT_fst, initStateT_eq] at hle ⊢
    have hc := Proofs.Budget.initState_cnt input
    have hb := eval_bnd env g m (m + 2) start.shown start.expr [] (initState input) (by omega)
    have hf := eval_noFuelOut env g m (m + 2) start.shown start.expr [] (initState input)
      (by omega) (by omega)
    generalize eval env g m (m + 2) start.shown start.expr [] (initState input) = R at hb hf hle
    cases R with
    | exceeded s => simp only [Bnd] at hb; simp only [finalCnt] at hle; omega
    | fuelOut => exact absurd rfl hf
    | _ => exact fun h => h
  -- both the budget `n` and the unlimited run do (C11), and the smaller budget is reproduced
  -- under the larger one
  have hn : (run env g n input).cnt ≤ n := by
    rw [C11.budget_exact_ge_gen env g input n hN hM]; exact hN
  have hU : (run env g (2 ^ 64 - 1) input).cnt ≤ 2 ^ 64 - 1 := by
    rw [← C11.budget_zero_unlimited]; exact hM
  rw [h n, h 0, effectiveMax_pos h0, effectiveMax_zero]
  refine congrArg outOfT ?_
  by_cases hle : n ≤ 2 ^ 64 - 1
  · exact (evalT_congr nm env g n (2 ^ 64 - 1) hle (n + 2) (2 ^ 64 - 1 + 2) start.shown
      start.expr [] (initStateT input) Track.init (Nat.add_le_add_right hle 2) (key n h0 hn)).symm
  · exact evalT_congr nm env g (2 ^ 64 - 1) n (by omega) (2 ^ 64 - 1 + 2) (n + 2) start.shown
      start.expr [] (initStateT input) Track.init (by omega) (key _ (by omega) hU)

/-- General form of the next theorem (no upper bound on `n`, but the unlimited parse must have
    stayed within `2^64 - 1` steps). -/
theorem message_budget_independent_gen (nm : Names) (tx : MsgTexts) (env : Env) (g : Grammar)
    (input : GoString) (n : Nat) (hN : (run env g 0 input).cnt ≤ n)
    (hM : (run env g 0 input).cnt ≤ 2 ^ 64 - 1) :
    errorText nm tx env g n input = errorText nm tx env g 0 input := by
  unfold errorText
  rw [runT_budget_independent nm env g input n hN hM]

/-- **C11 at the level of the exact message**: if the unlimited parse takes `N` steps then for
    every budget `n` with `N ≤ n ≤ 2^64 - 1` (the range of `uint64`) the error text — or the
    acceptance — is exactly that of the unlimited parse. -/
theorem message_budget_independent (nm : Names) (tx : MsgTexts) (env : Env) (g : Grammar)
    (input : GoString) (n : Nat) (hN : (run env g 0 input).cnt ≤ n) (hn : n ≤ 2 ^ 64 - 1) :
    errorText nm tx env g n input = errorText nm tx env g 0 input :=
  message_budget_independent_gen nm tx env g input n hN (by omega)

/-- a budget of `0` IS the unlimited parse -/
theorem message_budget_zero (nm : Names) (tx : MsgTexts) (env : Env) (g : Grammar)
    (input : GoString) :
    errorText nm tx env g 0 input = errorText nm tx env g (2 ^ 64 - 1) input := by
  unfold errorText runT
  rw [effectiveMax_zero, effectiveMax_pos (by omega)]

/-- as one statement with the threshold of `Props.C11.budget_threshold` -/
theorem message_budget_threshold (nm : Names) (tx : MsgTexts) (env : Env) (g : Grammar)
    (input : GoString) :
    ∃ N : Nat, N = (run env g 0 input).cnt ∧
      ∀ n, (n = 0 ∨ N ≤ n) → n ≤ 2 ^ 64 - 1 →
        errorText nm tx env g n input = errorText nm tx env g 0 input := by
  refine ⟨_, rfl, ?_⟩
  intro n h hn
  rcases h with rfl | h
  · rfl
  · exact message_budget_independent nm tx env g input n h hn

/-! ### below the threshold the budget error shows in the message -/

theorem infix_join (sep : GoString) : ∀ {ls : List GoString} {l : GoString}, l ∈ ls →
    l <:+: GoString.join sep ls
  | [p], l, h => by rw [List.mem_singleton.mp h]; exact List.infix_refl _
  | p :: q :: rest, l, h => by
    rw [GoString.join]
    rcases List.mem_cons.mp h with rfl | h
    · rw [List.append_assoc]; exact (List.prefix_append _ _).isInfix
    · exact (infix_join sep h).trans (List.suffix_append _ _).isInfix

theorem forget_kind (e : PErr) : e.forget.kind = e.kind := by
  cases e with
  | mk off rule kind => cases kind <;> rfl

theorem maxExpr_in_text (tx : MsgTexts) (input : GoString) (o : ParseOutT) {e : PErr}
    (he : e ∈ o.errs) (hk : e.kind = .maxExpr) :
    ∃ t, errorTextOf tx input o = some t ∧ tx.maxExprCnt <:+: t := by
  have hne : o.errs.isEmpty = false := by
    cases h : o.errs with
    | nil => rw [h] at he; cases he
    | cons => rfl
  refine ⟨_, by rw [errorTextOf, hne]; rfl, ?_⟩
  have hline : entryText tx input (expectedOf tx o.track.expected) e ∈ errorLines tx input o :=
    (mem_dedupe _ _).mpr (List.mem_map_of_mem he)
  refine List.IsInfix.trans ?_ (infix_join tx.lineSep hline)
  unfold entryText innerText
  rw [hk]
  exact (List.suffix_append _ _).isInfix

/-- C11's other half at the level of the text: every budget `0 < n < N` gives a message that
    contains `errMaxExprCnt` -/
theorem budget_error_in_text (nm : Names) (tx : MsgTexts) (env : Env) (g : Grammar)
    (input : GoString) (n : Nat) (h0 : 0 < n) (hN : n < (run env g 0 input).cnt) :
    ∃ t, errorText nm tx env g n input = some t ∧ tx.maxExprCnt <:+: t := by
  obtain ⟨e, he, hk⟩ := (C11.budget_exact_lt env g input n h0 hN).2.1
  rw [← runT_errs nm] at he
  obtain ⟨e', he', rfl⟩ := List.mem_map.mp he
  exact maxExpr_in_text tx input _ he' ((forget_kind e').symm.trans hk)

theorem budget_message_ne (nm : Names) (tx : MsgTexts) (env : Env) (g : Grammar)
    (input : GoString) (n : Nat) (h0 : 0 < n) (hN : n < (run env g 0 input).cnt) {s : GoString}
    (hs : errorText nm tx env g 0 input = some s) (hno : ¬ tx.maxExprCnt <:+: s) :
    errorText nm tx env g n input ≠ errorText nm tx env g 0 input := by
  obtain ⟨t, ht, hin⟩ := budget_error_in_text nm tx env g input n h0 hN
  rw [ht, hs]
  intro heq
  injection heq with heq
  exact hno (heq ▸ hin)

/-! ## 5. The expected list and the lines of the message -/

/-- **The expected list of the message** is a strictly increasing (bytewise, Go's `<` on strings)
    list `l` of exactly the recorded texts other than `"!."`, followed by `EOF` iff `"!."` was
    recorded.  In particular `l` has no duplicates. -/
theorem expected_sorted_nodup (tx : MsgTexts) (maxFailExpected : List GoString) :
    ∃ l : List GoString,
      Sorted l ∧ l.Nodup ∧
      (∀ x, x ∈ l ↔ x ∈ maxFailExpected ∧ x ≠ tx.notAnyKey) ∧
      expectedOf tx maxFailExpected =
        if tx.notAnyKey ∈ maxFailExpected then l ++ [tx.eofName] else l := by
  refine ⟨sortSet (maxFailExpected.filter (· != tx.notAnyKey)), sortSet_sorted _,
    (sortSet_sorted _).nodup, ?_, ?_⟩
  · intro x
    rw [mem_sortSet, List.mem_filter]
    simp
  · unfold expectedOf
    by_cases h : tx.notAnyKey ∈ maxFailExpected
    · simp [h]
    · simp [h]

theorem sorted_iff (l : List GoString) :
    Sorted l ↔ l.Pairwise (fun a b => bytesLt a b = true) := Iff.rfl

/-- **`dedupe`**: no two kept lines are equal, exactly the given lines are kept, in their order. -/
theorem dedupe_nodup (xs : List GoString) :
    (dedupe xs).Nodup ∧ (∀ x, x ∈ dedupe xs ↔ x ∈ xs) ∧ (dedupe xs).Sublist xs :=
  ⟨nodup_dedupe xs, fun x => mem_dedupe x xs, dedupe_sublist xs⟩

/-- … and it is the FIRST occurrence of every line that is kept: the head stays, later copies of
    it are dropped from the rest. -/
theorem dedupe_first_occurrences (x : GoString) (xs : List GoString) :
    dedupe (x :: xs) = x :: (dedupe xs).filter (· != x) :=
  dedupe_cons x xs

theorem dedupe_nil : dedupe [] = [] := rfl

/-- no two lines of the final text are equal; they are the entries' texts, first occurrences in
    order -/
theorem errorLines_nodup (tx : MsgTexts) (input : GoString) (o : ParseOutT) :
    (errorLines tx input o).Nodup ∧
    (∀ x, x ∈ errorLines tx input o ↔ x ∈ errorLinesRaw tx input o) ∧
    (errorLines tx input o).Sublist (errorLinesRaw tx input o) :=
  dedupe_nodup _

/-! ## 6. Positions -/

/-- lines are numbered from 1 -/
theorem posAt_line_pos (input : GoString) (off : Nat) : 1 ≤ (posAt input off).1 :=
  posScan_line_ge _ _ _ (1, 0) _

/-- **Line**: 1 + the number of `\n` runes among the runes `read()` has made current by the time
    the offset is reached — the rune AT the offset included (a position that points at a newline
    is already on the next line, column 0, exactly as pigeon reports it). -/
theorem posAt_line_eq (input : GoString) (off : Nat) :
    (posAt input off).1 = 1 + (runesRead input off).count 10 := by
  unfold posAt runesRead
  rw [posScan_eq_foldl, foldl_stepRune_line]

/-- **Column** when no newline has been read: the number of runes read (the rune at the offset
    included) — columns count RUNES, not bytes, and start at 1. -/
theorem posAt_col_noNL (input : GoString) (off : Nat) (h : 10 ∉ runesRead input off) :
    (posAt input off).2 = (runesRead input off).length := by
  unfold posAt runesRead at *
  rw [posScan_eq_foldl, foldl_stepRune_col_noNL _ _ h]
  simp

/-- **Column** after a newline: the number of runes read after the LAST newline (0 when the rune
    at the offset is that newline). -/
theorem posAt_col_afterNL (input : GoString) (off : Nat) (pre post : List Nat)
    (hsplit : runesRead input off = pre ++ 10 :: post) (h : 10 ∉ post) :
    (posAt input off).2 = post.length := by
  unfold posAt runesRead at *
  rw [posScan_eq_foldl, hsplit, foldl_stepRune_col_afterNL _ _ _ h]

theorem posAt_line_mono (input : GoString) (off off' : Nat) (h : off ≤ off') :
    (posAt input off).1 ≤ (posAt input off').1 :=
  posScan_line_mono _ _ _ _ _ _ h

/-- the position reported for a farthest failure at offset 0 is the initial
    `maxFailPos = position{col: 1, line: 1}`, even when the input starts with a newline (where the
    parser's own position at offset 0 is `2:0`) -/
theorem farPos_zero (input : GoString) : farPos input 0 = (1, 1) := rfl

theorem farPos_pos (input : GoString) (off : Nat) (h : off ≠ 0) :
    farPos input off = posAt input off := by
  simp [farPos, h]

/-! ## 7. Non-vacuity: the real messages, computed by the kernel on the pinned grammar -/

namespace Example

def asc (s : String) : GoString := s.toList.map GoString.byteOfChar

/-- names and wording as PINNED (`Bexpr/Peg/PinnedFailNames.lean`), so that these examples do not
    move when a commit rewords a message — the driver uses the regenerated ones -/
def pinNames : Names :=
  namesOf Pinned.FailNames.goWants Pinned.FailNames.anyWant Pinned.FailNames.bang

def pinMsg (n : Nat) (input : GoString) : Option GoString :=
  errorText pinNames Pinned.FailNames.texts pinEnv pinGrammar n input

/-- rewriting a literal with this before evaluating spares the kernel its UTF-8 decoding -/
theorem asc_ofList (cs : List Char) : asc (String.ofList cs) = cs.map GoString.byteOfChar := by
  rw [asc, String.toList_ofList]

/-- one statement, so that the kernel shares the rule lookups between the parses: farthest
    failures (with the step count of `a ==`) and the accepted input, logged entries, small budgets -/
theorem messages :
    ((pinMsg 0 (asc "a ==") = some (asc
        "1:5 (4): no match found, expected: \"-\", \"0\", \"\\\"\", \"`\", [ \\t\\r\\n], [1-9] or [a-zA-Z]") ∧
        (runT pinNames pinEnv pinGrammar 0 (asc "a ==")).cnt = 1223) ∧
      pinMsg 0 (asc "a == 1 )") = some (asc
        "1:8 (7): no match found, expected: \"and\", \"or\", [ \\t\\r\\n] or EOF") ∧
      pinMsg 0 [] = some (asc
        "1:1 (0): no match found, expected: \"(\", \"-\", \"0\", \"\\\"\", \"`\", \"all\", \"any\", \"not\", [ \\t\\r\\n], [1-9] or [a-zA-Z]") ∧
      pinMsg 0 (asc "a.b. == 1") = some (asc
        "1:5 (4): no match found, expected: [0-9] or [a-zA-Z]") ∧
      pinMsg 0 (asc "\n\na ==") = some (asc
        "3:5 (6): no match found, expected: \"-\", \"0\", \"\\\"\", \"`\", [ \\t\\r\\n], [1-9] or [a-zA-Z]") ∧
      pinMsg 0 ([0xc3, 0xa9] ++ asc " == 1") = pinMsg 0 [] ∧
      pinMsg 0 (asc "a == 1") = none) ∧
    (pinMsg 0 (asc "a == \"x") = some (asc
        "1:8 (7): rule \"string\": Unterminated string literal") ∧
      pinMsg 0 [0xff] = some (asc "1:1 (0): invalid encoding") ∧
      pinMsg 0 (asc "a[\"") = some (asc
        "1:4 (3): rule \"string\": Unterminated string literal\n1:3 (2): rule \"index\": Invalid index") ∧
      pinMsg 0 (asc "a == \"" ++ [0xff] ++ asc "\"") = some (asc
        "1:7 (6): rule \"selector\": invalid encoding\n1:7 (6): rule \"string\": invalid encoding")) ∧
    (pinMsg 1 (asc "a ==") = some (asc
        "1:1 (0): rule Input: max number of expresssions parsed") ∧
      pinMsg 5 (asc "a ==") = some (asc
        "1:1 (0): rule \"whitespace\": max number of expresssions parsed") ∧
      pinMsg 30 (asc "\n\na ==") = some (asc
        "3:1 (2): rule NotExpression: max number of expresssions parsed") ∧
      pinMsg 1 (asc "\n") = some (asc
        "2:0 (0): rule Input: max number of expresssions parsed") ∧
      pinMsg 5 [0xff] = some (asc
        "1:1 (0): invalid encoding\n1:1 (0): rule \"whitespace\": max number of expresssions parsed")) := by
  repeat rw [asc_ofList]
  decide +kernel

theorem msg_missing_value : pinMsg 0 (asc "a ==") = some (asc
    "1:5 (4): no match found, expected: \"-\", \"0\", \"\\\"\", \"`\", [ \\t\\r\\n], [1-9] or [a-zA-Z]") :=
  messages.1.1.1

/-- `a == 1 )`: `"!."` became a trailing `EOF` -/
theorem msg_trailing_paren : pinMsg 0 (asc "a == 1 )") = some (asc
    "1:8 (7): no match found, expected: \"and\", \"or\", [ \\t\\r\\n] or EOF") :=
  messages.1.2.1

/-- the empty input: farthest offset 0, the initial `maxFailPos` `1:1` -/
theorem msg_empty : pinMsg 0 [] = some (asc
    "1:1 (0): no match found, expected: \"(\", \"-\", \"0\", \"\\\"\", \"`\", \"all\", \"any\", \"not\", [ \\t\\r\\n], [1-9] or [a-zA-Z]") :=
  messages.1.2.2.1

/-- `a == "x`: an error production, no `no match` entry -/
theorem msg_unterminated : pinMsg 0 (asc "a == \"x") = some (asc
    "1:8 (7): rule \"string\": Unterminated string literal") :=
  messages.2.1.1

/-- `\xff`: logged by the first `read()`, with an empty rule stack -/
theorem msg_invalid_encoding : pinMsg 0 [0xff] = some (asc "1:1 (0): invalid encoding") :=
  messages.2.1.2.1

theorem msg_dangling_dot : pinMsg 0 (asc "a.b. == 1") = some (asc
    "1:5 (4): no match found, expected: [0-9] or [a-zA-Z]") :=
  messages.1.2.2.2.1

/-- two entries with different prefixes are both kept, in order: `a["` -/
theorem msg_two_lines : pinMsg 0 (asc "a[\"") = some (asc
    "1:4 (3): rule \"string\": Unterminated string literal\n1:3 (2): rule \"index\": Invalid index") :=
  messages.2.1.2.2.1

/-- the same invalid byte is logged under two rules: two lines; (twice under the same rule would
    be one) -/
theorem msg_dedupe : pinMsg 0 (asc "a == \"" ++ [0xff] ++ asc "\"") = some (asc
    "1:7 (6): rule \"selector\": invalid encoding\n1:7 (6): rule \"string\": invalid encoding") :=
  messages.2.1.2.2.2

/-- lines and columns: `\n\na ==` fails on line 3 -/
theorem msg_lines : pinMsg 0 (asc "\n\na ==") = some (asc
    "3:5 (6): no match found, expected: \"-\", \"0\", \"\\\"\", \"`\", [ \\t\\r\\n], [1-9] or [a-zA-Z]") :=
  messages.1.2.2.2.2.1

/-- a non-ASCII rune at offset 0: the farthest failure stays at the initial position -/
theorem msg_nonascii : pinMsg 0 ([0xc3, 0xa9] ++ asc " == 1") = some (asc
    "1:1 (0): no match found, expected: \"(\", \"-\", \"0\", \"\\\"\", \"`\", \"all\", \"any\", \"not\", [ \\t\\r\\n], [1-9] or [a-zA-Z]") :=
  messages.1.2.2.2.2.2.1.trans msg_empty

/-- budgets: the recovered panic is reported at the current position with the rule that was on
    top of the rule stack (`Engine.run` has `""` there); a newline-led input shows `2:0 (0)` for
    the parser's own position at offset 0 -/
theorem msg_budget_1 : pinMsg 1 (asc "a ==") = some (asc
    "1:1 (0): rule Input: max number of expresssions parsed") :=
  messages.2.2.1

theorem msg_budget_5 : pinMsg 5 (asc "a ==") = some (asc
    "1:1 (0): rule \"whitespace\": max number of expresssions parsed") :=
  messages.2.2.2.1

theorem msg_budget_30_lines : pinMsg 30 (asc "\n\na ==") = some (asc
    "3:1 (2): rule NotExpression: max number of expresssions parsed") :=
  messages.2.2.2.2.1

theorem msg_budget_newline : pinMsg 1 (asc "\n") = some (asc
    "2:0 (0): rule Input: max number of expresssions parsed") :=
  messages.2.2.2.2.2.1

theorem msg_budget_enc : pinMsg 5 [0xff] = some (asc
    "1:1 (0): invalid encoding\n1:1 (0): rule \"whitespace\": max number of expresssions parsed") :=
  messages.2.2.2.2.2.2

theorem msg_accepted : pinMsg 0 (asc "a == 1") = none :=
  messages.1.2.2.2.2.2.2

/-- `message_budget_independent` is not vacuous: `a ==` takes `N` steps unlimited; the budget `N`
    gives the unlimited message, the budget `N - 1` the budget error (so the bound is sharp). -/
theorem steps_missing_value : (run pinEnv pinGrammar 0 (asc "a ==")).cnt = 1223 :=
  (runT_cnt pinNames pinEnv pinGrammar 0 (asc "a ==")).symm.trans messages.1.1.2

theorem msg_budget_N : pinMsg 1223 (asc "a ==") = pinMsg 0 (asc "a ==") :=
  message_budget_independent pinNames Pinned.FailNames.texts pinEnv pinGrammar (asc "a ==") 1223
    (by rw [steps_missing_value]; omega) (by omega)

theorem msg_budget_N_minus_1 : pinMsg 1222 (asc "a ==") ≠ pinMsg 0 (asc "a ==") :=
  budget_message_ne pinNames Pinned.FailNames.texts pinEnv pinGrammar (asc "a ==") 1222 (by omega)
    (by rw [steps_missing_value]; omega) msg_missing_value
    (by rw [asc_ofList, ← List.isInfixOf_internal_iff_isInfix]; decide +kernel)

/-- `failAt` on concrete data: the three branches and the `"!"` prefix -/
example : (Track.init.failAt [33] false 3 [97]).off = 3 := by decide
example : (Track.init.failAt [33] false 3 [97]).expected = [[97]] := by decide
example : ((Track.init.failAt [33] false 3 [97]).failAt [33] false 3 [98]).expected = [[97], [98]] := by
  decide
example : ((Track.init.failAt [33] false 3 [97]).failAt [33] false 2 [98]).expected = [[97]] := by
  decide
example : ((Track.init.failAt [33] false 3 [97]).failAt [33] true 5 [98]).off = 3 := by decide
example : ((Track.init.failAt [33] false 3 [97]).flip.failAt [33] true 5 [98]).expected = [[33, 98]] := by
  decide

/-- positions: bytes vs runes, newline -/
example : posAt (asc "ab\ncd") 4 = (2, 2) := by decide
example : posAt (asc "ab\ncd") 2 = (2, 0) := by decide
example : posAt ([0xc3, 0xa9] ++ asc "x") 2 = (1, 2) := by decide
example : posAt (asc "\n") 0 = (2, 0) := by decide
example : farPos (asc "\n") 0 = (1, 1) := by decide
example : runesRead (asc "ab\ncd") 4 = [97, 98, 10, 99, 100] := by decide

/-- the expected list: set, sort, `EOF` last -/
example : expectedOf Pinned.FailNames.texts [asc "b", asc "!.", asc "a", asc "b"] =
    [asc "a", asc "b", asc "EOF"] := by decide
example : dedupe [asc "x", asc "y", asc "x", asc "z", asc "y"] = [asc "x", asc "y", asc "z"] := by
  decide

end Example

end Bexpr.Props.C15Err

#print axioms Bexpr.Props.C15Err.evalT_erase
#print axioms Bexpr.Props.C15Err.start_good
#print axioms Bexpr.Props.C15Err.runT_erase
#print axioms Bexpr.Props.C15Err.runT_val
#print axioms Bexpr.Props.C15Err.runT_cnt
#print axioms Bexpr.Props.C15Err.runT_errs
#print axioms Bexpr.Props.C15Err.runT_accepted
#print axioms Bexpr.Props.C15Err.errorText_none_iff
#print axioms Bexpr.Props.C15Err.failAt_other
#print axioms Bexpr.Props.C15Err.failAt_before
#print axioms Bexpr.Props.C15Err.failAt_at
#print axioms Bexpr.Props.C15Err.failAt_beyond
#print axioms Bexpr.Props.C15Err.failAt_keeps_invert
#print axioms Bexpr.Props.C15Err.track_monotone
#print axioms Bexpr.Props.C15Err.failAt_monotone
#print axioms Bexpr.Props.C15Err.farthest_le_length
#print axioms Bexpr.Props.C15Err.error_offsets_le_length
#print axioms Bexpr.Props.C15Err.effectiveMax_zero
#print axioms Bexpr.Props.C15Err.effectiveMax_pos
#print axioms Bexpr.Props.C15Err.runT_budget_independent
#print axioms Bexpr.Props.C15Err.message_budget_independent_gen
#print axioms Bexpr.Props.C15Err.message_budget_independent
#print axioms Bexpr.Props.C15Err.message_budget_zero
#print axioms Bexpr.Props.C15Err.message_budget_threshold
#print axioms Bexpr.Props.C15Err.expected_sorted_nodup
#print axioms Bexpr.Props.C15Err.sorted_iff
#print axioms Bexpr.Props.C15Err.dedupe_nodup
#print axioms Bexpr.Props.C15Err.dedupe_first_occurrences
#print axioms Bexpr.Props.C15Err.dedupe_nil
#print axioms Bexpr.Props.C15Err.errorLines_nodup
#print axioms Bexpr.Props.C15Err.posAt_line_pos
#print axioms Bexpr.Props.C15Err.posAt_line_eq
#print axioms Bexpr.Props.C15Err.posAt_col_noNL
#print axioms Bexpr.Props.C15Err.posAt_col_afterNL
#print axioms Bexpr.Props.C15Err.posAt_line_mono
#print axioms Bexpr.Props.C15Err.farPos_zero
#print axioms Bexpr.Props.C15Err.farPos_pos
#print axioms Bexpr.Props.C15Err.Example.msg_missing_value
#print axioms Bexpr.Props.C15Err.Example.msg_trailing_paren
#print axioms Bexpr.Props.C15Err.Example.msg_empty
#print axioms Bexpr.Props.C15Err.Example.msg_unterminated
#print axioms Bexpr.Props.C15Err.Example.msg_invalid_encoding
#print axioms Bexpr.Props.C15Err.Example.msg_dangling_dot
#print axioms Bexpr.Props.C15Err.Example.msg_two_lines
#print axioms Bexpr.Props.C15Err.Example.msg_dedupe
#print axioms Bexpr.Props.C15Err.Example.msg_lines
#print axioms Bexpr.Props.C15Err.Example.msg_nonascii
#print axioms Bexpr.Props.C15Err.Example.msg_budget_1
#print axioms Bexpr.Props.C15Err.Example.msg_budget_5
#print axioms Bexpr.Props.C15Err.Example.msg_budget_30_lines
#print axioms Bexpr.Props.C15Err.Example.msg_budget_newline
#print axioms Bexpr.Props.C15Err.Example.msg_budget_enc
#print axioms Bexpr.Props.C15Err.Example.msg_accepted
#print axioms Bexpr.Props.C15Err.Example.steps_missing_value
#print axioms Bexpr.Props.C15Err.Example.msg_budget_N
#print axioms Bexpr.Props.C15Err.Example.msg_budget_N_minus_1
