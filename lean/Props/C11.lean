/-
  Property C11 (expression budget):

    "for every input there is a step count N such that parsing under budget n gives exactly the
     unlimited result when n = 0 or n ≥ N, and fails with the max-expressions error when
     0 < n < N; a limited parse never executes more than n + 1 parser steps."

  All theorems are generic in the action semantics `env`, the grammar `g` and the input.
  The invariants of the step counter behind them are proved in `Proofs/Budget.lean`.
-/
import Bexpr.Peg.Engine
import Proofs.Budget

namespace Bexpr.Props.C11
open Bexpr Bexpr.Peg

/-- The step counter of the state carried by a `parseExpr` result (`0` for the model artefact
    `fuelOut`, which `eval_never_fuelOut` shows to be unreachable with the fuel `run` provides). -/
def finalCnt : PRes → Nat
  | .ok st _ _ _ => st.cnt
  | .exceeded st => st.cnt
  | .abort st _ => st.cnt
  | .fuelOut => 0

theorem finalCnt_eq (r : PRes) : finalCnt r = Proofs.Budget.finalCnt r := by
  cases r <;> rfl

/-! ## 1. Every `parseExpr` call ticks the counter at least once -/

theorem eval_cnt_mono (env : Env) (g : Grammar) (max fuel : Nat) (rule : String) (e : PExpr)
    (fr : Frame) (st : PState) {st' : PState} {fr' : Frame} {v : PVal} {m : Bool}
    (h : eval env g max fuel rule e fr st = .ok st' fr' v m) : st.cnt + 1 ≤ st'.cnt := by
  have := Proofs.Budget.eval_cntGe env g max fuel rule e fr st
  rw [h] at this; exact this

theorem eval_cnt_mono_exceeded (env : Env) (g : Grammar) (max fuel : Nat) (rule : String)
    (e : PExpr) (fr : Frame) (st : PState) {st' : PState}
    (h : eval env g max fuel rule e fr st = .exceeded st') : st.cnt + 1 ≤ st'.cnt := by
  have := Proofs.Budget.eval_cntGe env g max fuel rule e fr st
  rw [h] at this; exact this

theorem eval_cnt_mono_abort (env : Env) (g : Grammar) (max fuel : Nat) (rule : String)
    (e : PExpr) (fr : Frame) (st : PState) {st' : PState} {msg : String}
    (h : eval env g max fuel rule e fr st = .abort st' msg) : st.cnt + 1 ≤ st'.cnt := by
  have := Proofs.Budget.eval_cntGe env g max fuel rule e fr st
  rw [h] at this; exact this

/-- The three cases in one statement. -/
theorem eval_cnt_mono_final (env : Env) (g : Grammar) (max fuel : Nat) (rule : String)
    (e : PExpr) (fr : Frame) (st : PState)
    (h : eval env g max fuel rule e fr st ≠ .fuelOut) :
    st.cnt + 1 ≤ finalCnt (eval env g max fuel rule e fr st) := by
  rw [finalCnt_eq]
  exact (Proofs.Budget.eval_cntGe env g max fuel rule e fr st).finalCnt h

/-- Under a budget the counter never passes `max + 1`: results other than `exceeded` carry a
    counter `≤ max`, and `exceeded` carries exactly `max + 1`. -/
theorem eval_cnt_le (env : Env) (g : Grammar) (max fuel : Nat) (rule : String) (e : PExpr)
    (fr : Frame) (st : PState) (hst : st.cnt ≤ max) :
    (∀ st' fr' v m, eval env g max fuel rule e fr st = .ok st' fr' v m → st'.cnt ≤ max) ∧
    (∀ st' msg, eval env g max fuel rule e fr st = .abort st' msg → st'.cnt ≤ max) ∧
    (∀ st', eval env g max fuel rule e fr st = .exceeded st' → st'.cnt = max + 1) := by
  have hb := Proofs.Budget.eval_bnd env g max fuel rule e fr st hst
  refine ⟨?_, ?_, ?_⟩
  · intro st' fr' v m h; rw [h] at hb; exact hb
  · intro st' msg h; rw [h] at hb; exact hb
  · intro st' h; rw [h] at hb; exact hb

/-! ## 2. Fuel is only a recursion device: more fuel never changes a proper result -/

theorem eval_fuel_mono (env : Env) (g : Grammar) (max fuel : Nat) (rule : String) (e : PExpr)
    (fr : Frame) (st : PState) (r : PRes)
    (h : eval env g max fuel rule e fr st = r) (hne : r ≠ .fuelOut) :
    ∀ fuel', fuel ≤ fuel' → eval env g max fuel' rule e fr st = r := by
  intro fuel' hle
  have := Proofs.Budget.eval_fle env g max fuel fuel' rule e fr st hle
  rw [h] at this
  exact this hne

/-! ## 3. With the fuel that `run` provides, `fuelOut` is unreachable -/

/-- The hypotheses hold of the initial call of `run` (`fuel = max + 2`, `cnt = 0`) and are kept by
    every recursive call. -/
theorem eval_never_fuelOut (env : Env) (g : Grammar) (max fuel : Nat) (rule : String)
    (e : PExpr) (fr : Frame) (st : PState)
    (hst : st.cnt ≤ max) (hfuel : max + 1 ≤ fuel + st.cnt) :
    eval env g max fuel rule e fr st ≠ .fuelOut :=
  Proofs.Budget.eval_noFuelOut env g max fuel rule e fr st hst hfuel

/-- The same with the (stronger) hypothesis that literally matches `run`. -/
theorem eval_never_fuelOut' (env : Env) (g : Grammar) (max fuel : Nat) (rule : String)
    (e : PExpr) (fr : Frame) (st : PState)
    (hst : st.cnt ≤ max) (hfuel : max + 2 ≤ fuel + st.cnt) :
    eval env g max fuel rule e fr st ≠ .fuelOut :=
  eval_never_fuelOut env g max fuel rule e fr st hst (by omega)

/-! ## 4. Budget simulation (same fuel on both sides) -/

theorem eval_budget_sim (env : Env) (g : Grammar) (max max' fuel : Nat) (rule : String)
    (e : PExpr) (fr : Frame) (st : PState) (r' : PRes)
    (hmax : max ≤ max') (hst : st.cnt ≤ max)
    (hr : eval env g max' fuel rule e fr st = r') (hne : r' ≠ .fuelOut) :
    (finalCnt r' ≤ max → eval env g max fuel rule e fr st = r') ∧
    (max < finalCnt r' →
      ∃ s, eval env g max fuel rule e fr st = .exceeded s ∧ s.cnt = max + 1) := by
  have hs := Proofs.Budget.eval_sim env g max max' hmax fuel rule e fr st hst
  rw [hr] at hs
  rw [finalCnt_eq]
  rcases hs with h | ⟨hle, h⟩ | ⟨hlt, s, h, hs⟩
  · exact absurd h hne
  · exact ⟨fun _ => h, fun hlt => by omega⟩
  · exact ⟨fun hle => by omega, fun _ => ⟨s, h, hs⟩⟩


/-! ## 5. Top-level corollaries about `run` -/

-- `runMax`: `run` with the effective budget given directly
open Bexpr.Proofs.Budget (runMax run_eq_runMax runMax_sim runMax_cnt_le)

theorem effectiveMax_zero : effectiveMax 0 = 2 ^ 64 - 1 := by simp [effectiveMax]

theorem effectiveMax_pos {n : Nat} (h : 0 < n) : effectiveMax n = n := by
  simp only [effectiveMax]
  split
  · rename_i h0; simp at h0; omega
  · rfl

/-- A budget of `0` means "unlimited", i.e. `math.MaxUint64`. -/
theorem budget_zero_unlimited (env : Env) (g : Grammar) (input : GoString) :
    run env g 0 input = run env g (2 ^ 64 - 1) input := by
  rw [run_eq_runMax, run_eq_runMax, effectiveMax_zero, effectiveMax_pos (by omega)]

/-- Even the unlimited run stops after at most `2^64` steps. -/
theorem unlimited_cnt_le (env : Env) (g : Grammar) (input : GoString) :
    (run env g 0 input).cnt ≤ 2 ^ 64 := by
  have := runMax_cnt_le env g (2 ^ 64 - 1) input
  rw [run_eq_runMax, effectiveMax_zero]
  omega

/-- General form: any budget `n ≥ N` reproduces the unlimited run, provided the unlimited run
    itself stayed within `2^64 - 1` steps (`n` may even exceed `2^64 - 1` in the model). -/
theorem budget_exact_ge_gen (env : Env) (g : Grammar) (input : GoString) (n : Nat)
    (hN : (run env g 0 input).cnt ≤ n) (hM : (run env g 0 input).cnt ≤ 2 ^ 64 - 1) :
    run env g n input = run env g 0 input := by
  by_cases h0 : n = 0
  · subst h0; rfl
  · rw [run_eq_runMax, run_eq_runMax, effectiveMax_zero, effectiveMax_pos (by omega)] at *
    by_cases hn : n ≤ 2 ^ 64 - 1
    · exact (runMax_sim env g n (2 ^ 64 - 1) hn input).1 hN
    · have h := runMax_sim env g (2 ^ 64 - 1) n (by omega) input
      by_cases hc : (runMax env g n input).cnt ≤ 2 ^ 64 - 1
      · exact (h.1 hc).symm
      · have := (h.2 (by omega)).2.2
        omega

/-- C11, first half: with `N` the step count of the unlimited run, every budget `n` with
    `N ≤ n ≤ 2^64 - 1` gives exactly the unlimited result. -/
theorem budget_exact_ge (env : Env) (g : Grammar) (input : GoString) (n : Nat)
    (hN : (run env g 0 input).cnt ≤ n) (hn : n ≤ 2 ^ 64 - 1) :
    run env g n input = run env g 0 input :=
  budget_exact_ge_gen env g input n hN (by omega)

/-- C11, second half: every budget `0 < n < N` fails with the max-expressions error after
    exactly `n + 1` steps.  (No side condition: if the unlimited run itself hit the `2^64 - 1`
    limit then `N = 2^64` and the statement still holds for every `0 < n < 2^64`.) -/
theorem budget_exact_lt (env : Env) (g : Grammar) (input : GoString) (n : Nat)
    (h0 : 0 < n) (hN : n < (run env g 0 input).cnt) :
    (run env g n input).val = .nil ∧
    (∃ e ∈ (run env g n input).errs, e.kind = .maxExpr) ∧
    (run env g n input).cnt = n + 1 := by
  have hle := unlimited_cnt_le env g input
  rw [run_eq_runMax, effectiveMax_zero] at hN hle
  rw [run_eq_runMax, effectiveMax_pos h0]
  exact (runMax_sim env g n (2 ^ 64 - 1) (by omega) input).2 hN

/-- A limited parse never executes more than `n + 1` parser steps. -/
theorem budget_steps_le (env : Env) (g : Grammar) (input : GoString) (n : Nat) (h0 : 0 < n) :
    (run env g n input).cnt ≤ n + 1 := by
  rw [run_eq_runMax, effectiveMax_pos h0]
  exact runMax_cnt_le env g n input

/-- C11 as one statement: there is a threshold `N` (the step count of the unlimited run). -/
theorem budget_threshold (env : Env) (g : Grammar) (input : GoString) :
    ∃ N : Nat,
      (∀ n, (n = 0 ∨ N ≤ n) → n ≤ 2 ^ 64 - 1 → run env g n input = run env g 0 input) ∧
      (∀ n, 0 < n → n < N →
        (run env g n input).val = .nil ∧
        (∃ e ∈ (run env g n input).errs, e.kind = .maxExpr) ∧
        (run env g n input).cnt = n + 1) ∧
      (∀ n, 0 < n → (run env g n input).cnt ≤ n + 1) := by
  refine ⟨(run env g 0 input).cnt, ?_, ?_, ?_⟩
  · intro n h hn
    rcases h with rfl | h
    · rfl
    · exact budget_exact_ge env g input n h hn
  · intro n h0 hN; exact budget_exact_lt env g input n h0 hN
  · intro n h0; exact budget_steps_le env g input n h0

/-! ## 6. Non-vacuity: a concrete grammar, `S <- "a" S / "a"`, on the input `"aa"` -/

namespace Example

def env : Env where
  action := fun _ _ b => .ret (.bytes b) none
  pred := fun _ _ => .ret true none
  classIn := fun _ _ => some false

/-- `S <- "a" S / "a"` -/
def g : Grammar :=
  [{ name := "S", displayName := "",
     expr := .choice [.seq [.lit [97] false, .ruleRef "S"], .lit [97] false] }]

/-- `"aa"` -/
def input : GoString := [97, 97]

/-- The unlimited parse takes `N = 13` steps and succeeds. -/
example : (run env g 0 input).cnt = 13 := by decide
example : (run env g 0 input).val = .list [.bytes [97], .bytes [97]] := rfl
example : (run env g 0 input).errs = [] := by decide

/-- A budget below `N` fails with `maxExpr` after `n + 1` steps (direct computation …). -/
example : (run env g 5 input).val = .nil := rfl
example : (run env g 5 input).errs = [{ off := 1, rule := "", kind := .maxExpr }] := by decide
example : (run env g 5 input).cnt = 6 := by decide
example : (run env g 12 input).errs = [{ off := 1, rule := "", kind := .maxExpr }] := by decide

/-- … and as an instance of `budget_exact_lt`; the hypotheses are satisfiable. -/
example : (run env g 12 input).val = .nil ∧
    (∃ e ∈ (run env g 12 input).errs, e.kind = .maxExpr) ∧ (run env g 12 input).cnt = 13 :=
  budget_exact_lt env g input 12 (by decide) (by decide)

/-- A budget `≥ N` gives the same result (direct computation and instance of the theorem). -/
example : (run env g 13 input).val = (run env g 0 input).val := rfl
example : (run env g 13 input).cnt = 13 := by decide
example : run env g 13 input = run env g 0 input :=
  budget_exact_ge env g input 13 (by decide) (by decide)
example : run env g 1000 input = run env g 0 input :=
  budget_exact_ge env g input 1000 (by decide) (by decide)

end Example

end Bexpr.Props.C11

#print axioms Bexpr.Props.C11.eval_cnt_mono
#print axioms Bexpr.Props.C11.eval_cnt_mono_exceeded
#print axioms Bexpr.Props.C11.eval_cnt_mono_abort
#print axioms Bexpr.Props.C11.eval_cnt_mono_final
#print axioms Bexpr.Props.C11.eval_cnt_le
#print axioms Bexpr.Props.C11.eval_fuel_mono
#print axioms Bexpr.Props.C11.eval_never_fuelOut
#print axioms Bexpr.Props.C11.eval_never_fuelOut'
#print axioms Bexpr.Props.C11.eval_budget_sim
#print axioms Bexpr.Props.C11.budget_zero_unlimited
#print axioms Bexpr.Props.C11.unlimited_cnt_le
#print axioms Bexpr.Props.C11.budget_exact_ge_gen
#print axioms Bexpr.Props.C11.budget_exact_ge
#print axioms Bexpr.Props.C11.budget_exact_lt
#print axioms Bexpr.Props.C11.budget_steps_le
#print axioms Bexpr.Props.C11.budget_threshold
