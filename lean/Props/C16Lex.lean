/-
  Props.C16Lex — the lexical stage of C16 / C07: what a quoted literal and a JSON-pointer
  segment denote (`strconv.Unquote` against `strconv.Quote` and the renderer's `quoteX22`;
  `ptrUnescape`, `ptrParse` against RFC 6901 escaping).
-/
import Bexpr.Unquote
import Bexpr.Quote
import Bexpr.Peg.Actions
import Proofs.UnquoteLemmas

namespace Bexpr.Props.C16Lex
open Bexpr Bexpr.GoString Bexpr.Strconv Bexpr.Peg

/-- An ASCII literal as a Go string (bytes of the characters). -/
def asc (s : String) : GoString := s.toList.map byteOfChar

/-! ## Raw strings are verbatim -/

/-- A backquoted literal denotes exactly the bytes between the backquotes, provided
they contain no backquote and no carriage return (Go drops `\r` from raw strings). -/
theorem unquote_quote_backtick (s : GoString) (hs : ∀ b ∈ s, b ≠ 0x60 ∧ b ≠ 0x0D) :
    unquote ([0x60] ++ s ++ [0x60]) = some s := by
  simpa using unquote_backtick s hs

/-- The restriction on `\r` is necessary: Go (and the model) drop carriage returns. -/
theorem unquote_backtick_drops_cr :
    unquote ([0x60] ++ [0x61, 0x0D, 0x62] ++ [0x60]) = some [0x61, 0x62] := by decide +kernel

/-! ## Double-quoted strings of plain bytes are verbatim -/

/-- For bytes that are ASCII and none of `"`, `\`, newline — in particular for every
ASCII-printable string without `"` and `\` — a double-quoted literal denotes the
bytes between the quotes. -/
theorem unquote_double_plain (s : GoString)
    (hs : ∀ b ∈ s, b < 0x80 ∧ b ≠ 0x22 ∧ b ≠ 0x5C ∧ b ≠ 0x0A) :
    unquote ([0x22] ++ s ++ [0x22]) = some s := by
  have := unquote_of_body s s (unquoteBody_plain s _ (by simp) fun b hb => by
    obtain ⟨h1, h2, h3, h4⟩ := hs b hb
    simp [plainByte, h1, h2, h3, h4])
  simpa using this

theorem unquote_quote_double_ascii (s : GoString)
    (hs : ∀ b ∈ s, 0x20 ≤ b ∧ b ≤ 0x7E ∧ b ≠ 0x22 ∧ b ≠ 0x5C) :
    unquote ([0x22] ++ s ++ [0x22]) = some s := by
  apply unquote_double_plain
  intro b hb
  obtain ⟨h1, h2, h3, h4⟩ := hs b hb
  refine ⟨?_, h3, h4, ?_⟩
  · exact Nat.lt_of_le_of_lt (UInt8.le_iff_toNat_le.mp h2) (by decide)
  · intro h; subst h; exact absurd h1 (by decide)

/-! ## `Unquote ∘ Quote = id` -/

/-- Go's `strconv.Unquote(strconv.Quote(s)) == s`, for EVERY byte string `s` — valid
UTF-8 or not (invalid bytes travel as `\xHH`), printable or not, with or without
quotes and backslashes. -/
theorem unquote_quote_double (s : GoString) : unquote (Strconv.quote s) = some s :=
  unquote_of_body _ s (by
    rw [quoteBody_eq_quoteBodyWith]
    exact unquoteBody_quoteBodyWith escapedRune chunkOK_escapedRune s.length s _ (Nat.le_refl _)
      (by simp))

/-- Consequently `Quote` is injective: two different strings never render to the
same double-quoted literal. -/
theorem quote_injective (s t : GoString) (h : Strconv.quote s = Strconv.quote t) : s = t := by
  have h1 := unquote_quote_double s
  rw [h, unquote_quote_double t] at h1
  exact (Option.some.inj h1).symm

/-! ## The renderer's spelling: `\x22` for a double quote

The bexpr grammar has no escape for `"` inside a double-quoted literal (the first
`"` after the opening one ends the token), so a renderer cannot use `strconv.Quote`
verbatim: it writes `\x22` where `Quote` writes `\"` (harness: `quoteDouble`, which
does this by `strings.ReplaceAll(inner, "\\\"", "\\x22")` on `Quote`'s output; the model
`Strconv.quoteX22` does it in the rune escaper).  That spelling has both properties
the round trip needs. -/

/-- The renderer's literal denotes the original string, for every byte string. -/
theorem unquote_quote_double_x22 (s : GoString) : unquote (quoteX22 s) = some s :=
  unquote_of_body _ s (unquoteBody_quoteBodyWith escapedRuneX22 chunkOK_escapedRuneX22 s.length s _
    (Nat.le_refl _) (by simp))

/-- … and between its delimiters there is no `"` (the grammar's string rule ends a literal at
the first `"` after the opening one). -/
theorem quoteX22_no_inner_quote (s : GoString) :
    ∃ body, quoteX22 s = [0x22] ++ body ++ [0x22] ∧ ∀ c ∈ body, c ≠ 0x22 := by
  obtain ⟨body, h1, h2⟩ := quoteX22_shape s
  exact ⟨body, by simpa using h1, h2⟩

/-- `Quote` itself does NOT have that property (so `Quote`d text is not in general a
bexpr literal). -/
theorem quote_has_inner_quote :
    Strconv.quote (asc "a\"b") = asc "\"a\\\"b\"" ∧ unquote (asc "\"a\\\"b\"") = some (asc "a\"b")
    := by decide +kernel

/-! ## JSON-pointer escapes -/

/-- RFC 6901 escaping of a reference token: first `~` ↦ `~0`, then `/` ↦ `~1`. -/
def ptrEscape (p : GoString) : GoString :=
  replaceAll (replaceAll p (ofString "~") (ofString "~0")) (ofString "/") (ofString "~1")

theorem ptrEscape_eq_flatMap (p : GoString) : ptrEscape p = p.flatMap escByte := by
  unfold ptrEscape
  rw [ofString_tilde, ofString_tilde0, ofString_slash, ofString_tilde1]
  exact escape_eq_flatMap p

/-- `~1` and `~0` denote `/` and `~`: un-escaping inverts escaping, for every byte
string. -/
theorem pointer_escape_roundtrip (p : GoString) : ptrUnescape (ptrEscape p) = p := by
  rw [ptrEscape_eq_flatMap]; exact ptrUnescape_flatMap_escByte p

theorem ptrEscape_no_slash (p : GoString) : ∀ c ∈ ptrEscape p, c ≠ 0x2F := by
  rw [ptrEscape_eq_flatMap]; exact escByte_no_slash p

/-- The JSON-pointer spelling `/t₁/…/tₙ` (tokens escaped) denotes exactly the token
list, for every non-empty list of arbitrary byte strings. -/
theorem pointer_parse_roundtrip (parts : List GoString) (hne : parts ≠ []) :
    ptrParse (parts.map ptrEscape) = parts := by
  unfold ptrParse
  rw [ofString_slash, splitSlash_join _ (by simpa using hne)]
  · rw [List.map_map]
    conv => rhs; rw [← List.map_id parts]
    apply List.map_congr_left
    intro p _
    exact pointer_escape_roundtrip p
  · intro q hq c hc
    rw [List.mem_map] at hq
    obtain ⟨p, _, rfl⟩ := hq
    exact ptrEscape_no_slash p c hc

/-- The empty segment list is read as one empty token (the pointer `"/"`): the reason why
`pointer_parse_roundtrip` asks for a non-empty list. -/
theorem pointer_parse_nil : ptrParse [] = [[]] := by decide +kernel

/-! ## Non-vacuity: concrete instances -/

example : unquote (asc "`a\\nb`") = some (asc "a\\nb") := by decide +kernel
example : unquote (asc "\"a\\nb\"") = some [0x61, 0x0A, 0x62] := by decide +kernel
example : unquote (asc "\"a\\x22b\"") = some (asc "a\"b") := by decide +kernel
/-- A raw `"` inside `"…"` ends the literal: the whole text is rejected. -/
example : unquote (asc "\"a\"b\"") = none := by decide +kernel
example : unquote (asc "\"abc") = none := by decide +kernel
example : unquote (asc "'ab'") = none := by decide +kernel
/-- `Quote` on control bytes, quotes, backslashes, invalid UTF-8, non-ASCII. -/
example : Strconv.quote (asc "a\"b\\c\n") = asc "\"a\\\"b\\\\c\\n\"" := by decide +kernel
example : Strconv.quote [0xFF, 0xE2, 0x82, 0xAC, 0x00] =
    asc "\"\\xff" ++ [0xE2, 0x82, 0xAC] ++ asc "\\x00\"" := by decide +kernel
example : unquote (Strconv.quote [0xFF, 0xE2, 0x82, 0xAC, 0x00, 0x22, 0x5C, 0xED, 0xA0, 0x80]) =
    some [0xFF, 0xE2, 0x82, 0xAC, 0x00, 0x22, 0x5C, 0xED, 0xA0, 0x80] := unquote_quote_double _
example : quoteX22 (asc "a\"b\\") = asc "\"a\\x22b\\\\\"" := by decide +kernel
/-- Pointer tokens: `~1` is `/`, `~0` is `~`, and `~01` is `~1` (not `/`). -/
example : ptrUnescape (asc "a~1b") = asc "a/b" := by decide +kernel
example : ptrUnescape (asc "~01") = asc "~1" := by decide +kernel
example : ptrParse [asc "a~1b", asc "c~0d", asc "~01", asc ""] =
    [asc "a/b", asc "c~d", asc "~1", asc ""] := by decide +kernel
example : ptrEscape (asc "a/b~c") = asc "a~1b~0c" := by decide +kernel

end Bexpr.Props.C16Lex

#print axioms Bexpr.Props.C16Lex.unquote_quote_backtick
#print axioms Bexpr.Props.C16Lex.unquote_double_plain
#print axioms Bexpr.Props.C16Lex.unquote_quote_double_ascii
#print axioms Bexpr.Props.C16Lex.unquote_quote_double
#print axioms Bexpr.Props.C16Lex.quote_injective
#print axioms Bexpr.Props.C16Lex.unquote_quote_double_x22
#print axioms Bexpr.Props.C16Lex.quoteX22_no_inner_quote
#print axioms Bexpr.Props.C16Lex.ptrEscape_eq_flatMap
#print axioms Bexpr.Props.C16Lex.pointer_escape_roundtrip
#print axioms Bexpr.Props.C16Lex.ptrEscape_no_slash
#print axioms Bexpr.Props.C16Lex.pointer_parse_roundtrip
#print axioms Bexpr.Props.C16Lex.pointer_parse_nil
