/-
  C04 — Negated operators are exact complements; `contains` is `in` with the operands flipped.

  Statements about `Eval.evaluateMatch` / `Eval.evaluate` (model of evaluate.go) for every
  selector, literal, option record and datum, INCLUDING absent map keys, ill-typed literals,
  nil values and non-collection targets.  Of "`contains` is `in`" only the operator part is shown
  (`contains_is_in`); the order of the operands in that production is not the subject of a
  theorem here.  Ties: `Ties/Dispatch.lean` (the dispatch shape `direct f` / `negated f` and the
  NotPresentDisposition table extracted from the source), `Ties/MatchSem.lean`,
  `Ties/PinnedGrammar.lean`; `neg` fragment.
-/
import Bexpr.Driver
import Props.C03

namespace Bexpr.Props.C04
open Bexpr Bexpr.Eval Bexpr.Go Bexpr.Peg Bexpr.Driver

/-- the negated counterpart of a positive operator (and back) -/
def neg : MatchOp → MatchOp
  | .equal => .notEqual | .notEqual => .equal
  | .in_ => .notIn | .notIn => .in_
  | .isEmpty => .isNotEmpty | .isNotEmpty => .isEmpty
  | .matches => .notMatches | .notMatches => .matches

/-- the four operators of which the others are the negations -/
def positive : MatchOp → Bool
  | .equal | .in_ | .isEmpty | .matches => true
  | _ => false

variable (re : RegexOracle) (o : Opts) (d : Any)

/-- the per-operator default for an absent map key is complementary -/
theorem npd_complement (op : MatchOp) : notPresentDisposition (neg op) = !notPresentDisposition op := by
  cases op <;> rfl

/-- `!=`, `not in`, `is not empty`, `not matches` return the logical negation of the positive
    form whenever it returns without error, and an error exactly when it does — also when the
    selected map key is absent. -/
theorem neg_complement (sel : Selector) (op : MatchOp) (raw : Option GoString)
    (hp : positive op = true) :
    evaluateMatch re o d sel (neg op) raw = negate (evaluateMatch re o d sel op raw) := by
  unfold evaluateMatch
  cases getValue o d sel.path with
  | error | unmodelled => rfl
  | absent => exact congrArg Out.val (npd_complement op)
  | present v =>
    simp only []
    cases narrowJsonNumber v with
    | error u => cases u; rfl
    | ok v => cases op <;> first | rfl | cases hp

/-- the positive form is the negation of the negated form as well (an error carries `false`, so
    negating twice loses nothing) -/
theorem neg_complement' (sel : Selector) (op : MatchOp) (raw : Option GoString)
    (hp : positive op = true) :
    evaluateMatch re o d sel op raw = negate (evaluateMatch re o d sel (neg op) raw) := by
  rw [neg_complement re o d sel op raw hp, ← C03.notTable_eq_negate, ← C03.notTable_eq_negate,
    C03.notTable_notTable fun h => nomatch C03.evaluateMatch_err_false re o d sel op raw true h]

theorem neg_error_iff (sel : Selector) (op : MatchOp) (raw : Option GoString)
    (hp : positive op = true) :
    (∃ b, evaluateMatch re o d sel (neg op) raw = .err b) ↔
      (∃ b, evaluateMatch re o d sel op raw = .err b) := by
  rw [neg_complement re o d sel op raw hp]
  cases evaluateMatch re o d sel op raw <;> simp [negate]

/-- each form equals `not (…)` around its counterpart -/
theorem not_around_counterpart (sel : Selector) (op : MatchOp) (raw : Option GoString)
    (hp : positive op = true) :
    evaluate re (.not (.match_ sel op raw)) o d = evaluate re (.match_ sel (neg op) raw) o d := by
  rw [C03.not_table, C03.notTable_eq_negate]
  simp only [evaluate]
  exact (neg_complement re o d sel op raw hp).symm

theorem not_around_negated (sel : Selector) (op : MatchOp) (raw : Option GoString)
    (hp : positive op = true) :
    evaluate re (.not (.match_ sel (neg op) raw)) o d = evaluate re (.match_ sel op raw) o d := by
  rw [C03.not_table, C03.notTable_eq_negate]
  simp only [evaluate]
  exact (neg_complement' re o d sel op raw hp).symm

/-- top-level action of a rule of the (regenerated) grammar table -/
def ruleAction (g : Grammar) (rule : String) : Option String :=
  match lookupRule g rule with
  | some r => match r.expr with
    | .action n _ => some n
    | _ => none
  | none => none

def ruleSem (rule : String) : ActionSem :=
  match ruleAction goGrammar rule with
  | some n => lookupSem goSem n
  | none => .unknown

/-- one kernel evaluation for the ten lookups: the regenerated grammar table is unfolded once -/
theorem operator_rules :
    (ruleSem "MatchContains" = .constMatchOp .in_ ∧ ruleSem "MatchIn" = .constMatchOp .in_ ∧
    ruleSem "MatchNotContains" = .constMatchOp .notIn ∧ ruleSem "MatchNotIn" = .constMatchOp .notIn) ∧
    (ruleSem "MatchEqual" = .constMatchOp .equal ∧ ruleSem "MatchNotEqual" = .constMatchOp .notEqual ∧
    ruleSem "MatchIsEmpty" = .constMatchOp .isEmpty ∧ ruleSem "MatchIsNotEmpty" = .constMatchOp .isNotEmpty ∧
    ruleSem "MatchMatches" = .constMatchOp .matches ∧ ruleSem "MatchNotMatches" = .constMatchOp .notMatches) := by
  decide +kernel

/-- `contains` / `not contains` are parsed to the `In` / `NotIn` operators: the code blocks of the
    rules `MatchContains` and `MatchIn` (resp. the negated ones) return the same constant -/
theorem contains_is_in :
    ruleSem "MatchContains" = .constMatchOp .in_ ∧ ruleSem "MatchIn" = .constMatchOp .in_ ∧
    ruleSem "MatchNotContains" = .constMatchOp .notIn ∧ ruleSem "MatchNotIn" = .constMatchOp .notIn :=
  operator_rules.1

theorem operator_constants :
    ruleSem "MatchEqual" = .constMatchOp .equal ∧ ruleSem "MatchNotEqual" = .constMatchOp .notEqual ∧
    ruleSem "MatchIsEmpty" = .constMatchOp .isEmpty ∧ ruleSem "MatchIsNotEmpty" = .constMatchOp .isNotEmpty ∧
    ruleSem "MatchMatches" = .constMatchOp .matches ∧ ruleSem "MatchNotMatches" = .constMatchOp .notMatches :=
  operator_rules.2

example : positive .in_ = true ∧ neg .in_ = .notIn ∧ negate (.val true) = .val false := by decide

end Bexpr.Props.C04

#print axioms Bexpr.Props.C04.neg_complement
#print axioms Bexpr.Props.C04.neg_error_iff
#print axioms Bexpr.Props.C04.not_around_counterpart
#print axioms Bexpr.Props.C04.not_around_negated
#print axioms Bexpr.Props.C04.npd_complement
#print axioms Bexpr.Props.C04.contains_is_in
#print axioms Bexpr.Props.C04.operator_constants
