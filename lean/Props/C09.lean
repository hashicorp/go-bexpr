/-
  Property C09 — "Evaluate is total: it never panics, and an error always comes with false."

  Stated about the executable model `Bexpr.Eval.evaluate` of `evaluate.go` (every reflect call
  that would panic in Go yields `Out.panic` in the model) and the model `Bexpr.Eval.execute` of
  `(*Filter).Execute`.  "Total" means `≠ Out.panic`; where the model answers `Out.unmodelled`
  (e.g. pointer-to-interface elements in `in`) nothing is claimed.  Helper lemmas live in
  `Proofs/Total.lean`; the error half is `C03.err_bool_false`.
-/
import Proofs.Total
import Props.C03

namespace Bexpr.Props.C09
open Bexpr Bexpr.Go Bexpr.Eval Bexpr.Proofs.Total

/-- Well-formed evaluation options (defined in `Proofs/Total.lean`): the unknown value, if any,
    is `Any.wf`, and every local variable's `value` is `Any.wf`. -/
abbrev OptsWf (o : Opts) : Prop := Bexpr.Proofs.Total.OptsWf o

theorem evaluate_err_false (re : RegexOracle) (e : Expr) (o : Opts) (d : Any) (b : Bool) :
    evaluate re e o d = .err b → b = false :=
  C03.err_bool_false re d e o b

/-- `evaluate` never panics on a parser-shaped expression, a well-formed datum and well-formed
    options.  This includes the one place where a LIBRARY panics: `pointerstructure.Get` on a map
    keyed like `map[*[1][]int]V` answers `GetErr.panic`, and `getValue` (the model of `safeGet`)
    turns that into the lookup error (`Props/C09Keys.evaluate_recovers_walk_panic`). -/
theorem evaluate_no_panic (re : RegexOracle) (e : Expr) (o : Opts) (d : Any) :
    e.parserShaped = true → Any.wf d = true → OptsWf o → evaluate re e o d ≠ .panic := by
  intro hs hd
  induction e generalizing o with
  | not e ih =>
    intro ho h
    rw [C03.not_table] at h
    exact ih o hs ho (C03.notTable_panic h)
  | and l r ihl ihr =>
    intro ho
    simp only [Expr.parserShaped, Bool.and_eq_true] at hs
    rw [C03.and_table]
    rcases C03.andTable_cases (evaluate re l o d) (evaluate re r o d) with e | e <;> rw [e]
    · exact ihl o hs.1 ho
    · exact ihr o hs.2 ho
  | or l r ihl ihr =>
    intro ho
    simp only [Expr.parserShaped, Bool.and_eq_true] at hs
    rw [C03.or_table]
    rcases C03.orTable_cases (evaluate re l o d) (evaluate re r o d) with e | e <;> rw [e]
    · exact ihl o hs.1 ho
    · exact ihr o hs.2 ho
  | match_ sel op raw =>
    intro ho
    rw [evaluate]
    exact evaluateMatch_no_panic _ _ _ _ _ _ hs ho hd
  | coll op sel bd inner ih =>
    intro ho
    -- every loop runs the body on options extended by well-formed bindings
    have loop {α : Type} (ks : List α) (g : α → List LocalVar)
        (hg : ∀ k lv, lv ∈ g k → Any.wf lv.value = true) :
        collLoop (fun o' => evaluate re inner o' d) o op bd (ks.map g) ≠ .panic := by
      refine collLoop_no_panic _ _ _ _ _ (fun bs hm lv hl => ?_) (fun o' ho' => ih o' hs ho') ho
      obtain ⟨k, _, rfl⟩ := List.mem_map.mp hm
      exact hg k lv hl
    rw [evaluate]
    split
    · nofun
    · nofun
    · nofun
    · split
      · split
        · nofun
        · exact loop _ _ fun k lv => mapBindings_wf _ _ _ _
      · exact loop _ _ fun i lv => listBindings_wf _ _ _ _
      · exact loop _ _ fun i lv => listBindings_wf _ _ _ _
      · nofun

/-- Property C09: `Evaluate` is total — it never panics (on parser-produced trees and
    well-formed inputs), and an error always comes with `false`. -/
theorem evaluate_total (re : RegexOracle) (e : Expr) (o : Opts) (d : Any) :
    (e.parserShaped = true → Any.wf d = true → OptsWf o → evaluate re e o d ≠ .panic) ∧
    (∀ b, evaluate re e o d = .err b → b = false) :=
  ⟨evaluate_no_panic re e o d, fun b => evaluate_err_false re e o d b⟩

/-- `(*Evaluator).Evaluate` (options rebuilt from the evaluator's fields, no locals). -/
theorem Evaluator_evaluate_no_panic (re : RegexOracle) (ev : Evaluator) (d : Any)
    (hs : ev.ast.parserShaped = true) (hd : Any.wf d = true)
    (hu : ∀ u, ev.unknown = some u → Any.wf u = true) : ev.evaluate re d ≠ .panic :=
  evaluate_no_panic re ev.ast _ d hs hd ⟨hu, fun _ hm => nomatch hm⟩

theorem Evaluator_evaluate_err_false (re : RegexOracle) (ev : Evaluator) (d : Any) (b : Bool) :
    ev.evaluate re d = .err b → b = false :=
  evaluate_err_false re ev.ast _ d b

theorem execute_nil (re : RegexOracle) (data : Any) : execute re none data = .ok data := rfl

theorem execute_no_panic (re : RegexOracle) (ev : Evaluator) (data : Any)
    (hs : ev.ast.parserShaped = true) (hd : Any.wf data = true)
    (hu : ∀ u, ev.unknown = some u → Any.wf u = true) :
    execute re (some ev) data ≠ .panic := by
  have hev : ∀ x : GoVal, x.wf = true → ev.evaluate re x.toAny ≠ .panic :=
    fun x hx => Evaluator_evaluate_no_panic re ev _ hs (toAny_wf x hx) hu
  -- the filter is run on elements of a well-formed list, or on values of a well-formed map
  have list {elem : GoType} {xs : List GoVal} {o : Out} (hw : wfList elem xs = true)
      (ho : execSliceLoop (ev.evaluate re) xs [] = .error o) : outToExec o ≠ .panic :=
    outToExec_ne_panic
      (execSliceLoop_ne_panic _ _ _ _ (fun x hx => hev x (wfList_mem hw hx).2) ho)
  unfold execute
  simp only [valueOf]
  split
  · nofun
  · have hw := (Any_wf_some.mp hd).2
    split
    · nofun
    · next ho => exact list hw ho
  · have hw := (Any_wf_some.mp hd).2
    split
    · nofun
    · next ho => exact list hw ho
  · have hw := (Any_wf_some.mp hd).2
    simp only [GoVal.wf, Bool.and_eq_true] at hw
    split
    · nofun
    · next ho =>
      exact outToExec_ne_panic
        (execMapLoop_ne_panic _ _ _ _ (fun e he => hev e.2 (wfEntries_mem hw.1 he).2.2.2) ho)
  · nofun

/-! ## Non-vacuity: concrete data and expressions satisfying the hypotheses

Go strings are byte lists: `[76]` = "L", `[88]` = "X", `[77]` = "M", `[83]` = "S", `[65]` = "A",
`[97]` = "a", `[122, 122]` = "zz", `[50]` = "2", `[49]` = "1", `[98]` = "b" (tag name). -/

namespace Examples

def intT : GoType := .basic .int ""
def fld (n : GoString) : Field := { goName := n, exported := true, tags := [] }

/-- `[]*int{&1, nil, &2}` -/
def ptrList : GoVal :=
  .slice "" (.ptr intT) false
    [.ptr intT (some (.int .int "" 1)), .ptr intT none, .ptr intT (some (.int .int "" 2))]

/-- `struct{ L []*int; X interface{}; M map[string]interface{}; S struct{A int} }` with a nil
    pointer element, a nil interface field and a map holding a nil interface. -/
def sdatum : Any := some (.struct "main.D" [
  (fld [76], ptrList),
  (fld [88], .iface none),
  (fld [77], .map "" GoType.stringT .iface false [(.str "" [97], .iface none)]),
  (fld [83], .struct "main.S" [(fld [65], .int .int "" 7)])])

/-- `map[string]interface{}{"L": []*int{&1, nil, &2}, "X": nil, "S": struct{A int}{7}}` -/
def mdatum : Any := some (.map "" GoType.stringT .iface false [
  (.str "" [76], .iface (some ptrList)),
  (.str "" [88], .iface none),
  (.str "" [83], .iface (some (.struct "main.S" [(fld [65], .int .int "" 7)])))])

def opts0 : Opts := { tagName := [98], hook := .off, unknown := none, locals := [] }
def re0 : RegexOracle := fun _ => none

/-- `"2" in L` -/
def eIn : Expr := .match_ ⟨.bexpr, [[76]]⟩ .in_ (some [50])
/-- `X is empty` -/
def eEmpty : Expr := .match_ ⟨.bexpr, [[88]]⟩ .isEmpty none
/-- `not (zz == 1)` -/
def eNot : Expr := .not (.match_ ⟨.bexpr, [[122, 122]]⟩ .equal (some [49]))
/-- `any L as i, v { i == 2 }`: a collection expression over `L` with index and value bound -/
def eColl : Expr :=
  .coll .any ⟨.bexpr, [[76]]⟩ { mode := .indexAndValue, index := [105], value := [118] }
    (.match_ ⟨.bexpr, [[105]]⟩ .equal (some [50]))

/-- the hypotheses of `evaluate_no_panic` hold -/
example : Any.wf sdatum = true := by decide
example : Any.wf mdatum = true := by decide
example : eIn.parserShaped = true := by decide
example : eEmpty.parserShaped = true := by decide
example : eNot.parserShaped = true := by decide
example : eColl.parserShaped = true := by decide
theorem opts0_wf : OptsWf opts0 := ⟨fun _ h => (nomatch h), fun _ h => (nomatch h)⟩

/-- … and this is what `evaluate` returns on the struct datum (kernel evaluation) -/
example : evaluate re0 eIn opts0 sdatum = .val true := by decide +kernel
example : evaluate re0 eEmpty opts0 sdatum = .err false := by decide +kernel
example : evaluate re0 eNot opts0 sdatum = .err false := by decide +kernel
example : evaluate re0 eColl opts0 sdatum = .val true := by decide +kernel
example : evaluate re0 (.match_ ⟨.bexpr, [[77]]⟩ .isEmpty none) opts0 sdatum = .val false := by
  decide +kernel
example : evaluate re0 (.match_ ⟨.bexpr, [[83], [65]]⟩ .equal (some [55])) opts0 sdatum
    = .val true := by decide +kernel

/-- the theorem instantiated -/
example : evaluate re0 eIn opts0 sdatum ≠ .panic :=
  evaluate_no_panic _ _ _ _ (by decide) (by decide) opts0_wf

/-! The same on the map datum: the three lookups, then the three expressions. -/

theorem get_L : Go.get opts0.cfg [[76]] mdatum = .ok (some ptrList) := by rfl

theorem get_X : Go.get opts0.cfg [[88]] mdatum = .ok none := by rfl

theorem get_zz : Go.get opts0.cfg [[122, 122]] mdatum = .error .notFound := by rfl

example : evaluate re0 eIn opts0 mdatum = .val true := by decide +kernel

example : evaluate re0 eEmpty opts0 mdatum = .err false := by decide +kernel

example : evaluate re0 eNot opts0 mdatum = .err false := by decide +kernel

def ev0 : Evaluator :=
  { ast := eIn, tagName := [98], hook := .off, unknown := none, expression := [] }
/-- `Execute` over the `[]*int` (as a slice datum): the filter errors on every element (an `*int`
    has no field `L`), so the first error aborts; no panic. -/
example : execute re0 (some ev0) (some ptrList) ≠ .panic :=
  execute_no_panic _ _ _ (by decide) (by decide) (fun _ h => nomatch h)

/-! The hypotheses on the expression and on the datum are not superfluous: dropping either one
    makes the model panic. -/

/-- not parser-shaped (`==` without a value): `first.(T)` on the nil match value -/
example : evaluate re0 (.match_ ⟨.bexpr, [[83], [65]]⟩ .equal none) opts0 sdatum = .panic := by
  decide +kernel
/-- ill-formed value (an `int` constructor claiming kind `Array`): `Len` panics -/
example : evaluate re0 (.match_ ⟨.bexpr, []⟩ .isEmpty none) opts0 (some (.int .array "" 0))
    = .panic := by decide +kernel

end Examples

end Bexpr.Props.C09

#print axioms Bexpr.Props.C09.evaluate_err_false
#print axioms Bexpr.Props.C09.evaluate_no_panic
#print axioms Bexpr.Props.C09.evaluate_total
#print axioms Bexpr.Props.C09.Evaluator_evaluate_no_panic
#print axioms Bexpr.Props.C09.execute_nil
#print axioms Bexpr.Props.C09.execute_no_panic
