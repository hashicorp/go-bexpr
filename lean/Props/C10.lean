/-
  Property C10 (parser part): for every byte string, `grammar.Parse` / `CreateEvaluator` /
  `CreateFilter` return without panicking; an accepted parse yields a non-nil, parser-shaped
  `Expression`; such a tree can be dumped without panicking.

  Method: the generic type checker for PEG grammars (`Bexpr.Peg.Typing`), proved sound once for
  every grammar (`Proofs.TypingSound`), is *evaluated by the kernel* on the regenerated tables of
  the real grammar (`bexpr_grammar_typechecks`).  Editing a rule or an action in /repo changes
  `BexprGen.GoGrammar` / `BexprGen.GoActions`, and this obligation is re-checked.

  `parse_never_aborts` is unconditional: the model's fuel artefact (`.fuelOut`, reported by `run`
  as a `.panic "fuel"` entry) is proved unreachable in the same induction.

  Everything here is about the regenerated `goEnv` / `goGrammar`; `Ties/PinnedGrammar.lean` is
  the bridge to the theorems about `pinEnv` / `pinGrammar`.
-/
import Bexpr.Driver
import Bexpr.Eval.Dump
import Proofs.TypingSound
import Props.C20

namespace Bexpr.Props.C10
open Bexpr Bexpr.Peg Bexpr.Eval Bexpr.Driver Bexpr.Proofs.TypingSound

/-! ## The obligation on the real grammar -/

/-- The regenerated bexpr grammar and action table type-check against `bexprΓ`
    (evaluated by the kernel: `decide +kernel`, no compiler in the trusted base). -/
theorem bexpr_grammar_typechecks : typecheck goGrammar goSem bexprΓ = true := by
  decide +kernel

/-- The table read from `grammar/grammar.peg` (instead of the generated `grammar.go`) type-checks
    as well: it is the same table (C20). -/
theorem peg_grammar_typechecks : typecheck pegGrammar pegSem bexprΓ = true := by
  unfold pegGrammar pegSem
  rw [C20.peg_table_eq_go_table, C20.peg_actions_eq_go_actions]
  exact bexpr_grammar_typechecks

/-! ## Parse -/

/-- No panic entry is ever reported by `Parse`: no failed type assertion or slice-bounds panic in
    an action, no unsupported node, and no fuel exhaustion of the model. -/
theorem parse_never_aborts (max : Nat) (input : GoString) :
    ∀ e ∈ (Peg.run goEnv goGrammar max input).errs, ∀ msg, e.kind ≠ .panic msg :=
  (run_sound bexpr_grammar_typechecks max input).1

/-- An accepted parse yields a (non-nil) expression that is parser-shaped. -/
theorem parse_ok_typed (max : Nat) (input : GoString)
    (h : (Peg.run goEnv goGrammar max input).accepted = true) :
    ∃ e, (Peg.run goEnv goGrammar max input).val = .expr e ∧ e.parserShaped = true :=
  (run_sound bexpr_grammar_typechecks max input).2 h

/-! ## CreateEvaluator / CreateFilter -/

/-- `CreateEvaluator` by cases on the parse: a rejected input gives an error; an accepted one gives
    the evaluator over the parsed tree, which is parser-shaped, with the fields of the options.
    The unrecovered assertion `ast.(grammar.Expression)` never fires. -/
theorem create_spec (expr : GoString) (opts : List Opt) :
    ((Peg.run goEnv goGrammar (getOpts opts).maxExpressions expr).accepted = false ∧
      createEvaluator goEnv goGrammar expr opts = .err) ∨
    ∃ e, (Peg.run goEnv goGrammar (getOpts opts).maxExpressions expr).accepted = true ∧
      e.parserShaped = true ∧
      createEvaluator goEnv goGrammar expr opts =
        .ok { ast := e, tagName := (getOpts opts).tagName, hook := (getOpts opts).hook,
              unknown := (getOpts opts).unknown, expression := expr } := by
  unfold createEvaluator
  cases hacc : (Peg.run goEnv goGrammar (getOpts opts).maxExpressions expr).accepted with
  | false => exact Or.inl ⟨rfl, by simp [hacc]⟩
  | true =>
    obtain ⟨e, he, hp⟩ := parse_ok_typed _ _ hacc
    exact Or.inr ⟨e, rfl, hp, by simp [hacc, he]⟩

theorem create_cases (expr : GoString) (opts : List Opt) :
    createEvaluator goEnv goGrammar expr opts = .err ∨
    ∃ ev, createEvaluator goEnv goGrammar expr opts = .ok ev ∧ ev.ast.parserShaped = true := by
  rcases create_spec expr opts with ⟨_, h⟩ | ⟨e, _, hp, h⟩
  · exact Or.inl h
  · exact Or.inr ⟨_, h, hp⟩

theorem create_never_panics (expr : GoString) (opts : List Opt) :
    createEvaluator goEnv goGrammar expr opts ≠ .panic := by
  rcases create_cases expr opts with h | ⟨ev, h, _⟩ <;> rw [h] <;> simp

/-- an inclusive `∨`: with the three outcomes of `CreateOut`, again "does not panic" -/
theorem create_xor (expr : GoString) (opts : List Opt) :
    (∃ ev, createEvaluator goEnv goGrammar expr opts = .ok ev) ∨
    createEvaluator goEnv goGrammar expr opts = .err := by
  rcases create_cases expr opts with h | ⟨ev, h, _⟩
  · exact Or.inr h
  · exact Or.inl ⟨ev, h⟩

theorem create_ok_iff (expr : GoString) (opts : List Opt) :
    (∃ ev, createEvaluator goEnv goGrammar expr opts = .ok ev) ↔
    (Peg.run goEnv goGrammar (getOpts opts).maxExpressions expr).accepted = true := by
  rcases create_spec expr opts with ⟨ha, h⟩ | ⟨e, ha, _, h⟩ <;> simp [ha, h]

/-- `CreateFilter` is `CreateEvaluator` without options, except for the empty string -/
theorem createFilter_spec (expr : GoString) :
    (expr = [] ∧ createFilter goEnv goGrammar expr = .nilFilter) ∨
    (expr ≠ [] ∧ createEvaluator goEnv goGrammar expr [] = .err ∧
      createFilter goEnv goGrammar expr = .err) ∨
    ∃ ev, expr ≠ [] ∧ createEvaluator goEnv goGrammar expr [] = .ok ev ∧
      ev.ast.parserShaped = true ∧ createFilter goEnv goGrammar expr = .ok ev := by
  unfold createFilter
  cases expr with
  | nil => exact Or.inl ⟨rfl, rfl⟩
  | cons c cs =>
    rcases create_cases (c :: cs) [] with h | ⟨ev, h, hp⟩
    · exact Or.inr (Or.inl ⟨by simp, h, by simp [h]⟩)
    · exact Or.inr (Or.inr ⟨ev, by simp, h, hp, by simp [h]⟩)

theorem createFilter_never_panics (expr : GoString) :
    createFilter goEnv goGrammar expr ≠ .panic := by
  rcases createFilter_spec expr with ⟨_, h⟩ | ⟨_, _, h⟩ | ⟨ev, _, _, _, h⟩ <;> rw [h] <;> simp

theorem createFilter_nil_iff (expr : GoString) :
    createFilter goEnv goGrammar expr = .nilFilter ↔ expr = [] := by
  rcases createFilter_spec expr with ⟨rfl, h⟩ | ⟨he, _, h⟩ | ⟨ev, he, _, _, h⟩
  · simp [h]
  all_goals simp [h, he]

theorem createFilter_cases (expr : GoString) :
    createFilter goEnv goGrammar expr = .nilFilter ∨
    createFilter goEnv goGrammar expr = .err ∨
    ∃ ev, createFilter goEnv goGrammar expr = .ok ev ∧ ev.ast.parserShaped = true := by
  rcases createFilter_spec expr with ⟨_, h⟩ | ⟨_, _, h⟩ | ⟨ev, _, _, hp, h⟩
  · exact Or.inl h
  · exact Or.inr (Or.inl h)
  · exact Or.inr (Or.inr ⟨ev, h, hp⟩)

/-! ## Dump -/

/-- `ExpressionDump` does not panic (nil `Value` dereference) on a parser-shaped tree. -/
theorem dump_parserShaped (indent : GoString) :
    ∀ (e : Expr) (level : Nat), e.parserShaped = true → (Dump.dump indent e level).isSome = true := by
  intro e
  induction e with
  | not e ih | coll op sel b e ih =>
    intro level h
    obtain ⟨x, hx⟩ := Option.isSome_iff_exists.1 (ih (level + 1) h)
    simp only [Dump.dump, hx]
    rfl
  | and l r ihl ihr | or l r ihl ihr =>
    intro level h
    simp only [Expr.parserShaped, Bool.and_eq_true] at h
    obtain ⟨x, hx⟩ := Option.isSome_iff_exists.1 (ihl (level + 1) h.1)
    obtain ⟨y, hy⟩ := Option.isSome_iff_exists.1 (ihr (level + 1) h.2)
    simp only [Dump.dump, hx, hy]
    rfl
  | match_ sel op val =>
    -- an operator whose value is printed takes a value, and then the parser has set one
    intro level h
    simp only [Expr.parserShaped] at h
    simp only [Dump.dump]
    split
    · next hpv =>
      have : op.takesValue = true := by cases op <;> first | rfl | cases hpv
      rw [this] at h
      cases val with
      | none => simp at h
      | some raw => simp
    · simp

theorem create_dump_never_panics (expr : GoString) (opts : List Opt) (ev : Evaluator)
    (h : createEvaluator goEnv goGrammar expr opts = .ok ev) (indent : GoString) (level : Nat) :
    (Dump.dump indent ev.ast level).isSome = true := by
  rcases create_cases expr opts with h' | ⟨ev', h', hp⟩
  · rw [h'] at h; simp at h
  · rw [h'] at h
    simp only [CreateOut.ok.injEq] at h
    subst h
    exact dump_parserShaped indent _ level hp

/-! ## Non-vacuity: concrete parses, evaluated by the kernel -/

def valIs (v : PVal) (e : Expr) : Bool :=
  match v with
  | .expr e' => decide (e' = e)
  | _ => false

private abbrev b (x : String) : GoString := GoString.ofString x

/-- one statement, so that the kernel shares the rule lookups between the three runs -/
theorem runs :
    ((Peg.run goEnv goGrammar 0 (b "foo == 3")).accepted = true ∧
      valIs (Peg.run goEnv goGrammar 0 (b "foo == 3")).val
        (.match_ { ty := .bexpr, path := [b "foo"] } .equal (some (b "3"))) = true) ∧
    ((Peg.run goEnv goGrammar 0
        (b "not a.b[\"c\"] matches `x+` or all \"/p/q\" as k, _ { k is empty }")).accepted = true ∧
      valIs (Peg.run goEnv goGrammar 0
        (b "not a.b[\"c\"] matches `x+` or all \"/p/q\" as k, _ { k is empty }")).val
        (.or
          (.not (.match_ { ty := .bexpr, path := [b "a", b "b", b "c"] } .matches (some (b "x+"))))
          (.coll .all { ty := .jsonPointer, path := [b "p", b "q"] }
            { mode := .index, index := b "k" }
            (.match_ { ty := .bexpr, path := [b "k"] } .isEmpty none))) = true) ∧
    (Peg.run goEnv goGrammar 0 (b "foo ==")).accepted = false := by
  decide +kernel

/-- `foo == 3` is accepted (unlimited budget) and yields the expected tree -/
example :
    (Peg.run goEnv goGrammar 0 (b "foo == 3")).accepted = true ∧
    valIs (Peg.run goEnv goGrammar 0 (b "foo == 3")).val
      (.match_ { ty := .bexpr, path := [b "foo"] } .equal (some (b "3"))) = true :=
  runs.1

/-- a larger input exercising `not`, `or`, index expressions, raw strings, JSON pointers,
    collection expressions and a value-less operator -/
example :
    (Peg.run goEnv goGrammar 0
      (b "not a.b[\"c\"] matches `x+` or all \"/p/q\" as k, _ { k is empty }")).accepted = true ∧
    valIs (Peg.run goEnv goGrammar 0
      (b "not a.b[\"c\"] matches `x+` or all \"/p/q\" as k, _ { k is empty }")).val
      (.or
        (.not (.match_ { ty := .bexpr, path := [b "a", b "b", b "c"] } .matches (some (b "x+"))))
        (.coll .all { ty := .jsonPointer, path := [b "p", b "q"] }
          { mode := .index, index := b "k" }
          (.match_ { ty := .bexpr, path := [b "k"] } .isEmpty none))) = true :=
  runs.2.1

/-- a syntax error is rejected (and, by `parse_never_aborts`, without a panic) -/
example : (Peg.run goEnv goGrammar 0 (b "foo ==")).accepted = false :=
  runs.2.2

/-! ## Non-vacuity of the checker: it rejects broken grammars / action tables -/

def replaceRule (g : Grammar) (r : Rule) : Grammar :=
  g.map fun x => if x.name == r.name then r else x

def replaceSem (t : List (String × ActionSem)) (n : String) (sem : ActionSem) :
    List (String × ActionSem) :=
  t.map fun x => if x.1 == n then (n, sem) else x

/-- a rule named `n` fails `checkRule` in the context of `g` and `sems` -/
def ruleFails (g : Grammar) (sems : List (String × ActionSem)) (n : String) : Bool :=
  !(g.filter (·.name == n)).all (checkRule (ctxOf g sems bexprΓ))

theorem typecheck_eq_false {g : Grammar} {sems : List (String × ActionSem)} {n : String}
    (h : ruleFails g sems n = true) : typecheck g sems bexprΓ = false := by
  have hall : g.all (checkRule (ctxOf g sems bexprΓ)) = false := by
    rw [ruleFails, Bool.not_eq_true', ← Bool.not_eq_true, List.all_eq_true] at h
    rw [← Bool.not_eq_true, List.all_eq_true]
    exact fun hg => h fun r hr => hg r (List.mem_filter.1 hr).1
  simp only [typecheck, hall, Bool.false_and]

/-- `OrExpression`, alternative 1, with `right` bound to a `Selector`:
    `right.(Expression)` would panic -/
def badOr : Rule := {
  name := "OrExpression", displayName := "",
  expr := PExpr.choice [
    .action "onOrExpression2" (.seq [
      .labeled "left" (.ruleRef "AndExpression"), .ruleRef "_", .lit [111, 114] false, .ruleRef "_",
      .labeled "right" (.ruleRef "Selector")]),
    .action "onOrExpression11" (.labeled "expr" (.ruleRef "AndExpression")),
    .action "onOrExpression14" (.labeled "expr" (.ruleRef "CollectionExpression"))] }

/-- `MatchSelectorOp` (whose action builds a node with `Value: nil`) over a value-taking
    operator group: the tree would not be parser-shaped (nil dereference in the evaluator) -/
def badMatchSelectorOp : Rule := {
  name := "MatchSelectorOp", displayName := "\"match\"",
  expr := PExpr.action "onMatchSelectorOp1" (.seq [
    .labeled "selector" (.ruleRef "Selector"),
    .labeled "operator" (.choice [.ruleRef "MatchEqual", .ruleRef "MatchNotEqual"])]) }

/-- `JsonPointerSegment` whose expression can match the empty string:
    `string(c.text)[1:]` would panic -/
def badJsonPointerSegment : Rule := {
  name := "JsonPointerSegment", displayName := "",
  expr := PExpr.action "onJsonPointerSegment1" (.seq [
    .zeroOrOne (.lit [47] false),
    .labeled "ident" (.zeroOrMore
      (.charClass [45, 95, 46, 126, 58, 124] [] ["L", "N"] false false))]) }

/-- one statement for the six broken tables: they share the context of the unbroken rest -/
theorem broken_rule_fails :
    ruleFails (replaceRule goGrammar badOr) goSem "OrExpression" ∧
    ruleFails (replaceRule goGrammar badMatchSelectorOp) goSem "MatchSelectorOp" ∧
    ruleFails (replaceRule goGrammar badJsonPointerSegment) goSem "JsonPointerSegment" ∧
    ruleFails goGrammar (replaceSem goSem "onMatchIsEmpty1" (.constMatchOp .equal)) "MatchIsEmpty" ∧
    ruleFails goGrammar (replaceSem goSem "onValue2" .unknown) "Value" ∧
    ruleFails (replaceRule goGrammar
      { name := "EOF", displayName := "", expr := .unsupported "throw" }) goSem "EOF" := by
  decide +kernel

example : typecheck (replaceRule goGrammar badOr) goSem bexprΓ = false :=
  typecheck_eq_false broken_rule_fails.1

example : typecheck (replaceRule goGrammar badMatchSelectorOp) goSem bexprΓ = false :=
  typecheck_eq_false broken_rule_fails.2.1

example : typecheck (replaceRule goGrammar badJsonPointerSegment) goSem bexprΓ = false :=
  typecheck_eq_false broken_rule_fails.2.2.1

/-- `MatchIsEmpty` returning a value-taking operator constant -/
example : typecheck goGrammar (replaceSem goSem "onMatchIsEmpty1" (.constMatchOp .equal)) bexprΓ
    = false :=
  typecheck_eq_false broken_rule_fails.2.2.2.1

/-- an action whose code is not recognised -/
example : typecheck goGrammar (replaceSem goSem "onValue2" .unknown) bexprΓ = false :=
  typecheck_eq_false broken_rule_fails.2.2.2.2.1

/-- an unsupported node (throw / recovery / state code) anywhere in the grammar -/
example : typecheck (replaceRule goGrammar
    { name := "EOF", displayName := "", expr := .unsupported "throw" }) goSem bexprΓ = false :=
  typecheck_eq_false broken_rule_fails.2.2.2.2.2

end Bexpr.Props.C10

#print axioms Bexpr.Props.C10.bexpr_grammar_typechecks
#print axioms Bexpr.Props.C10.peg_grammar_typechecks
#print axioms Bexpr.Props.C10.parse_never_aborts
#print axioms Bexpr.Props.C10.parse_ok_typed
#print axioms Bexpr.Props.C10.create_cases
#print axioms Bexpr.Props.C10.create_never_panics
#print axioms Bexpr.Props.C10.create_xor
#print axioms Bexpr.Props.C10.create_ok_iff
#print axioms Bexpr.Props.C10.createFilter_never_panics
#print axioms Bexpr.Props.C10.createFilter_nil_iff
#print axioms Bexpr.Props.C10.createFilter_cases
#print axioms Bexpr.Props.C10.dump_parserShaped
#print axioms Bexpr.Props.C10.create_dump_never_panics
#print axioms Bexpr.Proofs.TypingSound.eval_sound
#print axioms Bexpr.Proofs.TypingSound.eval_typed
#print axioms Bexpr.Proofs.TypingSound.run_sound
