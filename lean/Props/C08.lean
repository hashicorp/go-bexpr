/-
  C08: "Fields tagged "-" under the evaluator's tag name and unexported fields are unobservable:
  two data that differ only in the contents of such fields produce identical Evaluate outcomes
  and identical Filter selections; a selector that names such a field never resolves to its
  content."

  `HiddenEq tag strict d d'` (Proofs/HiddenRel.lean): `d` and `d'` differ only inside struct
  fields hidden under `tag` (`strict = true` additionally asks the first field of `main.Wrap`
  structs to be visible, needed for the harness' `unwrap` hook only).  The two-run theorems are
  instances of the generic theorems of Proofs/Relational.lean.  `ReflOk tag strict (anyWrapOk … u)`
  is the side condition of reflexivity on a value `u` (nothing unless `strict`).

  The selector statements are about `getStruct`: it fails.  What `getValue` makes of the failure
  (an error, or the configured unknown value for "not found") is not composed here.
-/
import Proofs.HiddenRel

namespace Bexpr.Props.C08
open Bexpr Bexpr.Go Bexpr.Eval Bexpr.Proofs.Rel Bexpr.Proofs.HiddenRel
open Bexpr.Proofs.Keys (fieldAct fieldAct_spec hits)

/-- General form: the two runs may also use options whose unknown value / bound locals differ
    inside hidden fields. -/
theorem noninterference_opts (re : RegexOracle) (e : Expr) (tag : GoString) (strict : Bool)
    (cfg : Config) (ht : cfg.tagName = tag) (hh : cfg.hook = .unwrap → strict = true)
    {o o' : Opts} {d d' : Any} (hd : AnyRel (HiddenEq tag strict) d d')
    (ho : OptsRel (HiddenEq tag strict) cfg o o') :
    evaluate re e o d = evaluate re e o' d' :=
  evaluate_rel (hiddenEq_hyps cfg ht hh) re hd e ho

/-- **C08, Evaluate**: data that differ only in hidden fields (under the evaluator's tag name)
    give the same outcome.  `OptsOk` is `True` for `strict = false`. -/
theorem noninterference (re : RegexOracle) (e : Expr) (o : Opts) (tag : GoString) (strict : Bool)
    {d d' : Any} (hd : AnyRel (HiddenEq tag strict) d d') (ht : o.tagName = tag)
    (hh : o.hook = .unwrap → strict = true) (ho : OptsOk tag strict o) :
    evaluate re e o d = evaluate re e o d' :=
  noninterference_opts re e tag strict o.cfg ht hh hd (optsRel_refl ho)

/-- every hook except `unwrap`: no side condition at all -/
theorem noninterference_plain (re : RegexOracle) (e : Expr) (o : Opts) {d d' : Any}
    (hd : AnyRel (HiddenEq o.tagName false) d d') (hh : o.hook ≠ .unwrap) :
    evaluate re e o d = evaluate re e o d' :=
  noninterference re e o o.tagName false hd rfl (fun h => absurd h hh) (optsOk_false _ o)

theorem evRel_refl (ev : Evaluator) (tag : GoString) (strict : Bool) (ht : ev.tagName = tag)
    (hu : ∀ u, ev.unknown = some u → ReflOk tag strict (anyWrapOk (tagNameOf tag) u)) :
    EvRel (HiddenEq tag strict) { tagName := tag, hook := ev.hook } ev ev := by
  subst ht
  exact .refl ev fun u h => anyRel_refl _ strict (hu u h)

/-- **C08, Execute**: filtering two containers that differ only inside hidden fields fails
    identically, or keeps the elements / entries at the same positions (`pick m` of the two
    element / entry lists for one and the same mask `m`; map entries carry the same keys). -/
theorem filter_noninterference (re : RegexOracle) (ev : Evaluator) (tag : GoString) (strict : Bool)
    {d d' : Any} (hd : AnyRel (HiddenEq tag strict) d d') (ht : ev.tagName = tag)
    (hh : ev.hook = .unwrap → strict = true)
    (hu : ∀ u, ev.unknown = some u → ReflOk tag strict (anyWrapOk (tagNameOf tag) u)) :
    ExecRelOrd (HiddenEq tag strict) (execute re (some ev) d) (execute re (some ev) d') := by
  refine execute_rel_ordered (hiddenEq_hyps { tagName := tag, hook := ev.hook } rfl hh) re
    (evRel_refl ev tag strict ht hu) hd ?_
  intro n kt vt nl es es' h1 h2
  subst h1 h2
  cases hd with
  | some h => cases h with
    | map _ _ _ _ he => exact he

/-- readable corollary: the same failure, or two results that again differ only inside hidden
    fields -/
theorem filter_noninterference' (re : RegexOracle) (ev : Evaluator) (tag : GoString)
    (strict : Bool) {d d' : Any} (hd : AnyRel (HiddenEq tag strict) d d') (ht : ev.tagName = tag)
    (hh : ev.hook = .unwrap → strict = true)
    (hu : ∀ u, ev.unknown = some u → ReflOk tag strict (anyWrapOk (tagNameOf tag) u)) :
    ((execute re (some ev) d).failed = true ∧ execute re (some ev) d = execute re (some ev) d') ∨
    ∃ r r', execute re (some ev) d = .ok r ∧ execute re (some ev) d' = .ok r' ∧
      AnyRel (HiddenEq tag strict) r r' := by
  have hx := filter_noninterference re ev tag strict hd ht hh hu
  generalize execute re (some ev) d = r at hx
  generalize execute re (some ev) d' = r' at hx
  cases hx with
  | failed a h => exact .inl ⟨h, rfl⟩
  | list n e m hl => exact .inr ⟨_, _, rfl, rfl, .some (.slice n e false (pick_rel hl m))⟩
  | map n kt vt m he => exact .inr ⟨_, _, rfl, rfl, .some (.map n kt vt false (pick_ent he m))⟩

theorem filter_nil (re : RegexOracle) (d : Any) : execute re none d = .ok d := rfl

/-! ## A selector never resolves to a hidden field -/

/-- **C08, selectors**: if every field the selector part names (by tag, else by Go name) is
    hidden, `getStruct` fails — with "not found", "is ignored" or the '|' error — and never
    returns a value. -/
theorem hidden_never_resolves (cfg : Config) (part : GoString) (fs : List (Field × GoVal))
    (h : ∀ e ∈ fs, names (effTag cfg) part e.1 → hiddenIn (effTag cfg) e.1 = true) :
    getStruct cfg part fs = .error .notFound ∨ getStruct cfg part fs = .error .ignored ∨
    getStruct cfg part fs = .error .tagBar := by
  rw [getStruct_eq]
  refine structLoop_no_hit _ _ fs (fun e he hhit => ?_) false false (fun h => by cases h)
  rcases fieldAct_hidden (h e he (fieldAct_hit_names hhit)) part with ha | ha <;>
    rw [hits, ha] at hhit <;> rcases hhit with h | h <;> cases h

/-- the form of the property text: a hidden field selected by its Go name, no other field
    named by that part -/
theorem hidden_field_by_goName (cfg : Config) (pre post : List (Field × GoVal)) (f : Field)
    (v : GoVal) (hf : hiddenIn (effTag cfg) f = true)
    (hothers : ∀ e ∈ pre ++ post, ¬ names (effTag cfg) f.goName e.1) :
    ∃ err, getStruct cfg f.goName (pre ++ (f, v) :: post) = .error err := by
  have := hidden_never_resolves cfg f.goName (pre ++ (f, v) :: post) (by
    intro e he hn
    simp only [List.mem_append, List.mem_cons] at he
    rcases he with he | rfl | he
    · exact absurd hn (hothers e (by simp [he]))
    · exact hf
    · exact absurd hn (hothers e (by simp [he])))
  rcases this with h | h | h <;> exact ⟨_, h⟩

/-- **C08, renaming**: a field whose tag head is non-empty, not "-", and differs from its Go
    name is not found under its Go name, unless another field is named by it (the '|' error is the
    only other outcome). -/
theorem renamed_only_by_tag (cfg : Config) (fs : List (Field × GoVal)) (f : Field)
    (hne : (f.tag (effTag cfg)).isEmpty = false)
    (hdash : tagHead (f.tag (effTag cfg)) ≠ GoString.ofString "-")
    (ht : tagHead (f.tag (effTag cfg)) ≠ f.goName)
    (hothers : ∀ e ∈ fs, e.1 ≠ f → e.1.goName ≠ f.goName ∧ ¬ names (effTag cfg) f.goName e.1) :
    getStruct cfg f.goName fs = .error .notFound ∨ getStruct cfg f.goName fs = .error .tagBar := by
  rw [getStruct_eq]
  refine structLoop_all_skip _ _ fs ?_
  intro e he
  have hs := fieldAct_spec (effTag cfg) f.goName e.1
  have hnot : ¬ hits (effTag cfg) f.goName e.1 := by
    intro hhit
    by_cases hef : e.1 = f
    · rcases hhit with h | h <;> rw [h, hef] at hs
      · exact ht hs.2.2.2
      · rw [hne] at hs; cases hs.2.1
    · exact (hothers e he hef).2 (fieldAct_hit_names hhit)
  cases ha : fieldAct (effTag cfg) f.goName e.1 with
  | skip => exact .inl rfl
  | bar => exact .inr rfl
  | tagHit => exact absurd (.inl ha) hnot
  | nameHit => exact absurd (.inr ha) hnot
  | ignore =>
    -- a "-" tag on a field whose Go name is the part: it is not `f`, and Go names are unique
    rw [ha] at hs
    by_cases hef : e.1 = f
    · rw [hef] at hs; exact absurd hs.2.1 hdash
    · exact absurd hs.2.2 (hothers e he hef).1

/-! ## Non-vacuity: a struct with an unexported field and a "-" field

  `type T struct { A int; b string; C string `bexpr:"-"`; D int `bexpr:"dd"` }` -/
section Examples

def bexprTag : GoString := [98, 101, 120, 112, 114]
def fA : Field := { goName := [65], exported := true, tags := [] }
def fb : Field := { goName := [98], exported := false, tags := [] }
def fC : Field := { goName := [67], exported := true, tags := [(bexprTag, [45])] }
def fD : Field := { goName := [68], exported := true, tags := [(bexprTag, [100, 100])] }
def fieldsT (s1 s2 : GoString) : List (Field × GoVal) :=
  [(fA, .int .int "" 1), (fb, .str "" s1), (fC, .str "" s2), (fD, .int .int "" 4)]
def d1 : Any := some (.struct "main.T" (fieldsT [115] [116]))
def d2 : Any := some (.struct "main.T" (fieldsT [117] [118]))
def cfg0 : Config := { tagName := bexprTag, hook := .off }
def o0 : Opts := { tagName := bexprTag, hook := .off, unknown := none, locals := [] }

theorem hidden_fb : hiddenIn (tagNameOf bexprTag) fb = true := by
  simp [hiddenIn, fb]
theorem hidden_fC : hiddenIn (tagNameOf bexprTag) fC = true := by
  with_unfolding_all rfl

theorem d1_hidden_d2 : AnyRel (HiddenEq bexprTag false) d1 d2 :=
  .some (.struct _
    (.visible (.int _ _ _) (.hidden hidden_fb (.hidden hidden_fC (.visible (.int _ _ _) .nil))))
    (fun h => by cases h))

theorem d1_ne_d2 : d1 ≠ d2 := by simp [d1, d2, fieldsT]

example (re : RegexOracle) (e : Expr) : evaluate re e o0 d1 = evaluate re e o0 d2 :=
  noninterference_plain re e o0 d1_hidden_d2 (by simp [o0])

/-- selecting the unexported field: not found; the "-" field: ignored; the renamed field under
    its Go name: not found, under its tag: found; the plain field: found -/
example (s1 s2) : getStruct cfg0 [98] (fieldsT s1 s2) = .error .notFound := by
  with_unfolding_all rfl
example (s1 s2) : getStruct cfg0 [67] (fieldsT s1 s2) = .error .ignored := by
  with_unfolding_all rfl
example (s1 s2) : getStruct cfg0 [68] (fieldsT s1 s2) = .error .notFound := by
  with_unfolding_all rfl
example (s1 s2) : getStruct cfg0 [100, 100] (fieldsT s1 s2) = .ok (some (.int .int "" 4)) := by
  with_unfolding_all rfl
example (s1 s2) : getStruct cfg0 [65] (fieldsT s1 s2) = .ok (some (.int .int "" 1)) := by
  with_unfolding_all rfl

example (s1 s2) : ∀ e ∈ fieldsT s1 s2, names (effTag cfg0) [98] e.1 →
    hiddenIn (effTag cfg0) e.1 = true := by
  intro e he
  simp only [fieldsT, List.mem_cons, List.not_mem_nil, or_false] at he
  rcases he with rfl | rfl | rfl | rfl <;> simp only [names] <;> with_unfolding_all decide
example (s1 s2) : ∀ e ∈ fieldsT s1 s2, names (effTag cfg0) [67] e.1 →
    hiddenIn (effTag cfg0) e.1 = true := by
  intro e he
  simp only [fieldsT, List.mem_cons, List.not_mem_nil, or_false] at he
  rcases he with rfl | rfl | rfl | rfl <;> simp only [names] <;> with_unfolding_all decide

/-- why `unwrap` needs `strict`: the harness hook hands out the first field of a `main.Wrap`
    struct whatever its visibility (here the unexported `b`) -/
example (s : GoString) :
    Hook.unwrap.apply (.struct "main.Wrap" [(fb, .str "" s)]) = some (.str "" s) := rfl

end Examples

end Bexpr.Props.C08

#print axioms Bexpr.Props.C08.noninterference_opts
#print axioms Bexpr.Props.C08.noninterference
#print axioms Bexpr.Props.C08.noninterference_plain
#print axioms Bexpr.Props.C08.filter_noninterference
#print axioms Bexpr.Props.C08.filter_noninterference'
#print axioms Bexpr.Props.C08.hidden_never_resolves
#print axioms Bexpr.Props.C08.hidden_field_by_goName
#print axioms Bexpr.Props.C08.renamed_only_by_tag
