/-
  C01 — Evaluate returns what an independent interpreter of the documented semantics assigns.

  `Eval.Spec.denote` (Bexpr/Eval/Spec.lean) is the reference interpreter: lexical environment
  binding names to element VALUES, one walk per selector, per-operator tables, left-to-right
  folds.  `impl_refines_spec`: on well-formed data `Eval.evaluate` — which instead binds names to
  PATHS that are rewritten and looked up again from the root, and decides "absent" by a second
  walk — returns exactly the outcome `denote` assigns, for every expression (all operators, all
  binding modes, any nesting), under the hypotheses listed at `Hyps` / `wellBound`.  Three of the
  excluded points (`Hyps.unknown`, `Hyps.hook`, `oneAlias`) are shown to be real differences at
  the end; `Hyps.wf`, `Hyps.short` and the non-empty selector have no counterexample here.
-/
import Bexpr.Eval.Spec
import Bexpr.Eval.RefCheck
import Proofs.SpecLemmas
import Props.C06

namespace Bexpr.Props.C01
open Bexpr Bexpr.Eval Bexpr.Go Bexpr.Proofs Bexpr.Proofs.SpecLemmas

variable (re : RegexOracle) (d : Any)

/-- The code's option record `o` (local variables = aliases by PATH, oldest first) against the
    specification's environment (bindings by VALUE, innermost first): same configuration and
    datum; key/index bindings hold the same value; the path of every alias binding resolves —
    through the OLDER bindings, then from the root — to the value the environment holds. -/
structure EnvRel (o : Opts) (env : Spec.Env) : Prop where
  cfg : env.cfg = o.cfg
  unknown : env.unknown = o.unknown
  root : env.root = d
  locals : LocalsRel o.cfg d o.locals.reverse env.vars

/-- the environment of a top-level evaluation (no local variables) -/
def envOf (o : Opts) : Spec.Env := Spec.Env.top o.tagName o.hook o.unknown d

theorem envRel_top (o : Opts) (h : o.locals = []) : EnvRel d o (envOf d o) :=
  ⟨rfl, rfl, rfl, by rw [h]; exact LocalsRel.nil⟩

/-- Hypotheses on the configuration and the datum.
     * `wf`: the datum is a value Go's type system can build (`Go.Any.wf`).
     * `hook`: no value-transformation hook, or the identity.  (Other hooks are applied by
       `Get` at every step of the re-walked alias path; the element a quantifier iterates is then
       not the element its alias selects.)
     * `unknown`: the unknown value, if configured, is not itself iterable — see
       `unknown_collection_differs` for the excluded point.
     * `short`: lists reachable by a selector have at most 2^63 elements, so that every index is
       an `int64` (`strconv.Itoa` / `ParseInt` round trip).  True of every Go value. -/
structure Hyps (cfg : Config) (unknown : Option Any) : Prop where
  wf : Any.wf d = true
  hook : plainHook cfg.hook
  unknown : ∀ u, unknown = some u → ¬ C06.Iterable u
  short : ∀ p v xs, get cfg p d = .ok v → C06.IsList v xs → xs.length ≤ 2 ^ 63

/-- Hypothesis on the expression: every quantifier's collection selector has at least one part,
    and its binding record pushes at most one alias (true of parser-built records, which set the
    names of their mode only). -/
def wellBound : Expr → Bool
  | .not e => wellBound e
  | .and l r => wellBound l && wellBound r
  | .or l r => wellBound l && wellBound r
  | .match_ .. => true
  | .coll _ sel b inner => !sel.path.isEmpty && C06.oneAlias b && wellBound inner

/-- no `any`/`all` inside -/
def quantFree : Expr → Bool
  | .not e => quantFree e
  | .and l r => quantFree l && quantFree r
  | .or l r => quantFree l && quantFree r
  | .match_ .. => true
  | .coll .. => false

theorem wellBound_of_quantFree (e : Expr) (h : quantFree e = true) : wellBound e = true := by
  induction e with
  | not e ih => exact ih h
  | and l r ihl ihr | or l r ihl ihr =>
    simp only [quantFree, Bool.and_eq_true] at h
    simp only [wellBound, ihl h.1, ihr h.2, Bool.and_self]
  | match_ => rfl
  | coll => cases h

/-- selector resolution: `getValue` (scan, rewrite, `Get` from the root, second walk for the
    parent test) is `Spec.select` (lookup, one walk from the bound value) -/
theorem getValue_eq_select (o : Opts) (env : Spec.Env) (h : EnvRel d o env)
    (path : List GoString) : getValue o d path = Spec.select env path := by
  rw [getValue_eq_finish, finish_eq_select o.cfg o.unknown d _ env.vars h.locals path]
  obtain ⟨c, u, r, vs⟩ := env
  obtain ⟨h1, h2, h3, _⟩ := h
  simp only at h1 h2 h3
  subst h1 h2 h3
  rfl

/-! ## Entering the braces -/

theorem alias_rel (o : Opts) (env : Spec.Env) (hrel : EnvRel d o env)
    (hy : Hyps d o.cfg o.unknown) (sel : Selector) (hsel : sel.path ≠ []) (v : Any)
    (hit : C06.Iterable v) (hv : getValue o d sel.path = .present v) (x last : GoString)
    (val : Any) (hget : get o.cfg [last] v = .ok val) :
    LocalsRel o.cfg d ({ name := x, path := sel.path ++ [last], value := none } :: o.locals.reverse)
      ((x, .elem val) :: env.vars) := by
  rw [getValue_eq_finish] at hv
  obtain ⟨full, hres, hfull⟩ :=
    present_iterable_inv o.cfg o.unknown d _ env.vars hrel.locals sel.path v hv hit hy.unknown
  refine LocalsRel.elem x _ none (full ++ [last]) val hrel.locals (by simp)
    (resolveLocals_append_path _ _ _ _ hsel hres).1 ?_
  rw [get_append, hfull]
  exact hget

theorem not_iterable_int (i : Int) : ¬ C06.Iterable (some (.int .int "" i)) := by
  simp [C06.Iterable]
theorem not_iterable_str (k : GoString) : ¬ C06.Iterable (some (.str "" k)) := by
  simp [C06.Iterable]

theorem envRel_list (o : Opts) (env : Spec.Env) (hrel : EnvRel d o env)
    (hy : Hyps d o.cfg o.unknown) (sel : Selector) (b : Binding) (hsel : sel.path ≠ [])
    (hone : C06.oneAlias b = true) (v : Any) (xs : List GoVal) (hl : C06.IsList v xs)
    (hv : getValue o d sel.path = .present v) (i : Nat) (hi : i < xs.length) :
    EnvRel d { o with locals := o.locals ++ listBindings sel b i }
      (env.push (Spec.bindItem b false { pos := .int .int "" i, val := elemAt xs i })) := by
  have hit : C06.Iterable v := by
    rcases hl with ⟨n, e, nl, rfl⟩ | ⟨e, rfl⟩ <;> simp [C06.Iterable]
  have h63 : i < 2 ^ 63 := by
    rw [getValue_eq_finish] at hv
    obtain ⟨full, _, hfull⟩ :=
      present_iterable_inv o.cfg o.unknown d _ env.vars hrel.locals sel.path v hv hit hy.unknown
    have := hy.short full v xs hfull hl
    omega
  have hal : ∀ x, LocalsRel o.cfg d
      ({ name := x, path := sel.path ++ [GoString.natToDec i], value := none } :: o.locals.reverse)
      ((x, .elem (elemAt xs i)) :: env.vars) := fun x =>
    alias_rel d o env hrel hy sel hsel v hit hv x _ _ (get_index o.cfg hy.hook v xs hl i hi h63)
  refine ⟨hrel.cfg, hrel.unknown, hrel.root, ?_⟩
  show LocalsRel o.cfg d (o.locals ++ listBindings sel b i).reverse
    (Spec.bindItem b false _ ++ env.vars)
  -- newest first on both sides: the index name, the value name, the one-name form
  simp only [listBindings, Spec.bindItem, List.reverse_append, List.append_assoc,
    Bool.false_eq_true, if_false]
  refine .pushIf _ _ _ ?hV fun _ => .key _ _ ?hV (not_iterable_int _)
  refine .pushIf _ _ _ (.pushIf _ _ _ hrel.locals fun _ => hal _) fun hv => ?_
  -- at most one alias: the value name is set, so the one-name form is not, and the alias of the
  -- value name is resolved through the outer bindings only
  have hd : b.default.isEmpty = true := by simpa [C06.oneAlias, hv] using hone
  simp only [hd]
  exact hal _

theorem envRel_map (o : Opts) (env : Spec.Env) (hrel : EnvRel d o env)
    (hy : Hyps d o.cfg o.unknown) (sel : Selector) (b : Binding) (hsel : sel.path ≠ [])
    (n : String) (vt : GoType) (nl : Bool) (es : List (GoVal × GoVal))
    (hv : getValue o d sel.path = .present (some (.map n GoType.stringT vt nl es)))
    (k : GoString) (hk : k ∈ sortKeys (es.map fun e => strKey e.1)) :
    EnvRel d { o with locals := o.locals ++ mapBindings sel b k }
      (env.push (Spec.bindItem b true { pos := .str "" k, val := Spec.entry es k })) := by
  have hit : C06.Iterable (some (.map n GoType.stringT vt nl es)) := by simp [C06.Iterable]
  have hwf : Any.wf (some (.map n GoType.stringT vt nl es)) = true := by
    have hv' := hv
    rw [getValue_eq_finish] at hv'
    obtain ⟨full, _, hfull⟩ :=
      present_iterable_inv o.cfg o.unknown d _ env.vars hrel.locals sel.path _ hv' hit hy.unknown
    exact Total.get_wf _ _ _ _ hy.wf hfull
  have hal : ∀ x, LocalsRel o.cfg d
      ({ name := x, path := sel.path ++ [k], value := none } :: o.locals.reverse)
      ((x, .elem (Spec.entry es k)) :: env.vars) := fun x =>
    alias_rel d o env hrel hy sel hsel _ hit hv x _ _
      (get_key o.cfg hy.hook n vt nl es k (key_found n vt nl es hwf k hk))
  refine ⟨hrel.cfg, hrel.unknown, hrel.root, ?_⟩
  show LocalsRel o.cfg d (o.locals ++ mapBindings sel b k).reverse
    (Spec.bindItem b true _ ++ env.vars)
  -- newest first on both sides: the index name and the one-name form (the key), the value name
  simp only [mapBindings, Spec.bindItem, List.reverse_append, List.append_assoc, if_true]
  refine .pushIf _ _ _ ?hD fun _ => .key _ _ ?hD (not_iterable_str _)
  refine .pushIf _ _ _ ?hV fun _ => .key _ _ ?hV (not_iterable_str _)
  exact .pushIf _ _ _ hrel.locals fun _ => hal _

/-! ## The refinement -/

/-- the item the specification iterates where the loop of the code stands at `ix` -/
def itemAt (v : Any) : Nat ⊕ GoString → Spec.Item
  | .inl i =>
    { pos := .int .int "" i
      val := match v with
        | some (.slice _ _ _ xs) | some (.array _ xs) => elemAt xs i
        | _ => none }
  | .inr k =>
    { pos := .str "" k
      val := match v with
        | some (.map _ _ _ _ es) => Spec.entry es k
        | _ => none }

def isMapV : Any → Bool
  | some (.map ..) => true
  | _ => false

theorem items_eq (v : Any) :
    Spec.items v = (C06.collIndices v).map fun idx => (isMapV v, idx.map (itemAt v)) := by
  cases v with
  | none => rfl
  | some w =>
    cases w with
    | slice n e nl xs =>
      simp [Spec.items, C06.collIndices, isMapV, listItems_eq, itemAt, Function.comp_def]
    | array e xs =>
      simp [Spec.items, C06.collIndices, isMapV, listItems_eq, itemAt, Function.comp_def]
    | map n kt vt nl es =>
      by_cases hk : kt = GoType.stringT <;>
        simp [Spec.items, C06.collIndices, hk, isMapV, itemAt, Function.comp_def]
    | _ => rfl

theorem envRel_elem (o : Opts) (env : Spec.Env) (hrel : EnvRel d o env)
    (hy : Hyps d o.cfg o.unknown) (sel : Selector) (b : Binding) (hsel : sel.path ≠ [])
    (hone : C06.oneAlias b = true) (v : Any) (idx : List (Nat ⊕ GoString))
    (hv : getValue o d sel.path = .present v) (hi : C06.collIndices v = some idx)
    (ix : Nat ⊕ GoString) (hix : ix ∈ idx) :
    EnvRel d { o with locals := o.locals ++ C06.elemBindings sel b ix }
      (env.push (Spec.bindItem b (isMapV v) (itemAt v ix))) := by
  cases v with
  | none => cases hi
  | some w =>
    cases w with
    | slice n e nl xs =>
      cases hi
      obtain ⟨i, hi', rfl⟩ := List.mem_map.mp hix
      exact envRel_list d o env hrel hy sel b hsel hone _ xs (.inl ⟨n, e, nl, rfl⟩) hv i
        (List.mem_range.mp hi')
    | array e xs =>
      cases hi
      obtain ⟨i, hi', rfl⟩ := List.mem_map.mp hix
      exact envRel_list d o env hrel hy sel b hsel hone _ xs (.inr ⟨e, rfl⟩) hv i
        (List.mem_range.mp hi')
    | map n kt vt nl es =>
      by_cases hk : kt = GoType.stringT
      · subst hk
        rw [C06.collIndices, if_pos rfl] at hi
        cases hi
        obtain ⟨k, hk', rfl⟩ := List.mem_map.mp hix
        exact envRel_map d o env hrel hy sel b hsel n vt nl es hv k hk'
      · simp [C06.collIndices, hk] at hi
    | _ => cases hi

theorem sameName_cond (b : Binding) (e : Bool) :
    (b.mode == .indexAndValue && b.index == b.value && e) =
      (decide (C06.sameName b) && e) := by
  by_cases h : C06.sameName b
  · obtain ⟨h1, h2⟩ := h
    simp [C06.sameName, h1, h2]
  · have hc : (b.mode == .indexAndValue && b.index == b.value) = false := by
      cases hc : (b.mode == .indexAndValue && b.index == b.value)
      · rfl
      · exfalso; apply h; simpa [C06.sameName] using hc
    simp [h, hc]

/-- The refinement in every scope (`o.locals` arbitrary, related to the environment by `EnvRel`).
    The hypotheses on the datum and the configuration are used at the quantifiers only. -/
theorem evaluate_eq_denote (e : Expr) : ∀ (o : Opts) (env : Spec.Env),
    wellBound e = true → (quantFree e = false → Hyps d o.cfg o.unknown) → EnvRel d o env →
    evaluate re e o d = Spec.denote re e env := by
  induction e with
  | not e ih =>
    intro o env hwb hy hrel
    simp only [evaluate, Spec.denote, ih o env hwb hy hrel]
    cases Spec.denote re e env <;> rfl
  | and l r ihl ihr | or l r ihl ihr =>
    intro o env hwb hy hrel
    simp only [wellBound, Bool.and_eq_true] at hwb
    simp only [quantFree, Bool.and_eq_false_iff] at hy
    simp only [evaluate, Spec.denote, ihl o env hwb.1 (fun h => hy (.inl h)) hrel,
      ihr o env hwb.2 (fun h => hy (.inr h)) hrel]
    cases Spec.denote re l env with
    | val b => cases b <;> rfl
    | _ => rfl
  | match_ sel op raw =>
    intro o env _ _ hrel
    simp only [evaluate, evaluateMatch, Spec.denote, getValue_eq_select d o env hrel]
    cases Spec.select env sel.path <;> rfl
  | coll op sel b inner ih =>
    intro o env hwb hy hrel
    have hy := hy rfl
    simp only [wellBound, Bool.and_eq_true, Bool.not_eq_true'] at hwb
    obtain ⟨⟨hsel, hone⟩, hwbi⟩ := hwb
    have hselne : sel.path ≠ [] := by intro h0; simp [h0] at hsel
    have hgv := getValue_eq_select d o env hrel sel.path
    simp only [Spec.denote, ← hgv]
    cases hv : getValue o d sel.path with
    | error => simp only [evaluate, hv]
    | unmodelled => simp only [evaluate, hv]
    | absent => simp only [evaluate, hv]
    | present v =>
      simp only [items_eq]
      cases hi : C06.collIndices v with
      | none => simp only [C06.evaluate_coll, hv, hi]; rfl
      | some idx =>
        -- both sides fold over the same indices; index by index the induction hypothesis applies
        -- in the scope extended by the bindings of the element
        simp only [Option.map, sameName_cond, List.isEmpty_map]
        by_cases hs : C06.sameName b
        · rw [C06.coll_same_name re o d op sel b inner v idx hv hi hs]
          cases idx <;> simp [hs, Spec.fold]
        · rw [C06.coll_fold re o d op sel b inner v idx hv hi (absurd · hs)]
          simp only [hs, decide_false, Bool.false_and, Bool.false_eq_true, if_false]
          rw [fold_eq_foldColl, List.map_map]
          congr 1
          apply List.map_congr_left
          intro ix hix
          exact ih _ _ hwbi (fun _ => hy)
            (envRel_elem d o env hrel hy sel b hselne hone v idx hv hi ix hix)

theorem impl_refines_spec_env (e : Expr) : ∀ (o : Opts) (env : Spec.Env),
    wellBound e = true → Hyps d o.cfg o.unknown → EnvRel d o env →
    evaluate re e o d = Spec.denote re e env :=
  fun o env hwb hy hrel => evaluate_eq_denote re d e o env hwb (fun _ => hy) hrel

/-- C01 (`impl_refines_spec`): `Evaluate` — no local variables at the top — returns what the
    reference interpreter assigns. -/
theorem impl_refines_spec (e : Expr) (o : Opts) (hloc : o.locals = [])
    (hwb : wellBound e = true) (hy : Hyps d o.cfg o.unknown) :
    evaluate re e o d = Spec.denote re e (envOf d o) :=
  impl_refines_spec_env re d e o (envOf d o) hwb hy (envRel_top d o hloc)

theorem evaluator_refines_spec (ev : Evaluator) (hwb : wellBound ev.ast = true)
    (hy : Hyps d { tagName := ev.tagName, hook := ev.hook } ev.unknown) :
    ev.evaluate re d = Spec.denote re ev.ast (Spec.Env.top ev.tagName ev.hook ev.unknown d) :=
  impl_refines_spec re d ev.ast
    { tagName := ev.tagName, hook := ev.hook, unknown := ev.unknown, locals := [] } rfl hwb hy

/-- for quantifier-free expressions no hypothesis on the datum or the configuration is needed:
    every hook, every unknown value, every (even ill-formed) datum, in every scope -/
theorem impl_refines_spec_quantifier_free (e : Expr) : ∀ (o : Opts) (env : Spec.Env),
    quantFree e = true → EnvRel d o env → evaluate re e o d = Spec.denote re e env :=
  fun o env hq hrel => evaluate_eq_denote re d e o env (wellBound_of_quantFree e hq)
    (fun h => by rw [hq] at h; cases h) hrel

theorem hyps_of_size (cfg : Config) (unknown : Option Any) (hwf : Any.wf d = true)
    (hh : plainHook cfg.hook) (hu : ∀ u, unknown = some u → ¬ C06.Iterable u)
    (hsz : rvSize d ≤ 2 ^ 63) : Hyps d cfg unknown :=
  ⟨hwf, hh, hu, fun p v xs hg hl => short_of_size cfg hh d hsz p v xs hg hl⟩

/-! ## The decidable side conditions the driver evaluates (`Bexpr.Eval.RefCheck`) -/

theorem iterableB_iff (v : Any) : RefCheck.iterableB v = true ↔ C06.Iterable v := by
  cases v with
  | none => simp [RefCheck.iterableB, C06.Iterable]
  | some x => cases x <;> simp [RefCheck.iterableB, C06.Iterable]

theorem wellBoundB_eq (e : Expr) : RefCheck.wellBoundB e = wellBound e := by
  induction e with
  | not e ih => simpa [RefCheck.wellBoundB, wellBound] using ih
  | and l r ihl ihr => simp [RefCheck.wellBoundB, wellBound, ihl, ihr]
  | or l r ihl ihr => simp [RefCheck.wellBoundB, wellBound, ihl, ihr]
  | match_ sel op raw => rfl
  | coll op sel b inner ih => simp [RefCheck.wellBoundB, wellBound, C06.oneAlias, ih]

/-- C01, in the form the check uses to decide whether a disagreement between the real code and
    the model is a failing input: when the Boolean `refOk` holds of the evaluator and the datum,
    `Evaluate` is the reference answer. -/
theorem refOk_sound (ev : Evaluator) (h : RefCheck.refOk ev d = true) :
    ev.evaluate re d = RefCheck.refAnswer re ev d := by
  simp only [RefCheck.refOk, Bool.and_eq_true, Bool.or_eq_true, beq_iff_eq, decide_eq_true_eq] at h
  obtain ⟨⟨⟨⟨hwf, hh⟩, hu⟩, hwb⟩, hsz⟩ := h
  refine evaluator_refines_spec re d ev (by rw [← wellBoundB_eq]; exact hwb) ?_
  refine hyps_of_size d _ _ hwf hh ?_ ?_
  · intro u hu' hit
    rw [hu'] at hu
    have := (iterableB_iff u).mpr hit
    simp [this] at hu
  · cases d <;> exact hsz

/-! ## Non-vacuity, and the excluded points are real -/

section Examples
open C06 (exDatum exOpts noRe selK bindX bodyXeq f64_1)

/-- `any k as x { x == 2 }` -/
def ex1 : Expr := .coll .any selK bindX (bodyXeq 50)
/-- `all k as i, x { any k as y { y != 3 } }` -/
def ex2 : Expr :=
  .coll .all selK { mode := .indexAndValue, index := [105], value := [120] }
    (.coll .any selK { mode := .default, default := [121] }
      (.match_ ⟨.bexpr, [[121]]⟩ .notEqual (some [51])))

theorem exHyps : Hyps exDatum exOpts.cfg exOpts.unknown :=
  hyps_of_size exDatum _ _ (by decide) (Or.inl rfl) (by intro u h; cases h) (by decide)

/-! on `{"k": [1, 2]}` (`C06.exDatum`) the theorem applies -/
example : evaluate noRe ex1 exOpts exDatum = Spec.denote noRe ex1 (envOf exDatum exOpts) :=
  impl_refines_spec noRe exDatum ex1 exOpts rfl (by decide) exHyps
example : Spec.denote noRe ex1 (envOf exDatum exOpts) = .val true := by decide +kernel
example : evaluate noRe ex2 exOpts exDatum = Spec.denote noRe ex2 (envOf exDatum exOpts) :=
  impl_refines_spec noRe exDatum ex2 exOpts rfl (by decide) exHyps
example : Spec.denote noRe ex2 (envOf exDatum exOpts) = .val true := by decide +kernel

/-- `{"k": [{"a": 1}]}` -/
def absDatum : Any :=
  some (.map "" GoType.stringT .iface false
    [(.str "" [107], .iface (some (.slice "" .iface false
      [.iface (some (.map "" GoType.stringT .iface false [(.str "" [97], .iface (some f64_1))]))])))])
/-! absent key through an element: on `absDatum`, `any k as x { x.zz != 1 }` is true (absent, `!=`
    disposition) by one walk from the element -/
example : Spec.denote noRe (.coll .any selK bindX
    (.match_ ⟨.bexpr, [[120], [122, 122]]⟩ .notEqual (some [49]))) (envOf absDatum exOpts)
      = .val true := by decide +kernel
example : evaluate noRe (.coll .any selK bindX
    (.match_ ⟨.bexpr, [[120], [122, 122]]⟩ .notEqual (some [49]))) exOpts absDatum
      = .val true := by decide +kernel

/-! EXCLUDED POINT 1 (`Hyps.unknown`): a collection as the unknown value.  On the empty document
    with unknown value `[]int{1, 2}`, `any zz as x { x == 1 }` iterates the unknown value; the
    code then resolves the alias `zz.0` — `zz` is still absent — to the WHOLE unknown value again
    and fails to compare a slice, while the element is `1` and the denotation is `true`. -/
def unkOpts : Opts :=
  { exOpts with unknown := some (some (.slice "" (.basic .int "") false
      [.int .int "" 1, .int .int "" 2])) }
def emptyDoc : Any := some (.map "" GoType.stringT .iface false [])
def exZZ : Expr := .coll .any ⟨.bexpr, [[122, 122]]⟩ bindX (bodyXeq 49)

theorem unknown_collection_differs :
    evaluate noRe exZZ unkOpts emptyDoc = .err false ∧
    Spec.denote noRe exZZ (envOf emptyDoc unkOpts) = .val true := by
  constructor <;> decide +kernel

/-! EXCLUDED POINT 2 (`Hyps.hook`): a transforming hook.  With the `unwrap` hook on
    `{"k": []Wrap{{V: 1}}}`, `any k as x { x == 1 }`: the iterated element is the struct, but the
    code's alias `k.0` is walked by `Get`, whose hook unwraps it to `1`. -/
def wrapDatum : Any :=
  some (.map "" GoType.stringT .iface false
    [(.str "" [107], .iface (some (.slice "" (.struct "main.Wrap") false
      [.struct "main.Wrap" [({ goName := [86], exported := true, tags := [] }, .int .int "" 1)]])))])
def wrapOpts : Opts := { exOpts with hook := .unwrap }

def exXeq1 : Expr := .coll .any selK bindX (bodyXeq 49)

theorem transforming_hook_differs :
    evaluate noRe exXeq1 wrapOpts wrapDatum = .val true ∧
    Spec.denote noRe exXeq1 (envOf wrapDatum wrapOpts) = .err false := by
  constructor <;> decide +kernel

/-! EXCLUDED POINT 3 (`wellBound`): a binding record with BOTH the one-name and the value name
    set (the parser never builds one).  On `{"k": [[1]]}` with names `k` (one-name) and `z`
    (value) over `k`: the alias `z ↦ k.0` is resolved through the older alias `k ↦ k.0` of the
    same quantifier, giving `k.0.0`. -/
def nestDatum : Any :=
  some (.map "" GoType.stringT .iface false
    [(.str "" [107], .iface (some (.slice "" .iface false
      [.iface (some (.slice "" .iface false [.iface (some f64_1)]))])))])
def exTwoAliases : Expr :=
  .coll .any selK { mode := .default, default := [107], value := [122] }
    (.match_ ⟨.bexpr, [[122]]⟩ .equal (some [49]))

theorem two_aliases_differ :
    wellBound exTwoAliases = false ∧
    evaluate noRe exTwoAliases exOpts nestDatum = .val true ∧
    Spec.denote noRe exTwoAliases (envOf nestDatum exOpts) = .err false := by
  refine ⟨by decide, ?_, ?_⟩ <;> decide +kernel

end Examples

end Bexpr.Props.C01

#print axioms Bexpr.Props.C01.getValue_eq_select
#print axioms Bexpr.Props.C01.impl_refines_spec_env
#print axioms Bexpr.Props.C01.impl_refines_spec
#print axioms Bexpr.Props.C01.evaluator_refines_spec
#print axioms Bexpr.Props.C01.impl_refines_spec_quantifier_free
#print axioms Bexpr.Props.C01.hyps_of_size
#print axioms Bexpr.Props.C01.refOk_sound
#print axioms Bexpr.Props.C01.unknown_collection_differs
#print axioms Bexpr.Props.C01.transforming_hook_differs
#print axioms Bexpr.Props.C01.two_aliases_differ
#print axioms Bexpr.Proofs.SpecLemmas.get_append
#print axioms Bexpr.Proofs.SpecLemmas.IndexRoundTrip.parseInt_natToDec
