/-
  C13 — Evaluation is pure and history-independent; Expression() returns the source.

  The model of an Evaluator (`Eval.Evaluator`) has no mutable component: `Evaluate` and `Execute`
  are functions, and `step` below returns the evaluator it was given.  So the theorems about
  histories hold by construction of the model; what they rest on is that this model is ADEQUATE —
  that the real Evaluate/Execute write nothing that outlives the call.  That is the regenerated
  tie `Ties/Effects.lean` (no shared store site reachable from Evaluate / Execute; the regexp
  cache is filled at creation; checked under C12) together with `Ties/EffectsC13.lean` (every
  package-level variable is immutable).  On that basis:
   * `history_independent`: after any history of calls (any data, any outcomes, errors included)
     the next call returns what a fresh evaluator returns;
   * `input_unmodified_nil_filter`: the nil filter returns the datum it was handed (the model
     returns no new datum otherwise; Execute builds a new container);
   * `expression_roundtrip`: Expression() is the creation string, byte for byte.
  PARTIAL, named: non-mutation of the caller's heap is a fact about Go pointers which the model does
  not represent; it is covered statically by the tie and dynamically by the `hist` fragment
  (deep snapshot of the datum before/after every call).
-/
import Bexpr.Eval.Create
import Props.C18

namespace Bexpr.Props.C13
open Bexpr Bexpr.Eval Bexpr.Go Bexpr.Peg

/-- one call on an evaluator: the evaluator after the call, and the outcome -/
def step (re : RegexOracle) (ev : Evaluator) (d : Any) : Evaluator × Out := (ev, ev.evaluate re d)

/-- run a history of calls, collecting the outcomes -/
def runHistory (re : RegexOracle) : Evaluator → List Any → Evaluator × List Out
  | ev, [] => (ev, [])
  | ev, d :: ds =>
    let (ev', o) := step re ev d
    let (ev'', os) := runHistory re ev' ds
    (ev'', o :: os)

/-- the evaluator is a frame: no call changes it -/
theorem frame_evaluator (re : RegexOracle) (ev : Evaluator) (h : List Any) :
    (runHistory re ev h).1 = ev := by
  induction h with
  | nil => rfl
  | cons d ds ih => simp only [runHistory, step]; exact ih

/-- after any history, the next call returns what a freshly created evaluator returns -/
theorem history_independent (re : RegexOracle) (ev : Evaluator) (h : List Any) (d : Any) :
    ((runHistory re ev h).1).evaluate re d = ev.evaluate re d := by
  rw [frame_evaluator]

/-- call by call, a used evaluator and fresh ones agree -/
theorem history_outcomes (re : RegexOracle) (ev : Evaluator) (h : List Any) :
    (runHistory re ev h).2 = h.map (fun d => ev.evaluate re d) := by
  induction h with
  | nil => rfl
  | cons d ds ih => simp only [runHistory, step, List.map_cons]; rw [ih]

/-- the same holds through a Filter (which wraps an evaluator) -/
theorem execute_history_independent (re : RegexOracle) (ev : Evaluator) (h : List Any) (data : Any) :
    execute re (some (runHistory re ev h).1) data = execute re (some ev) data := by
  rw [frame_evaluator]

/-- Expression() returns the creation string byte for byte -/
theorem expression_roundtrip (env : Env) (g : Grammar) (expr : GoString) (opts : List Opt) (ev : Evaluator)
    (h : createEvaluator env g expr opts = .ok ev) : ev.expression = expr :=
  (C18.create_plumbing env g expr opts ev h).2.2.2.1

/-- … also after use -/
theorem expression_after_use (re : RegexOracle) (env : Env) (g : Grammar) (expr : GoString) (opts : List Opt)
    (ev : Evaluator) (hist : List Any) (h : createEvaluator env g expr opts = .ok ev) :
    (runHistory re ev hist).1.expression = expr := by
  rw [frame_evaluator]; exact expression_roundtrip env g expr opts ev h

/-- the nil filter returns its input itself -/
theorem input_unmodified_nil_filter (re : RegexOracle) (data : Any) : execute re none data = .ok data := rfl

/-! ### A regexp cache keyed by the (immutable) literal does not make evaluation history-dependent

    /repo compiles the patterns at creation; a version that caches the compiled pattern in the
    syntax tree on first use (`MatchValue.Converted`) is covered as well.  Either way the cell for a
    pattern holds nothing or the compilation of THAT pattern, so reading through the cache is the
    same function as compiling afresh — whatever calls filled it. -/

/-- a cache of compiled patterns: `none` = not cached yet -/
abbrev ReCache := GoString → Option (Option (GoString → Bool))

/-- compile through the cache -/
def viaCache (re : RegexOracle) (c : ReCache) : RegexOracle := fun pat =>
  match c pat with
  | some compiled => compiled
  | none => re pat

/-- every cell is empty or holds the compilation of its own literal -/
def CacheInv (re : RegexOracle) (c : ReCache) : Prop := ∀ pat compiled, c pat = some compiled → compiled = re pat

/-- filling a cell with the compilation of its own pattern preserves the invariant -/
theorem cacheInv_fill (re : RegexOracle) (c : ReCache) (h : CacheInv re c) (p : GoString) :
    CacheInv re (fun q => if q = p then some (re p) else c q) := by
  intro q compiled hq
  by_cases hqp : q = p
  · subst hqp; simp at hq; exact hq.symm
  · simp [hqp] at hq; exact h q compiled hq

theorem viaCache_eq (re : RegexOracle) (c : ReCache) (h : CacheInv re c) : viaCache re c = re := by
  funext pat
  unfold viaCache
  cases hc : c pat with
  | none => rfl
  | some compiled => exact h pat compiled hc

/-- with any cache that satisfies the invariant (whichever calls filled it), a call returns what
    it returns with the empty cache -/
theorem history_independent_with_cache (re : RegexOracle) (ev : Evaluator) (c : ReCache)
    (h : CacheInv re c) (d : Any) :
    ev.evaluate (viaCache re c) d = ev.evaluate (viaCache re (fun _ => none)) d := by
  rw [viaCache_eq re c h, viaCache_eq re (fun _ => none) (by intro p x hx; cases hx)]

/-- non-vacuity: a history of two calls, both of which end in an error -/
def exEv : Evaluator :=
  { ast := .match_ ⟨.bexpr, [[120]]⟩ .equal (some [49]), tagName := [98], hook := .off, unknown := none,
    expression := [120, 61, 61, 49] }
example : (runHistory (fun _ => none) exEv [none, some (.int .int "" 1)]).2 = [.err false, .err false] := by
  decide

end Bexpr.Props.C13

#print axioms Bexpr.Props.C13.frame_evaluator
#print axioms Bexpr.Props.C13.history_independent
#print axioms Bexpr.Props.C13.history_outcomes
#print axioms Bexpr.Props.C13.execute_history_independent
#print axioms Bexpr.Props.C13.expression_roundtrip
#print axioms Bexpr.Props.C13.history_independent_with_cache
#print axioms Bexpr.Props.C13.cacheInv_fill
