/-
  C10 (evaluator part) and C09 (quantifier "for every expression accepted by CreateEvaluator"):
  a returned evaluator can always be evaluated and a returned filter always executed — without
  panicking (dumping a returned tree is `C10.create_dump_never_panics`).  Combines the parser
  typing result (`Props/C10.lean`: every accepted parse is a parser-shaped Expression) with
  totality of the evaluator on parser-shaped trees (`Props/C09.lean`).
-/
import Props.C10
import Props.C09

namespace Bexpr.Props.C10Eval
open Bexpr Bexpr.Go Bexpr.Eval Bexpr.Peg Bexpr.Driver

/-- the unknown value of the folded options, if any, is a well-formed Go value -/
def OptsWfIn (opts : List Opt) : Prop := ∀ u, (getOpts opts).unknown = some u → Any.wf u = true

theorem created {expr : GoString} {opts : List Opt} {ev : Evaluator}
    (h : createEvaluator goEnv goGrammar expr opts = .ok ev) :
    ev.ast.parserShaped = true ∧ ev.unknown = (getOpts opts).unknown := by
  rcases C10.create_spec expr opts with ⟨_, h'⟩ | ⟨e, _, hp, h'⟩ <;> rw [h'] at h
  · contradiction
  · injection h with h; subst h; exact ⟨hp, rfl⟩

/-- Evaluate on an evaluator returned by CreateEvaluator never panics, and an error comes with
    false — for every byte string accepted, every option list whose unknown value is well formed
    (`OptsWfIn`), every well-formed datum. -/
theorem created_evaluator_total (re : RegexOracle) (expr : GoString) (opts : List Opt) (ev : Evaluator)
    (d : Any) (h : createEvaluator goEnv goGrammar expr opts = .ok ev) (ho : OptsWfIn opts)
    (hd : Any.wf d = true) :
    ev.evaluate re d ≠ .panic ∧ ∀ b, ev.evaluate re d = .err b → b = false := by
  obtain ⟨hs, hu⟩ := created h
  exact ⟨C09.Evaluator_evaluate_no_panic re ev d hs hd fun u hu' => ho u (hu ▸ hu'),
    fun b => C09.Evaluator_evaluate_err_false re ev d b⟩

/-- Execute on a filter returned by CreateFilter never panics (first conjunct: the nil filter
    returns its input, by definition of `execute`). -/
theorem created_filter_total (re : RegexOracle) (expr : GoString) (data : Any) (hd : Any.wf data = true) :
    (createFilter goEnv goGrammar expr = .nilFilter → execute re none data = .ok data) ∧
    (∀ ev, createFilter goEnv goGrammar expr = .ok ev → execute re (some ev) data ≠ .panic) := by
  refine ⟨fun _ => rfl, fun ev h => ?_⟩
  rcases C10.createFilter_spec expr with ⟨_, h'⟩ | ⟨_, _, h'⟩ | ⟨ev', _, hc, _, h'⟩ <;> rw [h'] at h
  · contradiction
  · contradiction
  · injection h with h
    subst h
    obtain ⟨hs, hu⟩ := created hc
    -- without options there is no unknown value
    refine C09.execute_no_panic re ev' data hs hd fun u hu' => ?_
    rw [hu] at hu'
    simp [getOpts, defaultOptions] at hu'

end Bexpr.Props.C10Eval

#print axioms Bexpr.Props.C10Eval.created_evaluator_total
#print axioms Bexpr.Props.C10Eval.created_filter_total
