/-
  C01 / C16, FULL STACK: from the TEXT of an expression to the reference outcome.

  `Props/C16.lean` proves that every well-formed rendering `ρ : Top` (text with any layout,
  redundant parentheses, literal / selector / operator / binding spellings) is accepted by the
  engine on the pinned grammar with the tree `norm ρ.ast`; `Props/C01.lean` proves that
  `(*Evaluator).Evaluate` on a tree returns what the reference interpreter `Spec.denote` assigns.
  Here the two are composed through the real entry points `createEvaluator`
  (= `bexpr.CreateEvaluator`: option folding, `Peg.run` with the folded budget, type assertion,
  option plumbing) and `Evaluator.evaluate`; `Props/C17Eval.lean` continues to `createFilter` /
  `execute`:

      TEXT  ──parser, AST actions──▶  tree  ──options, Evaluate──▶  outcome
        ρ.text                        norm ρ.ast                    Spec.denote re ρ.ast (top … d)

  PROVED
   1. `norm_denote` — folding `not not e` preserves the reference outcome, in every environment
      (`denote_err_false`: an error outcome of the reference interpreter always carries `false`,
      which is what makes `not not` the identity on outcomes); `norm_evaluate` — the same for the
      code model `Eval.evaluate`, for every option record and datum.
   2. `created_refines_spec` — for every well-formed rendering `ρ`, with `N` the number of parser
      steps of `ρ.text`: every option list whose folded budget admits `N` creates an evaluator
      (with tree `norm ρ.ast`), and on every datum satisfying the hypotheses `C01.Hyps` for the
      folded options, `Evaluate` returns `Spec.denote re ρ.ast (Spec.Env.top tag hook unknown d)`
      — the reference outcome of the PRINTED tree.  `wellBound (norm ρ.ast)` is DERIVED from
      `ρ.WF` (`rendering_wellBound`: parser-built binding records set the names of their mode
      only, a rendered selector has at least one part), it is not a hypothesis.
      Variants: `created_refines_spec_fits` (budget hypothesis on the engine, `FitsIn`),
      `created_refines_spec_default` (default options, `Fits`), `created_refines_spec_of_created`
      (NO budget hypothesis: whenever `CreateEvaluator` returns an evaluator at all),
      `created_refines_spec_quantifier_free` (no `any`/`all` in the tree: no hypothesis on the
      datum, the hook or the unknown-value either).
   3. `text_and_table`, `text_or_table`, `text_not_table` — the evaluator created from a rendering
      of `and`/`or`/`not` follows the C03 tables on the outcomes of the evaluators created from
      renderings of the operands, on EVERY datum (no `Hyps` needed); `_spec` forms: the same on
      the reference outcomes.  `renderings_agree` — two renderings of the same tree (more
      generally: of trees with the same `norm`) give the same outcome on every datum.
   4. `Example`: two concrete texts with tabs, newlines, redundant parentheses, backquoted
      literals, bracketed and JSON-pointer selectors, on concrete data: hypotheses discharged,
      outcomes computed in the kernel, also directly from the bytes; `budget_needed`.

  HYPOTHESES, and why each is needed
   * `ρ.WF` — the renderings covered by the round-trip theorem (restrictions 2–6 in the header of
     `Props/C16.lean`; 2 is the known `"/usr/bin"` finding of the grammar, 3–6 are properties of
     the language).
   * the budget (`N ≤ effectiveMax (getOpts opts).maxExpressions` / `FitsIn` / `Fits`): a parse of
     `N` steps under a smaller `MaxExpressions` is the max-expressions error
     (`Example.budget_needed`); the model of pigeon's `newParser` turns the budget 0 into
     `math.MaxUint64`, so SOME bound is needed also for the default options (header of
     `Props/C16Eval.lean`).  The `_of_created` forms have no budget hypothesis.
   * `C01.Hyps d cfg unknown` — datum well formed, hook off or identity, unknown-value not
     iterable, lists of at most 2^63 elements; for the hook and the unknown-value `Props/C01.lean`
     has counter-examples (`transforming_hook_differs`, `unknown_collection_differs`); not needed
     for quantifier-free trees and not needed in 3.
-/
import Props.C01
import Props.C03
import Props.C07Eval

namespace Bexpr.Props.C01Eval
open Bexpr Bexpr.Go Bexpr.Eval Bexpr.Peg Bexpr.Driver Bexpr.Proofs.RoundTrip
open Bexpr.Proofs.C16Eval
open Bexpr.Props.C16Eval (Fits)
open Bexpr.Props.C07Eval (FitsIn le_of_fitsIn fitsIn_zero_iff evOf rendering_steps fitsIn_of_cnt)

/-! ## 1. An error outcome of the reference interpreter carries `false` -/

theorem matchValue_err_false (re : RegexOracle) (op : MatchOp) (raw : Option GoString) (v : Any)
    (b : Bool) (h : Spec.matchValue re op raw v = .err b) : b = false := by
  -- every `.err` of `matchValue` is a literal `.err false` or comes from one of the four
  -- operator functions (through `negate`), whose errors carry `false` (C03)
  unfold Spec.matchValue at h
  grind [C03.doMatchEqual_err_false, C03.doMatchIn_err_false, C03.doMatchIsEmpty_err_false,
    C03.doMatchMatches_err_false, C03.negate_err_false]

theorem fold_err_false (op : CollOp) (l : List Out) (b : Bool) (h : Spec.fold op l = .err b) :
    b = false := by
  induction l with
  | nil => simp [Spec.fold] at h
  | cons x xs ih =>
    unfold Spec.fold at h
    grind

/-- the reference interpreter never returns `true` together with an error -/
theorem denote_err_false (re : RegexOracle) (e : Expr) :
    ∀ (env : Spec.Env) (b : Bool), Spec.denote re e env = .err b → b = false := by
  induction e with
  | not e ih =>
    intro env b h
    simp only [Spec.denote] at h
    cases hx : Spec.denote re e env <;> simp_all [Spec.notT]
  | and l r ihl ihr | or l r ihl ihr =>
    -- the outcome of `and` / `or` is the outcome of one of the operands
    intro env b h
    simp only [Spec.denote, Spec.andT, Spec.orT] at h
    split at h
    · exact ihr env b h
    · exact ihl env b h
  | match_ sel op raw =>
    intro env b h
    simp only [Spec.denote] at h
    grind [matchValue_err_false]
  | coll op sel bnd inner ih =>
    intro env b h
    simp only [Spec.denote] at h
    grind [fold_err_false]

/-! ## 2. Folding `not not e` preserves the outcome -/

/-- the code block of `NotExpression` (`notFold`: wrap in `not`, but unwrap a `not`) acts on
    reference outcomes as the `not` table -/
theorem denote_notFold (re : RegexOracle) (x : Expr) (env : Spec.Env) :
    Spec.denote re (notFold x) env = Spec.notT (Spec.denote re x env) := by
  cases x with
  | not y =>
    show Spec.denote re y env = Spec.notT (Spec.denote re (.not y) env)
    simp only [Spec.denote]
    cases hy : Spec.denote re y env with
    | val b => simp [Spec.notT]
    | err b =>
      have := denote_err_false re y env b hy
      subst this
      rfl
    | panic => rfl
    | unmodelled => rfl
  | _ => rfl

/-- **`norm` (folding every `not not e` to `e`, what the parser does) preserves the reference
    outcome**, for every expression, in every environment. -/
theorem norm_denote (re : RegexOracle) (e : Expr) :
    ∀ env : Spec.Env, Spec.denote re (norm e) env = Spec.denote re e env := by
  induction e with
  | not e ih => intro env; simp only [norm, denote_notFold, ih, Spec.denote]
  | and l r ihl ihr | or l r ihl ihr => intro env; simp only [norm, Spec.denote, ihl, ihr]
  | match_ s o v => intro env; rfl
  | coll o s b inner ih => intro env; simp only [norm, Spec.denote, ih]

/-- for the code model `notFold` acts as the C03 `not` table -/
theorem evaluate_notFold (re : RegexOracle) (x : Expr) (o : Opts) (d : Any) :
    evaluate re (notFold x) o d = C03.notTable (evaluate re x o d) := by
  cases x with
  | not y =>
    show evaluate re y o d = C03.notTable (evaluate re (.not y) o d)
    rw [← C03.not_table, C03.not_not]
  | _ => exact C03.not_table re o d _

/-- `norm` preserves the outcome of `Eval.evaluate` — value, error, panic alike — for every
    option record (any hook, any local variables) and every datum (well formed or not). -/
theorem norm_evaluate (re : RegexOracle) (e : Expr) :
    ∀ (o : Opts) (d : Any), evaluate re (norm e) o d = evaluate re e o d := by
  induction e with
  | not e ih =>
    intro o d
    rw [norm, evaluate_notFold, ih, ← C03.not_table]
  | and l r ihl ihr | or l r ihl ihr => intro o d; simp only [norm, evaluate, ihl, ihr]
  | match_ s op v => intro o d; rfl
  | coll op s b inner ih => intro o d; simp only [norm, evaluate, ih]

theorem norm_evaluator (re : RegexOracle) (ev : Evaluator) (d : Any) :
    ({ ev with ast := norm ev.ast } : Evaluator).evaluate re d = ev.evaluate re d :=
  norm_evaluate re ev.ast _ d

/-! ## 3. `wellBound` of a parsed rendering — derived, not assumed -/

theorem wellBound_notFold (x : Expr) : C01.wellBound (notFold x) = C01.wellBound x := by
  cases x <;> rfl

theorem wellBound_norm (e : Expr) : C01.wellBound (norm e) = C01.wellBound e := by
  induction e with
  | not e ih => simp only [norm, wellBound_notFold, ih, C01.wellBound]
  | and l r ihl ihr | or l r ihl ihr => simp only [norm, C01.wellBound, ihl, ihr]
  | match_ s o v => rfl
  | coll o s b inner ih => simp only [norm, C01.wellBound, ih]

theorem quantFree_notFold (x : Expr) : C01.quantFree (notFold x) = C01.quantFree x := by
  cases x <;> rfl

theorem quantFree_norm (e : Expr) : C01.quantFree (norm e) = C01.quantFree e := by
  induction e with
  | not e ih => simp only [norm, quantFree_notFold, ih, C01.quantFree]
  | and l r ihl ihr | or l r ihl ihr => simp only [norm, C01.quantFree, ihl, ihr]
  | match_ s o v => rfl
  | coll o s b inner ih => rfl

/-- a rendered selector has at least one part -/
theorem selX_path_nonempty (x : SelX) (h : x.WF) : x.sel.path.isEmpty = false := by
  cases x with
  | bexpr σ => rfl
  | ptr path =>
    cases path with
    | nil => exact absurd rfl h.1
    | cons _ _ => rfl

/-- a rendered binding (`i, v` · `i, _` · `_, v` · `d`) sets the names of its mode only: at most
    one alias -/
theorem bindSp_oneAlias (b : BindSp) : C06.oneAlias b.binding = true := by
  cases b <;> rfl

theorem matchSp_wellBound (m : MatchSp) : C01.wellBound m.ast = true := by
  cases m <;> rfl

/-- every well-formed rendering, at every grammar level, renders a `wellBound` tree -/
theorem sp_wellBound : ∀ {l : Lvl} (c : Sp l), c.WF → C01.wellBound c.ast = true
  | _, .orOp l _ _ r, h => by
    simp only [Sp.ast, C01.wellBound, sp_wellBound l h.1, sp_wellBound r h.2.2.2, Bool.and_self]
  | _, .orUp a, h => sp_wellBound a h
  | _, .andOp l _ _ r, h => by
    simp only [Sp.ast, C01.wellBound, sp_wellBound l h.1, sp_wellBound r h.2.2.2, Bool.and_self]
  | _, .andUp n, h => sp_wellBound n h
  | _, .notOp _ n, h => sp_wellBound n h.2
  | _, .paren _ e _, h => sp_wellBound e h.2.1
  | _, .leaf m, _ => matchSp_wellBound m
  | _, .coll _ _ x _ _ bind _ _ body _, h => by
    obtain ⟨_, hx, _, _, _, _, _, _, hbody, _⟩ := h
    simp only [Sp.ast, C01.wellBound, selX_path_nonempty x hx, bindSp_oneAlias bind,
      sp_wellBound body hbody, Bool.not_false, Bool.and_self]

/-- **the tree the parser returns for a well-formed rendering satisfies the hypothesis
    `wellBound` of C01** -/
theorem rendering_wellBound (ρ : Top) (h : ρ.WF) : C01.wellBound (norm ρ.ast) = true := by
  rw [wellBound_norm]
  exact sp_wellBound ρ.c h.2.1

/-! ## 4. `CreateEvaluator` + `Evaluate` on a rendering = the reference outcome of its tree -/

/-- the configuration `Evaluate` works with under the option list `opts` -/
abbrev cfgOf (opts : List Opt) : Config :=
  { tagName := (getOpts opts).tagName, hook := (getOpts opts).hook }

/-- the reference outcome of the tree `e` on the datum `d` under the option list `opts` -/
abbrev refOutcome (re : RegexOracle) (e : Expr) (opts : List Opt) (d : Any) : Out :=
  Spec.denote re e
    (Spec.Env.top (getOpts opts).tagName (getOpts opts).hook (getOpts opts).unknown d)

/-- the evaluator built from the parsed tree of a rendering and the folded options returns the
    reference outcome of the PRINTED tree; the hypotheses on the datum are needed only if the tree
    has a quantifier -/
theorem evOf_refines (re : RegexOracle) (ρ : Top) (h : ρ.WF) (opts : List Opt) (text : GoString)
    (d : Any)
    (hy : C01.quantFree ρ.ast = false → C01.Hyps d (cfgOf opts) (getOpts opts).unknown) :
    (evOf (norm ρ.ast) opts text).evaluate re d = refOutcome re ρ.ast opts d := by
  let o : Opts :=
    { tagName := (getOpts opts).tagName, hook := (getOpts opts).hook,
      unknown := (getOpts opts).unknown, locals := [] }
  have := C01.evaluate_eq_denote re d (norm ρ.ast) o (C01.envOf d o) (rendering_wellBound ρ h)
    (by rw [quantFree_norm]; exact hy) (C01.envRel_top d o rfl)
  exact this.trans (norm_denote re ρ.ast _)

theorem created_eq_evOf (ρ : Top) (h : ρ.WF) (opts : List Opt) (ev : Evaluator)
    (hc : createEvaluator pinEnv pinGrammar ρ.text opts = .ok ev) :
    ev = evOf (norm ρ.ast) opts ρ.text :=
  C07Eval.eq_evOf_of_created hc (accepts_top_norm ρ h)

/-- **TEXT ↦ outcome is the reference semantics of the printed tree.**  For every well-formed
    rendering `ρ`: with `N` the number of parser steps of `ρ.text` (the size of its unique
    derivation), every option list whose folded budget admits `N` creates an evaluator — holding
    the tree `norm ρ.ast` — and on every datum `d` satisfying the hypotheses of
    `C01.evaluator_refines_spec` for the options folded from `opts`, with every regexp engine,
    `Evaluate` returns the reference outcome of the printed tree `ρ.ast` in the top-level
    environment of these options. -/
theorem created_refines_spec (ρ : Top) (h : ρ.WF) :
    ∃ N, AcceptsIn pinEnv pinGrammar ρ.text (.expr (norm ρ.ast)) N ∧
      ∀ opts : List Opt, N ≤ effectiveMax (getOpts opts).maxExpressions →
        ∃ ev, createEvaluator pinEnv pinGrammar ρ.text opts = .ok ev ∧ ev.ast = norm ρ.ast ∧
          ∀ (re : RegexOracle) (d : Any),
            C01.Hyps d { tagName := (getOpts opts).tagName, hook := (getOpts opts).hook }
              (getOpts opts).unknown →
            ev.evaluate re d =
              Spec.denote re ρ.ast
                (Spec.Env.top (getOpts opts).tagName (getOpts opts).hook (getOpts opts).unknown d) := by
  obtain ⟨N, hN⟩ := rendering_steps ρ h
  exact ⟨N, hN, fun opts hb => ⟨evOf (norm ρ.ast) opts ρ.text, create_of_acceptsIn hN opts hb, rfl,
    fun re d hy => evOf_refines re ρ h opts ρ.text d fun _ => hy⟩⟩

theorem created_refines_spec_fits (ρ : Top) (h : ρ.WF) (opts : List Opt)
    (hf : FitsIn (getOpts opts).maxExpressions ρ.text) :
    ∃ ev, createEvaluator pinEnv pinGrammar ρ.text opts = .ok ev ∧ ev.ast = norm ρ.ast ∧
      ∀ (re : RegexOracle) (d : Any), C01.Hyps d (cfgOf opts) (getOpts opts).unknown →
        ev.evaluate re d = refOutcome re ρ.ast opts d := by
  obtain ⟨N, hN, hc⟩ := created_refines_spec ρ h
  exact hc opts (le_of_fitsIn hN hf)

theorem created_refines_spec_default (ρ : Top) (h : ρ.WF) (hf : Fits ρ.text) :
    ∃ ev, createEvaluator pinEnv pinGrammar ρ.text [] = .ok ev ∧ ev.ast = norm ρ.ast ∧
      ∀ (re : RegexOracle) (d : Any), C01.Hyps d (cfgOf []) (getOpts []).unknown →
        ev.evaluate re d = refOutcome re ρ.ast [] d :=
  created_refines_spec_fits ρ h [] ((fitsIn_zero_iff _).2 hf)

theorem created_refines_spec_of_created (ρ : Top) (h : ρ.WF) (opts : List Opt) (ev : Evaluator)
    (hc : createEvaluator pinEnv pinGrammar ρ.text opts = .ok ev) (re : RegexOracle) (d : Any)
    (hy : C01.Hyps d (cfgOf opts) (getOpts opts).unknown) :
    ev.evaluate re d = refOutcome re ρ.ast opts d := by
  rw [created_eq_evOf ρ h opts ev hc]
  exact evOf_refines re ρ h opts ρ.text d fun _ => hy

theorem created_refines_spec_quantifier_free (ρ : Top) (h : ρ.WF)
    (hq : C01.quantFree ρ.ast = true) (opts : List Opt) (ev : Evaluator)
    (hc : createEvaluator pinEnv pinGrammar ρ.text opts = .ok ev) (re : RegexOracle) (d : Any) :
    ev.evaluate re d = refOutcome re ρ.ast opts d := by
  rw [created_eq_evOf ρ h opts ev hc]
  exact evOf_refines re ρ h opts ρ.text d fun hf => by rw [hq] at hf; cases hf

/-! ## 5. Corollaries at the text level -/

/-- the first conjunct of `created_refines_spec_fits`, with the evaluator named -/
theorem created_fits (ρ : Top) (h : ρ.WF) (opts : List Opt)
    (hf : FitsIn (getOpts opts).maxExpressions ρ.text) :
    createEvaluator pinEnv pinGrammar ρ.text opts = .ok (evOf (norm ρ.ast) opts ρ.text) := by
  obtain ⟨N, hN⟩ := rendering_steps ρ h
  exact create_of_acceptsIn hN opts (le_of_fitsIn hN hf)

/-- the outcome tables of the reference interpreter are the C03 tables -/
theorem tables_same (a b : Out) :
    Spec.andT a b = C03.andTable a b ∧ Spec.orT a b = C03.orTable a b ∧
      Spec.notT a = C03.notTable a := by
  cases a with
  | val v => cases v <;> exact ⟨rfl, rfl, rfl⟩
  | _ => exact ⟨rfl, rfl, rfl⟩

theorem notT_same (a : Out) : Spec.notT a = C03.notTable a := (tables_same a a).2.2

/-- **`and` at the text level.**  `ρ` a rendering of `and` of the trees of the renderings `ρ₁`,
    `ρ₂` (any layout, parenthesised or not): for every option list admitting the three parses,
    the three evaluators exist and on EVERY datum (well formed or not, any hook) the outcome of
    the first is the C03 `and` table of the outcomes of the other two. -/
theorem text_and_table (ρ ρ₁ ρ₂ : Top) (h : ρ.WF) (h₁ : ρ₁.WF) (h₂ : ρ₂.WF)
    (hast : ρ.ast = .and ρ₁.ast ρ₂.ast) (opts : List Opt)
    (hf : FitsIn (getOpts opts).maxExpressions ρ.text)
    (hf₁ : FitsIn (getOpts opts).maxExpressions ρ₁.text)
    (hf₂ : FitsIn (getOpts opts).maxExpressions ρ₂.text) :
    ∃ ev ev₁ ev₂, createEvaluator pinEnv pinGrammar ρ.text opts = .ok ev ∧
      createEvaluator pinEnv pinGrammar ρ₁.text opts = .ok ev₁ ∧
      createEvaluator pinEnv pinGrammar ρ₂.text opts = .ok ev₂ ∧
      ∀ (re : RegexOracle) (d : Any),
        ev.evaluate re d = C03.andTable (ev₁.evaluate re d) (ev₂.evaluate re d) := by
  refine ⟨_, _, _, created_fits ρ h opts hf, created_fits ρ₁ h₁ opts hf₁,
    created_fits ρ₂ h₂ opts hf₂, fun re d => ?_⟩
  show evaluate re (norm ρ.ast) _ d = _
  rw [hast]
  exact C03.and_table re _ d _ _

theorem text_or_table (ρ ρ₁ ρ₂ : Top) (h : ρ.WF) (h₁ : ρ₁.WF) (h₂ : ρ₂.WF)
    (hast : ρ.ast = .or ρ₁.ast ρ₂.ast) (opts : List Opt)
    (hf : FitsIn (getOpts opts).maxExpressions ρ.text)
    (hf₁ : FitsIn (getOpts opts).maxExpressions ρ₁.text)
    (hf₂ : FitsIn (getOpts opts).maxExpressions ρ₂.text) :
    ∃ ev ev₁ ev₂, createEvaluator pinEnv pinGrammar ρ.text opts = .ok ev ∧
      createEvaluator pinEnv pinGrammar ρ₁.text opts = .ok ev₁ ∧
      createEvaluator pinEnv pinGrammar ρ₂.text opts = .ok ev₂ ∧
      ∀ (re : RegexOracle) (d : Any),
        ev.evaluate re d = C03.orTable (ev₁.evaluate re d) (ev₂.evaluate re d) := by
  refine ⟨_, _, _, created_fits ρ h opts hf, created_fits ρ₁ h₁ opts hf₁,
    created_fits ρ₂ h₂ opts hf₂, fun re d => ?_⟩
  show evaluate re (norm ρ.ast) _ d = _
  rw [hast]
  exact C03.or_table re _ d _ _

/-- **`not` at the text level** (the parser folds `not not`; the outcome is the `not` table all
    the same). -/
theorem text_not_table (ρ ρ₁ : Top) (h : ρ.WF) (h₁ : ρ₁.WF) (hast : ρ.ast = .not ρ₁.ast)
    (opts : List Opt) (hf : FitsIn (getOpts opts).maxExpressions ρ.text)
    (hf₁ : FitsIn (getOpts opts).maxExpressions ρ₁.text) :
    ∃ ev ev₁, createEvaluator pinEnv pinGrammar ρ.text opts = .ok ev ∧
      createEvaluator pinEnv pinGrammar ρ₁.text opts = .ok ev₁ ∧
      ∀ (re : RegexOracle) (d : Any), ev.evaluate re d = C03.notTable (ev₁.evaluate re d) := by
  refine ⟨_, _, created_fits ρ h opts hf, created_fits ρ₁ h₁ opts hf₁, fun re d => ?_⟩
  show evaluate re (norm ρ.ast) _ d = _
  rw [hast]
  exact evaluate_notFold re _ _ d

/-- the same three statements on the REFERENCE outcomes of the operands' trees (from `created_refines_spec_fits`; here the
    datum has to satisfy `C01.Hyps`) -/
theorem text_and_table_spec (ρ ρ₁ ρ₂ : Top) (h : ρ.WF) (hast : ρ.ast = .and ρ₁.ast ρ₂.ast)
    (opts : List Opt) (hf : FitsIn (getOpts opts).maxExpressions ρ.text) :
    ∃ ev, createEvaluator pinEnv pinGrammar ρ.text opts = .ok ev ∧
      ∀ (re : RegexOracle) (d : Any), C01.Hyps d (cfgOf opts) (getOpts opts).unknown →
        ev.evaluate re d =
          C03.andTable (refOutcome re ρ₁.ast opts d) (refOutcome re ρ₂.ast opts d) := by
  obtain ⟨ev, hc, _, he⟩ := created_refines_spec_fits ρ h opts hf
  refine ⟨ev, hc, fun re d hy => ?_⟩
  rw [he re d hy, ← (tables_same _ _).1, hast]
  rfl

theorem text_or_table_spec (ρ ρ₁ ρ₂ : Top) (h : ρ.WF) (hast : ρ.ast = .or ρ₁.ast ρ₂.ast)
    (opts : List Opt) (hf : FitsIn (getOpts opts).maxExpressions ρ.text) :
    ∃ ev, createEvaluator pinEnv pinGrammar ρ.text opts = .ok ev ∧
      ∀ (re : RegexOracle) (d : Any), C01.Hyps d (cfgOf opts) (getOpts opts).unknown →
        ev.evaluate re d =
          C03.orTable (refOutcome re ρ₁.ast opts d) (refOutcome re ρ₂.ast opts d) := by
  obtain ⟨ev, hc, _, he⟩ := created_refines_spec_fits ρ h opts hf
  refine ⟨ev, hc, fun re d hy => ?_⟩
  rw [he re d hy, ← (tables_same _ _).2.1, hast]
  rfl

theorem text_not_table_spec (ρ ρ₁ : Top) (h : ρ.WF) (hast : ρ.ast = .not ρ₁.ast)
    (opts : List Opt) (hf : FitsIn (getOpts opts).maxExpressions ρ.text) :
    ∃ ev, createEvaluator pinEnv pinGrammar ρ.text opts = .ok ev ∧
      ∀ (re : RegexOracle) (d : Any), C01.Hyps d (cfgOf opts) (getOpts opts).unknown →
        ev.evaluate re d = C03.notTable (refOutcome re ρ₁.ast opts d) := by
  obtain ⟨ev, hc, _, he⟩ := created_refines_spec_fits ρ h opts hf
  refine ⟨ev, hc, fun re d hy => ?_⟩
  rw [he re d hy, ← notT_same, hast]
  rfl

/-- `(ρ₁) and (ρ₂)`; with `orOf`, `notOf`: renderings of `and` / `or` / `not` of given operands
    exist whatever the operands (`andOf_ok` …: the hypotheses `ρ.ast = …` of the table theorems
    are satisfiable) -/
def andOf (ρ₁ ρ₂ : Top) : Top :=
  ⟨[], .orUp (.andOp (.paren [] ρ₁.c []) [32] [32] (.andUp (.paren [] ρ₂.c []))), []⟩
def orOf (ρ₁ ρ₂ : Top) : Top :=
  ⟨[], .orOp (.andUp (.paren [] ρ₁.c [])) [32] [32] (.orUp (.andUp (.paren [] ρ₂.c []))), []⟩
def notOf (ρ₁ : Top) : Top := ⟨[], .orUp (.andUp (.notOp [32] (.paren [] ρ₁.c []))), []⟩

theorem andOf_ok (ρ₁ ρ₂ : Top) (h₁ : ρ₁.WF) (h₂ : ρ₂.WF) :
    (andOf ρ₁ ρ₂).WF ∧ (andOf ρ₁ ρ₂).ast = .and ρ₁.ast ρ₂.ast ∧
      (andOf ρ₁ ρ₂).text = [40] ++ (ρ₁.c.text ++ ([41] ++ ([32] ++ (kAnd ++ ([32] ++
        ([40] ++ (ρ₂.c.text ++ [41]))))))) :=
  ⟨⟨AllIn.nil, ⟨⟨AllIn.nil, h₁.2.1, AllIn.nil⟩, ⟨by decide, by decide⟩, ⟨by decide, by decide⟩,
    ⟨AllIn.nil, h₂.2.1, AllIn.nil⟩⟩, AllIn.nil⟩, rfl, by simp [andOf, Top.text, Sp.text]⟩

theorem orOf_ok (ρ₁ ρ₂ : Top) (h₁ : ρ₁.WF) (h₂ : ρ₂.WF) :
    (orOf ρ₁ ρ₂).WF ∧ (orOf ρ₁ ρ₂).ast = .or ρ₁.ast ρ₂.ast :=
  ⟨⟨AllIn.nil, ⟨⟨AllIn.nil, h₁.2.1, AllIn.nil⟩, ⟨by decide, by decide⟩, ⟨by decide, by decide⟩,
    ⟨AllIn.nil, h₂.2.1, AllIn.nil⟩⟩, AllIn.nil⟩, rfl⟩

theorem notOf_ok (ρ₁ : Top) (h₁ : ρ₁.WF) :
    (notOf ρ₁).WF ∧ (notOf ρ₁).ast = .not ρ₁.ast :=
  ⟨⟨AllIn.nil, ⟨⟨by decide, by decide⟩, ⟨AllIn.nil, h₁.2.1, AllIn.nil⟩⟩, AllIn.nil⟩, rfl⟩

/-- **Two renderings give the same outcome on every datum** as soon as their trees agree up to
    `not not` folding — in particular two renderings of the same tree (`renderings_agree`) —
    whenever both evaluators are returned (same option list); no hypothesis on the datum, hook,
    unknown-value, budget. -/
theorem renderings_agree_of_created (ρ₁ ρ₂ : Top) (h₁ : ρ₁.WF) (h₂ : ρ₂.WF)
    (hsame : norm ρ₁.ast = norm ρ₂.ast) (opts : List Opt) (ev₁ ev₂ : Evaluator)
    (hc₁ : createEvaluator pinEnv pinGrammar ρ₁.text opts = .ok ev₁)
    (hc₂ : createEvaluator pinEnv pinGrammar ρ₂.text opts = .ok ev₂)
    (re : RegexOracle) (d : Any) : ev₁.evaluate re d = ev₂.evaluate re d := by
  rw [created_eq_evOf ρ₁ h₁ opts ev₁ hc₁, created_eq_evOf ρ₂ h₂ opts ev₂ hc₂]
  show evaluate re (norm ρ₁.ast) _ d = evaluate re (norm ρ₂.ast) _ d
  rw [hsame]
  rfl

/-- for every option list admitting both parses the two evaluators are returned and agree -/
theorem renderings_agree_norm (ρ₁ ρ₂ : Top) (h₁ : ρ₁.WF) (h₂ : ρ₂.WF)
    (hsame : norm ρ₁.ast = norm ρ₂.ast) (opts : List Opt)
    (hf₁ : FitsIn (getOpts opts).maxExpressions ρ₁.text)
    (hf₂ : FitsIn (getOpts opts).maxExpressions ρ₂.text) :
    ∃ ev₁ ev₂, createEvaluator pinEnv pinGrammar ρ₁.text opts = .ok ev₁ ∧
      createEvaluator pinEnv pinGrammar ρ₂.text opts = .ok ev₂ ∧
      ∀ (re : RegexOracle) (d : Any), ev₁.evaluate re d = ev₂.evaluate re d :=
  have c₁ := created_fits ρ₁ h₁ opts hf₁
  have c₂ := created_fits ρ₂ h₂ opts hf₂
  ⟨_, _, c₁, c₂, renderings_agree_of_created ρ₁ ρ₂ h₁ h₂ hsame opts _ _ c₁ c₂⟩

theorem renderings_agree (ρ₁ ρ₂ : Top) (h₁ : ρ₁.WF) (h₂ : ρ₂.WF) (hsame : ρ₁.ast = ρ₂.ast)
    (opts : List Opt) (hf₁ : FitsIn (getOpts opts).maxExpressions ρ₁.text)
    (hf₂ : FitsIn (getOpts opts).maxExpressions ρ₂.text) :
    ∃ ev₁ ev₂, createEvaluator pinEnv pinGrammar ρ₁.text opts = .ok ev₁ ∧
      createEvaluator pinEnv pinGrammar ρ₂.text opts = .ok ev₂ ∧
      ∀ (re : RegexOracle) (d : Any), ev₁.evaluate re d = ev₂.evaluate re d :=
  renderings_agree_norm ρ₁ ρ₂ h₁ h₂ (by rw [hsame]) opts hf₁ hf₂

/-- trees that agree up to `not not` folding have the same reference outcome -/
theorem renderings_agree_spec (ρ₁ ρ₂ : Top) (hsame : norm ρ₁.ast = norm ρ₂.ast)
    (re : RegexOracle) (opts : List Opt) (d : Any) :
    refOutcome re ρ₁.ast opts d = refOutcome re ρ₂.ast opts d := by
  show Spec.denote re ρ₁.ast _ = Spec.denote re ρ₂.ast _
  rw [← norm_denote re ρ₁.ast, ← norm_denote re ρ₂.ast, hsame]

/-- the hypotheses of `created_refines_spec` under the default options: a well-formed datum of at most 2^63
    nodes (no hook, no unknown-value) -/
theorem hyps_default (d : Any) (hwf : Any.wf d = true) (hsz : Proofs.SpecLemmas.rvSize d ≤ 2 ^ 63) :
    C01.Hyps d (cfgOf []) (getOpts []).unknown :=
  C01.hyps_of_size d _ _ hwf (Or.inl rfl) (by intro u h; cases h) hsz

/-! ## 6. Non-vacuity: concrete texts with unusual layout, concrete data, kernel-computed outcomes -/

namespace Example
open Bexpr.Props.C16.Example (asc top top_WF top_text top_engine selWF valExpr asc_ofList)
open Bexpr.Props.C07Eval.Example (steps_eq_cnt createAndEvaluate)

/-- the regexp engine that compiles nothing (not consulted by the operators used here) -/
def noRe : RegexOracle := fun _ => none

/-! data as `json.Unmarshal` into an `interface{}` builds them -/
def jstr (s : GoString) : GoVal := .str "" s
def jnum (bits : Nat) : GoVal := .float .float64 "" bits
def jbool (b : Bool) : GoVal := .bool "" b
def jarr (xs : List GoVal) : GoVal := .slice "" .iface false (xs.map fun x => .iface (some x))
def jobj (es : List (GoString × GoVal)) : GoVal :=
  .map "" GoType.stringT .iface false (es.map fun e => (.str "" e.1, .iface (some e.2)))

/-! ### A. `C16.Example.top`: two leading blanks, a bracketed index with a blank inside, a
    negative number, `not not` before a redundant parenthesis, a backquoted literal, two blanks
    and a TAB around `in`, a JSON-pointer selector with an escaped `/`:

      `  a.b[ "c"]!= -12.5 or not not ( `x y` not  in<TAB>"/p/q~1r" )  and foo is empty ` -/

/-- `{"a": {"b": {"c": -12.5}}, "p": {"q/r": ["z"]}, "foo": ""}` -/
def dA1 : Any := some (jobj [
  (asc "a", jobj [(asc "b", jobj [(asc "c", jnum 0xC029000000000000)])]),
  (asc "p", jobj [(asc "q/r", jarr [jstr (asc "z")])]),
  (asc "foo", jstr [])])

/-- the same without `foo` -/
def dA2 : Any := some (jobj [
  (asc "a", jobj [(asc "b", jobj [(asc "c", jnum 0xC029000000000000)])]),
  (asc "p", jobj [(asc "q/r", jarr [jstr (asc "z")])])])

/-- `{"a": {"b": {"c": 1}}}`: the left operand of `or` decides -/
def dA3 : Any := some (jobj [
  (asc "a", jobj [(asc "b", jobj [(asc "c", jnum 0x3FF0000000000000)])])])

theorem hypsA : C01.Hyps dA1 (cfgOf []) (getOpts []).unknown ∧
    C01.Hyps dA2 (cfgOf []) (getOpts []).unknown ∧ C01.Hyps dA3 (cfgOf []) (getOpts []).unknown :=
  ⟨hyps_default dA1 (by decide) (by decide), hyps_default dA2 (by decide) (by decide),
   hyps_default dA3 (by decide) (by decide)⟩

theorem fitsA : Fits top.text := C16Eval.fits_of_cnt top_engine.1 (by decide)

/-- the reference outcomes of the PRINTED tree (with its `not not`), computed by the kernel -/
theorem refA : refOutcome noRe top.ast [] dA1 = .val true ∧
    refOutcome noRe top.ast [] dA2 = .err false ∧ refOutcome noRe top.ast [] dA3 = .val true := by
  decide +kernel

/-- **Example A as an instance of `created_refines_spec`**: `CreateEvaluator` on the text returns an
    evaluator, and it returns `true` on `dA1`, an error on `dA2` (no `foo`), `true` on `dA3`. -/
theorem exampleA : ∃ ev, createEvaluator pinEnv pinGrammar top.text [] = .ok ev ∧
    ev.evaluate noRe dA1 = .val true ∧ ev.evaluate noRe dA2 = .err false ∧
    ev.evaluate noRe dA3 = .val true := by
  obtain ⟨ev, hc, _, he⟩ := created_refines_spec_default top top_WF fitsA
  exact ⟨ev, hc, (he noRe dA1 hypsA.1).trans refA.1, (he noRe dA2 hypsA.2.1).trans refA.2.1,
    (he noRe dA3 hypsA.2.2).trans refA.2.2⟩

/-- **The budget hypothesis cannot be dropped**: the parse of the text of example A takes 2776
    steps; with `MaxExpressions(2776)` the evaluator is created (and returns `true` on `dA1`),
    with `MaxExpressions(2775)` `CreateEvaluator` returns the max-expressions error. -/
theorem budget_needed :
    (∃ ev, createEvaluator pinEnv pinGrammar top.text [.maxExpressions 2776] = .ok ev ∧
      ev.evaluate noRe dA1 = .val true) ∧
    createEvaluator pinEnv pinGrammar top.text [.maxExpressions 2775] = .err := by
  obtain ⟨N, hN, hc⟩ := created_refines_spec top top_WF
  have hN' : N = 2776 := (steps_eq_cnt hN fitsA).trans top_engine.1
  subst hN'
  have hb : (getOpts [.maxExpressions 2776]).maxExpressions = 2776 := rfl
  have hb' : (getOpts [.maxExpressions 2775]).maxExpressions = 2775 := rfl
  constructor
  · obtain ⟨ev, hev, _, he⟩ := hc [.maxExpressions 2776] (by rw [hb]; decide)
    exact ⟨ev, hev, (he noRe dA1 hypsA.1).trans refA.1⟩
  · exact C07Eval.create_of_exceeded hN _ (by rw [hb']; decide)

/-! ### B. Quantifiers, newlines and tabs, `_ ,<TAB>v` binding, a bracketed selector as the
    collection of the inner quantifier, a redundant parenthesis around a backquoted comparison:

      <LF>all items as _ ,<TAB>v {<LF><TAB>v.ok != true or<LF><TAB>any v["tags"] as t { ( t == `x` ) }<LF>}<LF> -/

/-- ``t == `x` `` -/
def leafT : MatchSp := .opValue (.bexpr ⟨116, [], []⟩) (.eq [32] [32]) (.str 0x60 [120] [120])
/-- `v.ok != true` -/
def leafOk : MatchSp :=
  .opValue (.bexpr ⟨118, [], [.dotIdent 111 [107]]⟩) (.ne [32] [32]) (.sel ⟨116, [114, 117, 101], []⟩)

def topB : Top :=
  ⟨[10],
   .coll .all [32] (.bexpr ⟨105, [116, 101, 109, 115], []⟩) [32] [32]
     (.value [32] [9] ⟨118, []⟩) [32] [10, 9]
     (.orOp (.andUp (.leaf leafOk)) [32] [10, 9]
       (.coll .any [32] (.bexpr ⟨118, [], [.index [] 0x22 [116, 97, 103, 115] [] [116, 97, 103, 115]]⟩)
         [32] [32] (.dflt ⟨116, []⟩) [32] [32]
         (.orUp (.andUp (.paren [32] (.orUp (.andUp (.leaf leafT))) [32])))
         [32]))
     [10],
   [10]⟩

theorem topB_text : topB.text =
    asc "\nall items as _ ,\tv {\n\tv.ok != true or\n\tany v[\"tags\"] as t { ( t == `x` ) }\n}\n" := by
  rw [asc_ofList]
  decide +kernel

theorem topB_ast : topB.ast =
    .coll .all ⟨.bexpr, [asc "items"]⟩ { mode := .value, value := asc "v" }
      (.or (.match_ ⟨.bexpr, [asc "v", asc "ok"]⟩ .notEqual (some (asc "true")))
        (.coll .any ⟨.bexpr, [asc "v", asc "tags"]⟩ { mode := .default, default := asc "t" }
          (.match_ ⟨.bexpr, [asc "t"]⟩ .equal (some (asc "x"))))) := by
  rw [asc_ofList, asc_ofList, asc_ofList, asc_ofList, asc_ofList, asc_ofList, asc_ofList]
  decide +kernel

theorem topB_WF : topB.WF := by decide +kernel

/-- `{"items": [{"ok": false, "tags": []}, {"ok": true, "tags": ["y", "x"]}]}` -/
def dB1 : Any := some (jobj [(asc "items", jarr [
  jobj [(asc "ok", jbool false), (asc "tags", jarr [])],
  jobj [(asc "ok", jbool true), (asc "tags", jarr [jstr (asc "y"), jstr (asc "x")])]])])

/-- `{"items": [{"ok": true, "tags": ["y"]}, {"tags": 1}]}`: the first element decides, the
    second (on which the body is an error) is not looked at -/
def dB2 : Any := some (jobj [(asc "items", jarr [
  jobj [(asc "ok", jbool true), (asc "tags", jarr [jstr (asc "y")])],
  jobj [(asc "tags", jnum 0x3FF0000000000000)]])])

/-- `{"items": [{"ok": true, "tags": 1}]}`: `tags` is not iterable -/
def dB3 : Any := some (jobj [(asc "items", jarr [
  jobj [(asc "ok", jbool true), (asc "tags", jnum 0x3FF0000000000000)]])])

theorem hypsB : C01.Hyps dB1 (cfgOf []) (getOpts []).unknown ∧
    C01.Hyps dB2 (cfgOf []) (getOpts []).unknown ∧ C01.Hyps dB3 (cfgOf []) (getOpts []).unknown :=
  ⟨hyps_default dB1 (by decide) (by decide), hyps_default dB2 (by decide) (by decide),
   hyps_default dB3 (by decide) (by decide)⟩

/-- The engine's runs of the examples in one kernel evaluation (the kernel shares the grammar's
    rule lookups and the runs of one text only inside one declaration): the run of text B, the
    fact that the unlimited parse of `(A) and (B)` stays below 2^64 steps (it takes 29225: the
    operands in parentheses are parsed again at every grammar level above them), and parse + create + evaluate of B and of A on their data
    (`exampleB_kernel`, `exampleA_kernel`). -/
theorem engine_runs :
    ((run pinEnv pinGrammar 0 topB.text).cnt = 5216 ∧
      (run pinEnv pinGrammar 0 topB.text).errs = [] ∧
      valExpr (run pinEnv pinGrammar 0 topB.text).val = some (norm topB.ast)) ∧
    FitsIn 0 (andOf top topB).text ∧
    (createAndEvaluate topB.text [] noRe dB1 = some (.val true) ∧
      createAndEvaluate topB.text [] noRe dB2 = some (.val false) ∧
      createAndEvaluate topB.text [] noRe dB3 = some (.err false)) ∧
    (createAndEvaluate top.text [] noRe dA1 = some (.val true) ∧
      createAndEvaluate top.text [] noRe dA2 = some (.err false)) := by
  decide +kernel

theorem topB_engine :
    (run pinEnv pinGrammar 0 topB.text).cnt = 5216 ∧ (run pinEnv pinGrammar 0 topB.text).errs = [] ∧
    valExpr (run pinEnv pinGrammar 0 topB.text).val = some (norm topB.ast) :=
  engine_runs.1

theorem fitsB : Fits topB.text := C16Eval.fits_of_cnt topB_engine.1 (by decide)

theorem refB : refOutcome noRe topB.ast [] dB1 = .val true ∧
    refOutcome noRe topB.ast [] dB2 = .val false ∧ refOutcome noRe topB.ast [] dB3 = .err false := by
  decide +kernel

/-- **Example B as an instance of `created_refines_spec`.** -/
theorem exampleB : ∃ ev, createEvaluator pinEnv pinGrammar topB.text [] = .ok ev ∧
    ev.evaluate noRe dB1 = .val true ∧ ev.evaluate noRe dB2 = .val false ∧
    ev.evaluate noRe dB3 = .err false := by
  obtain ⟨ev, hc, _, he⟩ := created_refines_spec_default topB topB_WF fitsB
  exact ⟨ev, hc, (he noRe dB1 hypsB.1).trans refB.1, (he noRe dB2 hypsB.2.1).trans refB.2.1,
    (he noRe dB3 hypsB.2.2).trans refB.2.2⟩

/-- options for example B: another tag name, the identity hook, an unknown-value that is not
    iterable, a budget — the hypotheses of `created_refines_spec` are satisfiable for non-default
    options (`exampleB_opts`) -/
def optsB : List Opt :=
  [.tagName [0x6A], .hookFn .identity, .unknownValue (some (.str "" [63])), .maxExpressions 100000]

theorem exampleB_opts : ∃ ev, createEvaluator pinEnv pinGrammar topB.text optsB = .ok ev ∧
    ev.evaluate noRe dB1 = refOutcome noRe topB.ast optsB dB1 := by
  obtain ⟨ev, hc, _, he⟩ := created_refines_spec_fits topB topB_WF optsB
    (fitsIn_of_cnt topB topB_WF fitsB _ (by rw [topB_engine.1]; decide))
  refine ⟨ev, hc, he noRe dB1 ?_⟩
  refine C01.hyps_of_size dB1 _ _ (by decide) (Or.inr rfl) ?_ (by decide)
  intro u h
  have hu : (getOpts optsB).unknown = some (some (.str "" [63])) := rfl
  have : u = some (.str "" [63]) := (Option.some.inj (hu.symm.trans h)).symm
  subst this
  simp [C06.Iterable]

/-- Example B computed by the kernel from the BYTES, independently of the theorems (in
    `engine_runs`) -/
theorem exampleB_kernel :
    createAndEvaluate
      (asc "\nall items as _ ,\tv {\n\tv.ok != true or\n\tany v[\"tags\"] as t { ( t == `x` ) }\n}\n")
      [] noRe dB1 = some (.val true) ∧
    createAndEvaluate topB.text [] noRe dB2 = some (.val false) ∧
    createAndEvaluate topB.text [] noRe dB3 = some (.err false) := by
  rw [← topB_text]
  exact engine_runs.2.2.1

/-- Example A computed by the kernel from the BYTES, independently of the theorems: parse
    (engine on the pinned grammar), create, evaluate (in `engine_runs`) -/
theorem exampleA_kernel :
    createAndEvaluate
      (asc "  a.b[ \"c\"]!= -12.5 or not not ( `x y` not  in\t\"/p/q~1r\" )  and foo is empty ")
      [] noRe dA1 = some (.val true) ∧
    createAndEvaluate top.text [] noRe dA2 = some (.err false) := by
  rw [← top_text]
  exact engine_runs.2.2.2

/-- the corollaries apply: `(A) and (B)` built from the two renderings -/
example : ∃ ev ev₁ ev₂, createEvaluator pinEnv pinGrammar (andOf top topB).text [] = .ok ev ∧
    createEvaluator pinEnv pinGrammar top.text [] = .ok ev₁ ∧
    createEvaluator pinEnv pinGrammar topB.text [] = .ok ev₂ ∧
    ∀ (re : RegexOracle) (d : Any),
      ev.evaluate re d = C03.andTable (ev₁.evaluate re d) (ev₂.evaluate re d) :=
  text_and_table _ top topB (andOf_ok top topB top_WF topB_WF).1 top_WF topB_WF
    (andOf_ok top topB top_WF topB_WF).2.1 [] engine_runs.2.1 ((fitsIn_zero_iff _).2 fitsA)
    ((fitsIn_zero_iff _).2 fitsB)

end Example

end Bexpr.Props.C01Eval

#print axioms Bexpr.Props.C01Eval.matchValue_err_false
#print axioms Bexpr.Props.C01Eval.fold_err_false
#print axioms Bexpr.Props.C01Eval.denote_err_false
#print axioms Bexpr.Props.C01Eval.denote_notFold
#print axioms Bexpr.Props.C01Eval.norm_denote
#print axioms Bexpr.Props.C01Eval.evaluate_notFold
#print axioms Bexpr.Props.C01Eval.norm_evaluate
#print axioms Bexpr.Props.C01Eval.norm_evaluator
#print axioms Bexpr.Props.C01Eval.wellBound_notFold
#print axioms Bexpr.Props.C01Eval.wellBound_norm
#print axioms Bexpr.Props.C01Eval.quantFree_notFold
#print axioms Bexpr.Props.C01Eval.quantFree_norm
#print axioms Bexpr.Props.C01Eval.selX_path_nonempty
#print axioms Bexpr.Props.C01Eval.bindSp_oneAlias
#print axioms Bexpr.Props.C01Eval.matchSp_wellBound
#print axioms Bexpr.Props.C01Eval.sp_wellBound
#print axioms Bexpr.Props.C01Eval.rendering_wellBound
#print axioms Bexpr.Props.C01Eval.evOf_refines
#print axioms Bexpr.Props.C01Eval.created_eq_evOf
#print axioms Bexpr.Props.C01Eval.created_refines_spec
#print axioms Bexpr.Props.C01Eval.created_refines_spec_fits
#print axioms Bexpr.Props.C01Eval.created_refines_spec_default
#print axioms Bexpr.Props.C01Eval.created_refines_spec_of_created
#print axioms Bexpr.Props.C01Eval.created_refines_spec_quantifier_free
#print axioms Bexpr.Props.C01Eval.created_fits
#print axioms Bexpr.Props.C01Eval.tables_same
#print axioms Bexpr.Props.C01Eval.text_and_table
#print axioms Bexpr.Props.C01Eval.text_or_table
#print axioms Bexpr.Props.C01Eval.text_not_table
#print axioms Bexpr.Props.C01Eval.text_and_table_spec
#print axioms Bexpr.Props.C01Eval.text_or_table_spec
#print axioms Bexpr.Props.C01Eval.text_not_table_spec
#print axioms Bexpr.Props.C01Eval.andOf_ok
#print axioms Bexpr.Props.C01Eval.orOf_ok
#print axioms Bexpr.Props.C01Eval.notOf_ok
#print axioms Bexpr.Props.C01Eval.renderings_agree_norm
#print axioms Bexpr.Props.C01Eval.renderings_agree
#print axioms Bexpr.Props.C01Eval.renderings_agree_of_created
#print axioms Bexpr.Props.C01Eval.renderings_agree_spec
#print axioms Bexpr.Props.C01Eval.Example.hypsA
#print axioms Bexpr.Props.C01Eval.Example.fitsA
#print axioms Bexpr.Props.C01Eval.Example.refA
#print axioms Bexpr.Props.C01Eval.Example.exampleA
#print axioms Bexpr.Props.C01Eval.Example.exampleA_kernel
#print axioms Bexpr.Props.C01Eval.Example.budget_needed
#print axioms Bexpr.Props.C01Eval.Example.topB_text
#print axioms Bexpr.Props.C01Eval.Example.topB_ast
#print axioms Bexpr.Props.C01Eval.Example.topB_WF
#print axioms Bexpr.Props.C01Eval.Example.hypsB
#print axioms Bexpr.Props.C01Eval.Example.fitsB
#print axioms Bexpr.Props.C01Eval.Example.refB
#print axioms Bexpr.Props.C01Eval.Example.exampleB
#print axioms Bexpr.Props.C01Eval.Example.exampleB_opts
#print axioms Bexpr.Props.C01Eval.Example.exampleB_kernel
