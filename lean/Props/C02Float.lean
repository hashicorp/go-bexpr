/-
  Props.C02Float — property C02, float part: "a float literal is compared as the
  NEAREST float of the field's width".

  `parseFloat` (the model of Go's `strconv.ParseFloat`) scans the literal into an
  exact rational and rounds it with `roundRat`.  For both IEEE formats at once (a format
  record `f` with `FloatFmt.WF`) `roundRat` is (1) nearest, (2) ties to even, (3) monotone,
  (4) overflows exactly from `maxFinite + ulp/2` on, (5) exact on representable values;
  (6) (1), (2), (4), (5) for `parseFloat` on every literal `readFloat` accepts ((3) is not
  lifted), and what the scan yields on `[+-]digits[.digits][e[+-]digits]`.

  All distances are cross-multiplied (`ratDistLe`, `sdist`): no division occurs.
  Proofs are in `Proofs/FloatRound.lean`.
-/
import Proofs.FloatRound

namespace Bexpr.Props.C02Float
open Bexpr Bexpr.Strconv Bexpr.GoString

/-! ## 1. Rounding a non-negative rational: `roundRat`

`roundRat f num den : Nat` is the sign-less pattern; a value `≥ f.infBits` signals
overflow.  `finiteToRat f b = (n, d)` is the exact value `n/d` of the finite pattern `b`.
`ratDistLe x p q` is `|p - x| ≤ |q - x|`, `ratDistEq x p q` is `|p - x| = |q - x|`.
The theorems of this section restate `Strconv.roundRat_*` of `Proofs/FloatRound.lean`. -/

/-- (5) **Exactness.**  If `num/den` equals the value of the sign-less pattern `b`, the
result is `b`.  (No sign is involved at this level: `roundRat` rounds magnitudes; the sign
of the literal is attached by `parseFloat`, see `parseFloat_exact` for the zero case.) -/
theorem roundRat_exact (f : FloatFmt) (hf : f.WF) (num den : Nat) (hd : den ≠ 0)
    (b : Nat) (hb : b < f.infBits)
    (hval : num * (finiteToRat f b).2 = (finiteToRat f b).1 * den) :
    roundRat f num den = b :=
  Strconv.roundRat_exact f hf num den hd b (Nat.lt_trans hb (infBits_lt_signBit f)) hval

/-- (1) **Nearest.**  A finite result is at least as close to `num/den` as EVERY finite
pattern of the format. -/
theorem roundRat_finite_nearest (f : FloatFmt) (hf : f.WF) (num den : Nat) (hd : den ≠ 0)
    (bits : Nat) (hbits : roundRat f num den = bits) (hfin : bits < f.infBits)
    (b' : Nat) (hb' : b' < f.infBits) :
    ratDistLe (num, den) (finiteToRat f bits) (finiteToRat f b') := by
  subst hbits
  exact Strconv.roundRat_finite_nearest f hf num den hd hfin b' hb'

/-- (2) **Ties to even.**  If another finite pattern is exactly as close, the returned
pattern has an even fraction field. -/
theorem roundRat_ties_even (f : FloatFmt) (hf : f.WF) (num den : Nat) (hd : den ≠ 0)
    (bits : Nat) (hbits : roundRat f num den = bits) (hfin : bits < f.infBits)
    (b' : Nat) (hb' : b' < f.infBits) (hne : b' ≠ bits)
    (htie : ratDistEq (num, den) (finiteToRat f b') (finiteToRat f bits)) :
    f.fracOf bits % 2 = 0 := by
  subst hbits
  exact Strconv.roundRat_ties_even f hf num den hd hfin b' hb' hne htie

/-- (3) **Monotone.**  `n1/d1 ≤ n2/d2` implies `roundRat f n1 d1 ≤ roundRat f n2 d2`. -/
theorem roundRat_monotone (f : FloatFmt) (hf : f.WF) (n1 d1 n2 d2 : Nat) (hd1 : d1 ≠ 0)
    (hd2 : d2 ≠ 0) (h : n1 * d2 ≤ n2 * d1) : roundRat f n1 d1 ≤ roundRat f n2 d2 :=
  Strconv.roundRat_monotone f hf n1 d1 n2 d2 hd1 hd2 h

/-- The result depends only on the rational, not on the fraction representing it. -/
theorem roundRat_congr (f : FloatFmt) (hf : f.WF) (n1 d1 n2 d2 : Nat) (hd1 : d1 ≠ 0)
    (hd2 : d2 ≠ 0) (h : n1 * d2 = n2 * d1) : roundRat f n1 d1 = roundRat f n2 d2 :=
  Nat.le_antisymm (Strconv.roundRat_monotone f hf n1 d1 n2 d2 hd1 hd2 (Nat.le_of_eq h))
    (Strconv.roundRat_monotone f hf n2 d2 n1 d1 hd2 hd1 (Nat.le_of_eq h.symm))

/-- (4) **Overflow**, any format, in units of the smallest subnormal `2^(-ushift)`
(`ulps f b` is the value of pattern `b` in these units): the result leaves the finite
range iff `num/den ≥ (maxFinite + 2^(emax+1)) / 2 = maxFinite + ulp/2`. -/
theorem roundRat_overflow_iff (f : FloatFmt) (hf : f.WF) (num den : Nat) (hd : den ≠ 0) :
    f.infBits ≤ roundRat f num den ↔
      (ulps f (f.infBits - 1) + ulps f f.infBits) * den ≤ 2 * (num * 2 ^ f.ushift) :=
  Strconv.roundRat_overflow_iff f hf num den hd

/-- (4) binary64: overflow iff `num/den ≥ (2^54 - 1) * 2^970 = MaxFloat64 + 2^970`. -/
theorem roundRat_overflow_iff64 (num den : Nat) (hd : den ≠ 0) :
    fmt64.infBits ≤ roundRat fmt64 num den ↔ (2 ^ 54 - 1) * 2 ^ 970 * den ≤ num :=
  roundRat64_overflow_iff num den hd

/-- (4) binary32: overflow iff `num/den ≥ (2^25 - 1) * 2^103 = MaxFloat32 + 2^103`. -/
theorem roundRat_overflow_iff32 (num den : Nat) (hd : den ≠ 0) :
    fmt32.infBits ≤ roundRat fmt32 num den ↔ (2 ^ 25 - 1) * 2 ^ 103 * den ≤ num :=
  roundRat32_overflow_iff num den hd

/-! ## 2. `parseFloat` on any literal accepted by `readFloat`

`readFloat s = some r` gives sign `r.neg` and the exact magnitude `r.toRat = (num, den)`
(`mant * 10^exp` or `mant * 2^exp`).  In this section patterns carry a sign: `patNeg f b`, magnitude
`patMag f b`, finite patterns `isFinitePat f b`; `sdist` is the signed cross-multiplied
distance. -/

/-- `bits` is at least as close to `(-1)^neg * x.1/x.2` as `b'`:
`|val bits - x| ≤ |val b' - x|`, cross-multiplied. -/
def NoFarther (f : FloatFmt) (neg : Bool) (x : Nat × Nat) (bits b' : Nat) : Prop :=
  sdist neg x (patNeg f bits) (patMag f bits) * (patMag f b').2 ≤
    sdist neg x (patNeg f b') (patMag f b') * (patMag f bits).2

/-- `|val b' - x| = |val bits - x|`, cross-multiplied. -/
def EquallyFar (f : FloatFmt) (neg : Bool) (x : Nat × Nat) (bits b' : Nat) : Prop :=
  sdist neg x (patNeg f b') (patMag f b') * (patMag f bits).2 =
    sdist neg x (patNeg f bits) (patMag f bits) * (patMag f b').2

/-- `bits` is a finite pattern nearest to `(-1)^neg * x.1/x.2` among all finite patterns
of the format, and is the even one if there are two. -/
structure NearestEven (f : FloatFmt) (neg : Bool) (x : Nat × Nat) (bits : Nat) : Prop where
  finite : isFinitePat f bits
  sign : patNeg f bits = neg
  nearest : ∀ b', isFinitePat f b' → NoFarther f neg x bits b'
  even : ∀ b', isFinitePat f b' → b' ≠ bits → EquallyFar f neg x bits b' → f.fracOf bits % 2 = 0

theorem toRat_den_ne_zero (r : ReadFloat) : r.toRat.2 ≠ 0 := by
  unfold ReadFloat.toRat
  simp only
  split
  · simp
  · have : 0 < (if r.hex = true then 2 else 10) ^ (-r.exp).toNat := Nat.pow_pos (by split <;> omega)
    simp only; omega

/-- The numeric arm of `parseFloat` (`readFloat` accepting excludes the `inf`/`nan` arm). -/
theorem parseFloat_of_readFloat (s : GoString) (bitSize : Nat) (r : ReadFloat)
    (hr : readFloat s = some r) :
    parseFloat s bitSize =
      if (fmtOf bitSize).infBits ≤ roundRat (fmtOf bitSize) r.toRat.1 r.toRat.2 then .error .range
      else .ok (withSign (fmtOf bitSize) r.neg (roundRat (fmtOf bitSize) r.toRat.1 r.toRat.2)) := by
  simp only [parseFloat, special_none_of_readFloat s r hr, hr, withSign, ge_iff_le]

/-- `withSign neg (roundRat num den)` is nearest-even for `(-1)^neg * num/den`. -/
theorem nearestEven_withSign (f : FloatFmt) (hf : f.WF) (neg : Bool) (num den : Nat)
    (hd : den ≠ 0) (hfin : roundRat f num den < f.infBits) :
    NearestEven f neg (num, den) (withSign f neg (roundRat f num den)) := by
  have hs := infBits_lt_signBit f
  refine ⟨⟨withSign_lt f neg _ (by omega), ?_⟩, patNeg_withSign f neg _ (by omega), ?_, ?_⟩
  · rw [absOf_withSign f neg _ (by omega)]; exact hfin
  · exact fun b' hb' => roundRat_signed_nearest f hf neg num den hd hfin b' hb'
  · exact fun b' hb' hne htie => roundRat_signed_ties_even f hf neg num den hd hfin b' hb' hne htie

/-- (6) **`parseFloat` returns a nearest float of the requested width, ties to even.**
For every literal `s` that `readFloat` accepts (decimal or hexadecimal, with or without
sign, point, exponent, underscores) with sign `r.neg` and exact magnitude `r.toRat`: if
`parseFloat s bitSize = .ok bits` then `bits` is a finite pattern with the literal's sign,
no finite pattern of either sign is closer to the literal's exact value, and if another one
is equally close then `bits` has an even fraction field. -/
theorem parseFloat_nearest (s : GoString) (bitSize : Nat) (r : ReadFloat) (bits : Nat)
    (hr : readFloat s = some r) (hok : parseFloat s bitSize = .ok bits) :
    NearestEven (fmtOf bitSize) r.neg r.toRat bits := by
  rw [parseFloat_of_readFloat s bitSize r hr] at hok
  split at hok
  · cases hok
  · rename_i hfin
    cases hok
    exact nearestEven_withSign (fmtOf bitSize) (fmtOf_wf bitSize) r.neg r.toRat.1 r.toRat.2
      (toRat_den_ne_zero r) (by omega)

/-- (6) The tie clause on its own. -/
theorem parseFloat_ties_even (s : GoString) (bitSize : Nat) (r : ReadFloat) (bits : Nat)
    (hr : readFloat s = some r) (hok : parseFloat s bitSize = .ok bits)
    (b' : Nat) (hb' : isFinitePat (fmtOf bitSize) b') (hne : b' ≠ bits)
    (htie : EquallyFar (fmtOf bitSize) r.neg r.toRat bits b') :
    (fmtOf bitSize).fracOf bits % 2 = 0 :=
  (parseFloat_nearest s bitSize r bits hr hok).even b' hb' hne htie

/-- The numeric arm of `parseFloat` when the rounding is known and finite. -/
theorem parseFloat_of_round (s : GoString) (bitSize : Nat) (r : ReadFloat)
    (hr : readFloat s = some r) (a : Nat) (ha : a < (fmtOf bitSize).infBits)
    (h : roundRat (fmtOf bitSize) r.toRat.1 r.toRat.2 = a) :
    parseFloat s bitSize = .ok (withSign (fmtOf bitSize) r.neg a) := by
  rw [parseFloat_of_readFloat s bitSize r hr, h, if_neg (by omega)]

/-- (5) for `parseFloat`: a literal whose exact magnitude is the value of the finite
sign-less pattern `a` parses to `a` with the LITERAL's sign — so `-0`, `-0.0`, `-0e5` give
the negative zero `signBit`, and `0` gives `0`. -/
theorem parseFloat_exact (s : GoString) (bitSize : Nat) (r : ReadFloat)
    (hr : readFloat s = some r) (a : Nat) (ha : a < (fmtOf bitSize).infBits)
    (hval : r.toRat.1 * (finiteToRat (fmtOf bitSize) a).2 =
      (finiteToRat (fmtOf bitSize) a).1 * r.toRat.2) :
    parseFloat s bitSize = .ok (withSign (fmtOf bitSize) r.neg a) :=
  parseFloat_of_round s bitSize r hr a ha
    (roundRat_exact (fmtOf bitSize) (fmtOf_wf bitSize) r.toRat.1 r.toRat.2
      (toRat_den_ne_zero r) a ha hval)

/-- (4) for `parseFloat`: a range error exactly when the rounding overflows. -/
theorem parseFloat_range_iff (s : GoString) (bitSize : Nat) (r : ReadFloat)
    (hr : readFloat s = some r) :
    parseFloat s bitSize = .error .range ↔
      (fmtOf bitSize).infBits ≤ roundRat (fmtOf bitSize) r.toRat.1 r.toRat.2 := by
  rw [parseFloat_of_readFloat s bitSize r hr]
  split <;> simp_all

/-- (4) for `parseFloat` at width 64 (as in Go: every `bitSize` other than 32): a range error
exactly from `(2^54 - 1) * 2^970` on. -/
theorem parseFloat_range_iff64 (s : GoString) (bitSize : Nat) (hb : bitSize ≠ 32) (r : ReadFloat)
    (hr : readFloat s = some r) :
    parseFloat s bitSize = .error .range ↔ (2 ^ 54 - 1) * 2 ^ 970 * r.toRat.2 ≤ r.toRat.1 := by
  have hf : fmtOf bitSize = fmt64 := by simp [fmtOf, hb]
  rw [parseFloat_range_iff s bitSize r hr, hf]
  exact roundRat64_overflow_iff _ _ (toRat_den_ne_zero r)

/-- (4) for `parseFloat`, 32 bit: a range error exactly from `(2^25 - 1) * 2^103` on. -/
theorem parseFloat_range_iff32 (s : GoString) (r : ReadFloat) (hr : readFloat s = some r) :
    parseFloat s 32 = .error .range ↔ (2 ^ 25 - 1) * 2 ^ 103 * r.toRat.2 ≤ r.toRat.1 :=
  (parseFloat_range_iff s 32 r hr).trans (roundRat32_overflow_iff _ _ (toRat_den_ne_zero r))

/-- A literal accepted by `readFloat` never yields a syntax error. -/
theorem parseFloat_no_syntax_error (s : GoString) (bitSize : Nat) (r : ReadFloat)
    (hr : readFloat s = some r) : parseFloat s bitSize ≠ .error .syntax := by
  rw [parseFloat_of_readFloat s bitSize r hr]
  split <;> simp

/-! ## 3. Decimal literals `[+-]digits[.digits][e[+-]digits]`

`DecLit` describes such a literal (`l.text` is its text); `l.mant` is the integer made of
all its mantissa digits, `l.exp10` the written exponent (Go's saturating reading
`expVal`, equal to the decimal value below `100000`: `expVal_eq_decVal`) minus the number
of fraction digits. -/

/-- The exact magnitude `mant * 10^exp10` as a fraction. -/
def litRat (mant : Nat) (exp10 : Int) : Nat × Nat :=
  if exp10 ≥ 0 then (mant * 10 ^ exp10.toNat, 1) else (mant, 10 ^ (-exp10).toNat)

/-- `Strconv.readFloat_decLit`, restated. -/
theorem readFloat_decLit (l : DecLit) (h : l.WF) :
    readFloat l.text = some ⟨l.neg, false, l.mant, l.exp10⟩ :=
  Strconv.readFloat_decLit l h

/-- (6) **Decimal literals**: `parseFloat` either reports a range error or returns a
nearest-even float of `(-1)^neg * mant * 10^exp10`. -/
theorem parseFloat_decLit (l : DecLit) (h : l.WF) (bitSize : Nat) :
    parseFloat l.text bitSize = .error .range ∨
    ∃ bits, parseFloat l.text bitSize = .ok bits ∧
      NearestEven (fmtOf bitSize) l.neg (litRat l.mant l.exp10) bits := by
  have hr := readFloat_decLit l h
  cases hp : parseFloat l.text bitSize with
  | error e =>
    cases e
    · exact absurd hp (parseFloat_no_syntax_error _ _ _ hr)
    · exact Or.inl rfl
  | ok bits => exact Or.inr ⟨bits, rfl, parseFloat_nearest _ _ _ _ hr hp⟩

/-- (6) as an implication. -/
theorem parseFloat_decLit_nearest (l : DecLit) (h : l.WF) (bitSize bits : Nat)
    (hok : parseFloat l.text bitSize = .ok bits) :
    NearestEven (fmtOf bitSize) l.neg (litRat l.mant l.exp10) bits :=
  parseFloat_nearest _ _ _ _ (readFloat_decLit l h) hok

/-- Shape `digits`. -/
theorem parseFloat_digits_nearest (ip : GoString) (hip : AllDec ip) (hne : ip ≠ [])
    (bitSize bits : Nat) (hok : parseFloat ip bitSize = .ok bits) :
    NearestEven (fmtOf bitSize) false (decVal ip, 1) bits := by
  have h : (⟨none, ip, none, none⟩ : DecLit).WF :=
    ⟨hip, fun _ h => (by cases h), (by simpa [DecLit.digits] using hne), fun _ _ _ h => (by cases h)⟩
  have := parseFloat_decLit_nearest ⟨none, ip, none, none⟩ h bitSize bits
    (by simpa [DecLit.text, DecLit.body, DecLit.fracText, DecLit.expText, signText] using hok)
  simpa [DecLit.neg, DecLit.mant, DecLit.digits, DecLit.exp10, litRat] using this

/-- Shape `digits.digits` (either side may be empty, not both). -/
theorem parseFloat_digits_frac_nearest (ip fp : GoString) (hip : AllDec ip) (hfp : AllDec fp)
    (hne : ip ++ fp ≠ []) (bitSize bits : Nat)
    (hok : parseFloat (ip ++ 0x2E :: fp) bitSize = .ok bits) :
    NearestEven (fmtOf bitSize) false (litRat (decVal (ip ++ fp)) (-(fp.length : Int))) bits := by
  have h : (⟨none, ip, some fp, none⟩ : DecLit).WF :=
    ⟨hip, fun _ h => (by cases h; exact hfp), (by simpa [DecLit.digits] using hne),
      fun _ _ _ h => (by cases h)⟩
  have := parseFloat_decLit_nearest ⟨none, ip, some fp, none⟩ h bitSize bits
    (by simpa [DecLit.text, DecLit.body, DecLit.fracText, DecLit.expText, signText] using hok)
  simpa [DecLit.neg, DecLit.mant, DecLit.digits, DecLit.exp10] using this

/-- Shape `digits[.digits]e[±]digits`, unsigned, exponent below `100000`:
the value is `digits * 10^(±exponent - number of fraction digits)`. -/
theorem parseFloat_digits_exp_nearest (ip : GoString) (fp : Option GoString) (e : UInt8)
    (sg : Option Bool) (ep : GoString) (hip : AllDec ip) (hfp : ∀ x, fp = some x → AllDec x)
    (hne : ip ++ fp.getD [] ≠ []) (he : isE e = true) (hep : AllDec ep) (hepne : ep ≠ [])
    (hsmall : decVal ep < 100000) (bitSize bits : Nat)
    (hok : parseFloat (DecLit.text ⟨none, ip, fp, some (e, sg, ep)⟩) bitSize = .ok bits) :
    NearestEven (fmtOf bitSize) false
      (litRat (decVal (ip ++ fp.getD []))
        ((if sg = some true then -(decVal ep : Int) else (decVal ep : Int)) -
          ((fp.getD []).length : Int))) bits := by
  have h : (⟨none, ip, fp, some (e, sg, ep)⟩ : DecLit).WF :=
    ⟨hip, hfp, hne, fun _ _ _ h => (by cases h; exact ⟨he, hep, hepne⟩)⟩
  have := parseFloat_decLit_nearest _ h bitSize bits hok
  simpa [DecLit.neg, DecLit.mant, DecLit.digits, DecLit.exp10,
    expVal_eq_decVal ep hep hsmall] using this

/-! ## 4. Non-vacuity: concrete literals -/

/-- ASCII text as a `GoString`. -/
def asc (s : String) : GoString := s.toList.map byteOfChar

instance (f : FloatFmt) (b : Nat) : Decidable (isFinitePat f b) := by
  unfold isFinitePat; infer_instance
instance (f : FloatFmt) (neg : Bool) (x : Nat × Nat) (a b : Nat) : Decidable (NoFarther f neg x a b) := by
  unfold NoFarther; infer_instance
instance (f : FloatFmt) (neg : Bool) (x : Nat × Nat) (a b : Nat) : Decidable (EquallyFar f neg x a b) := by
  unfold EquallyFar; infer_instance
instance (xs : GoString) : Decidable (AllDec xs) := by
  unfold AllDec; infer_instance

/-- `0.1` at both widths. -/
example : parseFloat (asc "0.1") 64 = .ok 0x3FB999999999999A := by decide +kernel
example : parseFloat (asc "0.1") 32 = .ok 0x3DCCCCCD := by decide +kernel

/-- `0.1` as a `DecLit`: digits `0`, fraction digits `1`; mantissa `1`, exponent `-1`. -/
def lit01 : DecLit := ⟨none, asc "0", some (asc "1"), none⟩
theorem lit01_wf : lit01.WF :=
  ⟨by decide, fun _ h => (by cases h; decide), by decide, fun _ _ _ h => (by cases h)⟩
example : lit01.text = asc "0.1" := by decide
example : litRat lit01.mant lit01.exp10 = (1, 10) := by decide

/-- The general theorem applied to `0.1`: `0x3FB999999999999A` is the nearest binary64 to
`1/10`, `0x3DCCCCCD` the nearest binary32. -/
example : NearestEven fmt64 false (1, 10) 0x3FB999999999999A :=
  parseFloat_decLit_nearest lit01 lit01_wf 64 _ (by decide +kernel)
example : NearestEven fmt32 false (1, 10) 0x3DCCCCCD :=
  parseFloat_decLit_nearest lit01 lit01_wf 32 _ (by decide +kernel)
/-- … in particular it is no farther from `1/10` than its two neighbours, and strictly
closer than the lower one. -/
example : NoFarther fmt64 false (1, 10) 0x3FB999999999999A 0x3FB9999999999999 ∧
    NoFarther fmt64 false (1, 10) 0x3FB999999999999A 0x3FB999999999999B ∧
    ¬ NoFarther fmt64 false (1, 10) 0x3FB9999999999999 0x3FB999999999999A := by decide +kernel

/-- A tie: `2^53 + 1` is half-way between `2^53` (even pattern `…000`) and `2^53 + 2`
(odd pattern `…001`); the even one is returned. -/
def litTie : DecLit := ⟨none, asc "9007199254740993", none, none⟩
theorem litTie_wf : litTie.WF :=
  ⟨by decide, fun _ h => (by cases h), by decide, fun _ _ _ h => (by cases h)⟩
example : parseFloat litTie.text 64 = .ok 0x4340000000000000 := by decide +kernel
example : EquallyFar fmt64 false (2 ^ 53 + 1, 1) 0x4340000000000000 0x4340000000000001 := by
  decide +kernel
/-- The hypotheses of `parseFloat_ties_even` are satisfiable, and its conclusion holds. -/
example : fmt64.fracOf 0x4340000000000000 % 2 = 0 :=
  parseFloat_ties_even litTie.text 64 _ 0x4340000000000000 (readFloat_decLit litTie litTie_wf)
    (by decide +kernel) 0x4340000000000001 (by decide +kernel) (by decide) (by decide +kernel)
/-- The other way round: `2^53 + 3` is a tie between `…001` and `…010`; it goes UP. -/
example : parseFloat (asc "9007199254740995") 64 = .ok 0x4340000000000002 := by decide +kernel

/-- Subnormals: `5e-324` is the smallest positive subnormal (pattern `1`); `2e-324` is
below half of it and rounds to `+0`; `2^-1075` exactly (a tie between `0` and `1`) rounds
to the even pattern `0`; `3e-324` rounds up. -/
example : parseFloat (asc "5e-324") 64 = .ok 1 := by decide +kernel
example : parseFloat (asc "2e-324") 64 = .ok 0 := by decide +kernel
example : parseFloat (asc "3e-324") 64 = .ok 1 := by decide +kernel
example : parseFloat (asc "0x1p-1075") 64 = .ok 0 := by decide +kernel
example : parseFloat (asc "0x3p-1075") 64 = .ok 2 := by decide +kernel
example : parseFloat (asc "1e-45") 32 = .ok 1 := by decide +kernel
def litSub : DecLit := ⟨none, asc "5", none, some (0x65, some true, asc "324")⟩
theorem litSub_wf : litSub.WF :=
  ⟨by decide, fun _ h => (by cases h), by decide,
    fun _ _ _ h => (by cases h; exact ⟨by decide, by decide, by decide⟩)⟩
example : litSub.text = asc "5e-324" := by decide
example : litSub.mant = 5 ∧ litSub.exp10 = -324 := by decide
example : NearestEven fmt64 false (litRat 5 (-324)) 1 :=
  parseFloat_decLit_nearest litSub litSub_wf 64 _ (by decide +kernel)

/-- Exactness and the sign of zero. -/
example : parseFloat (asc "-0") 64 = .ok 0x8000000000000000 := by decide +kernel
example : parseFloat (asc "-0.000e7") 32 = .ok 0x80000000 := by decide +kernel
example : parseFloat (asc "0.5") 64 = .ok 0x3FE0000000000000 := by decide +kernel
def litHalf : DecLit := ⟨some true, asc "0", some (asc "5"), none⟩
theorem litHalf_wf : litHalf.WF :=
  ⟨by decide, fun _ h => (by cases h; decide), by decide, fun _ _ _ h => (by cases h)⟩
/-- `parseFloat_exact` applied to `-0.5`. -/
example : parseFloat (asc "-0.5") 64 = .ok 0xBFE0000000000000 :=
  parseFloat_exact litHalf.text 64 _ (readFloat_decLit litHalf litHalf_wf) 0x3FE0000000000000
    (by decide +kernel) (by decide +kernel)

/-- Overflow: the threshold is `MaxFloat64 + 2^970 = (2^54 - 1) * 2^970`. -/
example : parseFloat (asc "1e309") 64 = .error .range := by decide +kernel
example : parseFloat (asc "1.7976931348623157e308") 64 = .ok 0x7FEFFFFFFFFFFFFF := by
  decide +kernel
example : parseFloat (asc "1.7976931348623159e308") 64 = .error .range := by decide +kernel
/-- What `readFloat` returns on the text of `(2^54 - 1) * 2^970 - 1`. -/
def belowThreshold : ReadFloat := ⟨false, false, (2 ^ 54 - 1) * 2 ^ 970 - 1, 0⟩

/-- One below the threshold, as an integer literal: the largest finite float. -/
example : parseFloat (natToDec ((2 ^ 54 - 1) * 2 ^ 970 - 1)) 64 = .ok 0x7FEFFFFFFFFFFFFF := by
  rw [natToDec_eq_digitBytes]
  refine parseFloat_of_round _ 64 belowThreshold (readFloat_digitBytes _)
    0x7FEFFFFFFFFFFFFF
    (by decide) ?_
  show roundRat fmt64 _ _ = _
  -- below the overflow threshold, at or above the midpoint of the two largest finite patterns
  have hlt := (roundRat64_overflow_iff belowThreshold.toRat.1 belowThreshold.toRat.2
    (toRat_den_ne_zero _)).not.mpr (by decide +kernel)
  have hge := (le_roundRat_iff fmt64 fmt64_wf belowThreshold.toRat.1 belowThreshold.toRat.2
    (toRat_den_ne_zero _) 0x7FEFFFFFFFFFFFFF (by decide)).mpr (by decide +kernel)
  have hinf : fmt64.infBits = 0x7FEFFFFFFFFFFFFF + 1 := by decide
  omega
/-- The threshold itself. -/
example : parseFloat (natToDec ((2 ^ 54 - 1) * 2 ^ 970)) 64 = .error .range :=
  (parseFloat_range_iff64 _ 64 (by decide) _ (readFloat_digitBytes _)).mpr
    (by decide +kernel)
example : parseFloat (asc "3.4028235e38") 32 = .ok 0x7F7FFFFF := by decide +kernel
example : parseFloat (asc "3.4028236e38") 32 = .error .range := by decide +kernel
def litBig : DecLit := ⟨none, asc "1", none, some (0x65, none, asc "309")⟩
theorem litBig_wf : litBig.WF :=
  ⟨by decide, fun _ h => (by cases h), by decide,
    fun _ _ _ h => (by cases h; exact ⟨by decide, by decide, by decide⟩)⟩
/-- `parseFloat_range_iff64` applied to `1e309`. -/
example : parseFloat (asc "1e309") 64 = .error .range :=
  (parseFloat_range_iff64 litBig.text 64 (by decide) _ (readFloat_decLit litBig litBig_wf)).mpr
    (by decide +kernel)

end Bexpr.Props.C02Float

#print axioms Bexpr.Props.C02Float.roundRat_exact
#print axioms Bexpr.Props.C02Float.roundRat_finite_nearest
#print axioms Bexpr.Props.C02Float.roundRat_ties_even
#print axioms Bexpr.Props.C02Float.roundRat_monotone
#print axioms Bexpr.Props.C02Float.roundRat_congr
#print axioms Bexpr.Props.C02Float.roundRat_overflow_iff
#print axioms Bexpr.Props.C02Float.roundRat_overflow_iff64
#print axioms Bexpr.Props.C02Float.roundRat_overflow_iff32
#print axioms Bexpr.Props.C02Float.parseFloat_of_readFloat
#print axioms Bexpr.Props.C02Float.nearestEven_withSign
#print axioms Bexpr.Props.C02Float.parseFloat_nearest
#print axioms Bexpr.Props.C02Float.parseFloat_ties_even
#print axioms Bexpr.Props.C02Float.parseFloat_exact
#print axioms Bexpr.Props.C02Float.parseFloat_range_iff64
#print axioms Bexpr.Props.C02Float.parseFloat_range_iff32
#print axioms Bexpr.Props.C02Float.parseFloat_no_syntax_error
#print axioms Bexpr.Props.C02Float.readFloat_decLit
#print axioms Bexpr.Props.C02Float.parseFloat_decLit
#print axioms Bexpr.Props.C02Float.parseFloat_decLit_nearest
#print axioms Bexpr.Props.C02Float.parseFloat_digits_nearest
#print axioms Bexpr.Props.C02Float.parseFloat_digits_frac_nearest
#print axioms Bexpr.Props.C02Float.parseFloat_digits_exp_nearest
#print axioms Bexpr.Props.C02Float.lit01_wf
#print axioms Bexpr.Props.C02Float.litTie_wf
