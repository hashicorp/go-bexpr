/-
  Property C07 (selector spellings), END TO END:

    "A path spelled `a.b.0`, `a["b"]["0"]` (or with backticks) or `"/a/b/0"` selects the same
     element …"

  `Props/C07.lean` proves the statement for the grammar (`Accepts`, declarative PEG semantics)
  and for the trees (`Eval.evaluate`).  Here it is stated for the real entry points:
  `createEvaluator pinEnv pinGrammar text opts` (= `bexpr.CreateEvaluator`: folds the options,
  runs the engine `Peg.run` with their budget, type-asserts the result, stores the options),
  `Evaluator.evaluate` (= `(*Evaluator).Evaluate`), `createFilter` / `execute`
  (= `bexpr.CreateFilter` / `(*Filter).Execute`).

  Two whole renderings `ρ₁ ρ₂ : Top` (concrete syntax, `Proofs/RoundTripExpr.lean`), well formed,
  whose trees differ only in the selector TYPE fields (`eraseTy ρ₁.ast = eraseTy ρ₂.ast`: they
  differ in how selectors are spelled — dotted / bracketed / JSON pointer — and in blanks,
  parentheses, literal styles).

  PROVED
   (A) `spellings_same_outcome_created` — there are step counts `N₁ N₂` (the sizes of the two
       derivations = the numbers of parser steps, unique by `C15.acceptsIn_unique`) such that for
       EVERY option list whose budget allows both (`Nᵢ ≤ effectiveMax (getOpts opts).maxExpressions`;
       any tag name, any hook, any unknown-value): `CreateEvaluator` returns evaluators `ev₁`,
       `ev₂` for the two texts, they hold the trees `norm ρᵢ.ast`, and
       `ev₁.evaluate re d = ev₂.evaluate re d` for every regexp engine and EVERY datum (well formed
       or not; value, error, panic alike).
       `spellings_same_outcome_created_fits` — the same with the budget hypothesis stated on the
       engine (`FitsIn n text`: the run with budget `n` did not stop at the limit),
       `spellings_same_outcome_created_default` — default options, hypothesis `Fits` of
       `Props/C16Eval.lean` (necessary: `C16Eval.fits_necessary`).
       `spellings_same_outcome_of_created` — NO budget hypothesis: whenever `CreateEvaluator`
       returns evaluators for both texts — even under two DIFFERENT option lists, as long as tag
       name, hook and unknown-value agree (budgets may differ) — they agree on every datum.
       `create_rendering` — what `CreateEvaluator` does on a well-formed rendering, for every
       option list: the evaluator with the tree `norm ρ.ast` if `N ≤` budget, the error if not;
       never the type-assertion panic.
   (B) `spellings_same_outcome_filter` — `CreateFilter` on the two texts (they are non-empty:
       `rendering_nonempty`) returns filters whose `Execute` results agree on every input (kept
       elements, first error, panic alike); `spellings_same_outcome_of_filters` is the form
       without budget hypothesis.
   (C) `Example`: `a.b.0 == 1`, `a["b"][ `0` ] == 1`, `"/a/b/0" == 1` — the three evaluators
       exist (default options), agree on every datum, and return `true`, no error, on
       `{"a": {"b": [1]}}` (as `json.Unmarshal` builds it: `map[string]interface{}`,
       `[]interface{}`, `float64(1)`; and with `int(1)`; `false` on `{"a": {"b": [2]}}`):
       `three_spellings_agree`, `three_spellings_agree_opts` (budget 836, a hook that replaces
       every value), `three_spellings_true`; `end_to_end_kernel` is one instance computed by the
       kernel from the bytes (parse, create, evaluate), independently of the theorems and in the
       same evaluation as `step_counts`; `steps`: the three parses take 668, 836 and 552 steps;
       `budget_needed`: with `MaxExpressions(835)` the bracketed spelling is the max-expressions
       error while the other two are accepted.

  HYPOTHESES
   * `ρᵢ.WF`: the renderings covered by the round-trip theorem (RESTRICTIONS listed in
     `Props/C07.lean` and `Props/C16.lean`).
   * the budget (`Nᵢ ≤ effectiveMax …` / `FitsIn` / `Fits`): the model of pigeon's `newParser` turns
     the budget 0 into `math.MaxUint64`, so SOME bound is needed also for the default options
     (see the header of `Props/C16Eval.lean`); the `_of_created` forms have none.
   * NO restriction on the hook, the tag name or the unknown-value: both evaluators store the
     same ones and `Eval.evaluate` never reads a selector's type.
-/
import Props.C07
import Props.C16Eval

namespace Bexpr.Props.C07Eval
open Bexpr Bexpr.Go Bexpr.Eval Bexpr.Peg Bexpr.Driver Bexpr.Proofs.RoundTrip
open Bexpr.Proofs.C16Eval
open Bexpr.Props.C07 (eraseTy eraseTy_norm evaluate_ignores_selector_type)
open Bexpr.Props.C16Eval (Fits)

/-! ## 0. Bookkeeping: `createEvaluator`, budgets -/

/-- the run with budget `n` did not stop at the limit (`n = 0`: `Fits` of `Props/C16Eval.lean`) -/
def FitsIn (n : Nat) (text : GoString) : Prop :=
  (run pinEnv pinGrammar n text).cnt ≤ effectiveMax n

instance (n : Nat) (text : GoString) : Decidable (FitsIn n text) := by
  unfold FitsIn; infer_instance

theorem fitsIn_zero_iff (text : GoString) : FitsIn 0 text ↔ Fits text := by
  unfold FitsIn Fits
  rw [C11.effectiveMax_zero]
  omega

theorem le_of_fitsIn {n : Nat} {text : GoString} {v : PVal} {N : Nat}
    (h : AcceptsIn pinEnv pinGrammar text v N) (hfit : FitsIn n text) : N ≤ effectiveMax n :=
  le_of_cnt_le h hfit

theorem fitsIn_of_le {n : Nat} {text : GoString} {v : PVal} {N : Nat}
    (h : AcceptsIn pinEnv pinGrammar text v N) (hN : N ≤ effectiveMax n) : FitsIn n text := by
  unfold FitsIn
  rw [C15.run_of_acceptsIn pinEnv pinGrammar n text h hN]
  exact hN

theorem create_of_exceeded {text : GoString} {v : PVal} {N : Nat}
    (h : AcceptsIn pinEnv pinGrammar text v N) (opts : List Opt)
    (hN : effectiveMax (getOpts opts).maxExpressions < N) :
    createEvaluator pinEnv pinGrammar text opts = .err :=
  create_err_of_acceptsIn h opts hN

/-- what a returned evaluator is: the run was accepted, its value is the tree, the fields are
    those of the folded options -/
theorem create_ok_inv {text : GoString} {opts : List Opt} {ev : Evaluator}
    (h : createEvaluator pinEnv pinGrammar text opts = .ok ev) :
    (run pinEnv pinGrammar (getOpts opts).maxExpressions text).accepted = true ∧
    (run pinEnv pinGrammar (getOpts opts).maxExpressions text).val = .expr ev.ast ∧
    ev.tagName = (getOpts opts).tagName ∧ ev.hook = (getOpts opts).hook ∧
    ev.unknown = (getOpts opts).unknown ∧ ev.expression = text := by
  simp only [createEvaluator] at h
  cases hacc : (run pinEnv pinGrammar (getOpts opts).maxExpressions text).accepted with
  | false => simp [hacc] at h
  | true =>
    simp only [hacc, Bool.not_true, Bool.false_eq_true, ↓reduceIte] at h
    cases hv : (run pinEnv pinGrammar (getOpts opts).maxExpressions text).val with
    | expr e =>
      rw [hv] at h
      simp only [CreateOut.ok.injEq] at h
      subst h
      exact ⟨rfl, rfl, rfl, rfl, rfl, rfl⟩
    | _ => rw [hv] at h; simp at h

theorem created_ast {text : GoString} {opts : List Opt} {ev : Evaluator} {e : Expr}
    (h : createEvaluator pinEnv pinGrammar text opts = .ok ev)
    (ha : Accepts pinEnv pinGrammar text (.expr e)) : ev.ast = e := by
  obtain ⟨hacc, hv, _⟩ := create_ok_inv h
  have := C15.run_accepted_sound pinEnv pinGrammar _ text hacc
  rw [hv] at this
  have := C15.accepts_unique pinEnv pinGrammar text this ha
  injection this

/-- the evaluator `CreateEvaluator` builds from the tree `e` of `text` and the options -/
def evOf (e : Expr) (opts : List Opt) (text : GoString) : Evaluator :=
  { ast := e, tagName := (getOpts opts).tagName, hook := (getOpts opts).hook,
    unknown := (getOpts opts).unknown, expression := text }

theorem eq_evOf_of_created {text : GoString} {opts : List Opt} {ev : Evaluator} {e : Expr}
    (h : createEvaluator pinEnv pinGrammar text opts = .ok ev)
    (ha : Accepts pinEnv pinGrammar text (.expr e)) : ev = evOf e opts text := by
  have ha := created_ast h ha
  obtain ⟨_, _, ht, hh, hu, he⟩ := create_ok_inv h
  cases ev
  simp only at ha ht hh hu he
  subst ha ht hh hu he
  rfl

/-! ## 1. One rendering -/

theorem rendering_steps (ρ : Top) (h : ρ.WF) :
    ∃ N, AcceptsIn pinEnv pinGrammar ρ.text (.expr (norm ρ.ast)) N :=
  (C15.accepts_iff_acceptsIn _ _ _ _).1 (accepts_top_norm ρ h)

theorem fitsIn_of_cnt (ρ : Top) (h : ρ.WF) (hf : Fits ρ.text) (n : Nat)
    (hn : (run pinEnv pinGrammar 0 ρ.text).cnt ≤ effectiveMax n) : FitsIn n ρ.text := by
  obtain ⟨N, hN⟩ := rendering_steps ρ h
  rw [cnt_of_acceptsIn hN ((fitsIn_zero_iff _).2 hf)] at hn
  exact fitsIn_of_le hN hn

/-- **`CreateEvaluator` on a well-formed rendering**, every option list: with `N` the number of
    parser steps of the text, the evaluator holding the tree `norm ρ.ast` and the option fields
    if the budget allows `N`, the error otherwise — never the type-assertion panic. -/
theorem create_rendering (ρ : Top) (h : ρ.WF) :
    ∃ N, AcceptsIn pinEnv pinGrammar ρ.text (.expr (norm ρ.ast)) N ∧
      ∀ opts : List Opt,
        (N ≤ effectiveMax (getOpts opts).maxExpressions →
          createEvaluator pinEnv pinGrammar ρ.text opts = .ok (evOf (norm ρ.ast) opts ρ.text)) ∧
        (effectiveMax (getOpts opts).maxExpressions < N →
          createEvaluator pinEnv pinGrammar ρ.text opts = .err) := by
  obtain ⟨N, hN⟩ := rendering_steps ρ h
  exact ⟨N, hN, fun opts => ⟨create_of_acceptsIn hN opts, create_of_exceeded hN opts⟩⟩

/-- the empty text, by running the engine: rejected, and not because of the budget -/
theorem empty_run : (run pinEnv pinGrammar 0 []).accepted = false ∧ FitsIn 0 [] := by
  decide +kernel

theorem empty_rejected : (run pinEnv pinGrammar 0 []).accepted = false := empty_run.1

/-- a well-formed rendering is not the empty text (`CreateFilter` does not return the nil
    filter) -/
theorem rendering_nonempty (ρ : Top) (h : ρ.WF) : ρ.text.isEmpty = false := by
  cases ht : ρ.text with
  | cons _ _ => rfl
  | nil =>
    exfalso
    obtain ⟨N, hN⟩ := rendering_steps ρ h
    rw [ht] at hN
    have hr := C15.run_of_acceptsIn pinEnv pinGrammar 0 [] hN (le_of_fitsIn hN empty_run.2)
    have := empty_rejected
    rw [hr] at this
    simp [ParseOut.accepted] at this

/-! ## 2. Evaluators that differ in selector types only -/

/-- two evaluators with the same option fields whose trees differ only in selector types have
    the same outcome — value, error or panic — on every datum, with every regexp engine -/
theorem evaluators_agree (ev₁ ev₂ : Evaluator) (ha : eraseTy ev₁.ast = eraseTy ev₂.ast)
    (ht : ev₁.tagName = ev₂.tagName) (hh : ev₁.hook = ev₂.hook) (hu : ev₁.unknown = ev₂.unknown)
    (re : RegexOracle) (d : Any) : ev₁.evaluate re d = ev₂.evaluate re d := by
  unfold Evaluator.evaluate
  rw [ht, hh, hu]
  exact evaluate_ignores_selector_type re _ _ ha _ d

theorem eraseTy_norm_same {e₁ e₂ : Expr} (h : eraseTy e₁ = eraseTy e₂) :
    eraseTy (norm e₁) = eraseTy (norm e₂) := by
  rw [eraseTy_norm, eraseTy_norm, h]

/-! ## 3. (A) `CreateEvaluator` -/

/-- **C07 at creation level.**  Two well-formed renderings whose trees differ only in the
    selector types: with `N₁`, `N₂` the numbers of parser steps of the two texts, EVERY option
    list whose budget allows both creates two evaluators, and these have the same outcome on
    every datum with every regexp engine.  No hypothesis on hook, tag name, unknown-value. -/
theorem spellings_same_outcome_created (ρ₁ ρ₂ : Top) (h₁ : ρ₁.WF) (h₂ : ρ₂.WF)
    (hsame : eraseTy ρ₁.ast = eraseTy ρ₂.ast) :
    ∃ N₁ N₂, AcceptsIn pinEnv pinGrammar ρ₁.text (.expr (norm ρ₁.ast)) N₁ ∧
      AcceptsIn pinEnv pinGrammar ρ₂.text (.expr (norm ρ₂.ast)) N₂ ∧
      ∀ opts : List Opt, N₁ ≤ effectiveMax (getOpts opts).maxExpressions →
        N₂ ≤ effectiveMax (getOpts opts).maxExpressions →
        ∃ ev₁ ev₂, createEvaluator pinEnv pinGrammar ρ₁.text opts = .ok ev₁ ∧
          createEvaluator pinEnv pinGrammar ρ₂.text opts = .ok ev₂ ∧
          ev₁.ast = norm ρ₁.ast ∧ ev₂.ast = norm ρ₂.ast ∧
          ∀ (re : RegexOracle) (d : Any), ev₁.evaluate re d = ev₂.evaluate re d := by
  obtain ⟨N₁, hN₁⟩ := rendering_steps ρ₁ h₁
  obtain ⟨N₂, hN₂⟩ := rendering_steps ρ₂ h₂
  refine ⟨N₁, N₂, hN₁, hN₂, fun opts hb₁ hb₂ => ⟨evOf (norm ρ₁.ast) opts ρ₁.text,
    evOf (norm ρ₂.ast) opts ρ₂.text, create_of_acceptsIn hN₁ opts hb₁,
    create_of_acceptsIn hN₂ opts hb₂, rfl, rfl, fun re d => ?_⟩⟩
  exact evaluators_agree (evOf (norm ρ₁.ast) opts ρ₁.text) (evOf (norm ρ₂.ast) opts ρ₂.text)
    (eraseTy_norm_same hsame) rfl rfl rfl re d

/-- **Without budget hypothesis.**  Whenever `CreateEvaluator` returns evaluators for the two
    texts — under option lists that agree on tag name, hook and unknown-value (in particular
    under the same list; the budgets may differ) — these have the same outcome on every datum. -/
theorem spellings_same_outcome_of_created (ρ₁ ρ₂ : Top) (h₁ : ρ₁.WF) (h₂ : ρ₂.WF)
    (hsame : eraseTy ρ₁.ast = eraseTy ρ₂.ast) (opts₁ opts₂ : List Opt)
    (ht : (getOpts opts₁).tagName = (getOpts opts₂).tagName)
    (hh : (getOpts opts₁).hook = (getOpts opts₂).hook)
    (hu : (getOpts opts₁).unknown = (getOpts opts₂).unknown) (ev₁ ev₂ : Evaluator)
    (hc₁ : createEvaluator pinEnv pinGrammar ρ₁.text opts₁ = .ok ev₁)
    (hc₂ : createEvaluator pinEnv pinGrammar ρ₂.text opts₂ = .ok ev₂) :
    ev₁.ast = norm ρ₁.ast ∧ ev₂.ast = norm ρ₂.ast ∧
      ∀ (re : RegexOracle) (d : Any), ev₁.evaluate re d = ev₂.evaluate re d := by
  rw [eq_evOf_of_created hc₁ (accepts_top_norm ρ₁ h₁), eq_evOf_of_created hc₂ (accepts_top_norm ρ₂ h₂)]
  exact ⟨rfl, rfl, evaluators_agree _ _ (eraseTy_norm_same hsame) ht hh hu⟩

theorem spellings_same_outcome_of_created_same (ρ₁ ρ₂ : Top) (h₁ : ρ₁.WF) (h₂ : ρ₂.WF)
    (hsame : eraseTy ρ₁.ast = eraseTy ρ₂.ast) (opts : List Opt) (ev₁ ev₂ : Evaluator)
    (hc₁ : createEvaluator pinEnv pinGrammar ρ₁.text opts = .ok ev₁)
    (hc₂ : createEvaluator pinEnv pinGrammar ρ₂.text opts = .ok ev₂)
    (re : RegexOracle) (d : Any) : ev₁.evaluate re d = ev₂.evaluate re d :=
  (spellings_same_outcome_of_created ρ₁ ρ₂ h₁ h₂ hsame opts opts rfl rfl rfl ev₁ ev₂ hc₁
    hc₂).2.2 re d

/-- (A) with the budget hypothesis on the engine: the runs with the budget of the options did
    not stop at the limit. -/
theorem spellings_same_outcome_created_fits (ρ₁ ρ₂ : Top) (h₁ : ρ₁.WF) (h₂ : ρ₂.WF)
    (hsame : eraseTy ρ₁.ast = eraseTy ρ₂.ast) (opts : List Opt)
    (hf₁ : FitsIn (getOpts opts).maxExpressions ρ₁.text)
    (hf₂ : FitsIn (getOpts opts).maxExpressions ρ₂.text) :
    ∃ ev₁ ev₂, createEvaluator pinEnv pinGrammar ρ₁.text opts = .ok ev₁ ∧
      createEvaluator pinEnv pinGrammar ρ₂.text opts = .ok ev₂ ∧
      ∀ (re : RegexOracle) (d : Any), ev₁.evaluate re d = ev₂.evaluate re d := by
  obtain ⟨N₁, N₂, hN₁, hN₂, h⟩ := spellings_same_outcome_created ρ₁ ρ₂ h₁ h₂ hsame
  obtain ⟨ev₁, ev₂, c₁, c₂, _, _, he⟩ := h opts (le_of_fitsIn hN₁ hf₁) (le_of_fitsIn hN₂ hf₂)
  exact ⟨ev₁, ev₂, c₁, c₂, he⟩

theorem spellings_same_outcome_created_default (ρ₁ ρ₂ : Top) (h₁ : ρ₁.WF) (h₂ : ρ₂.WF)
    (hsame : eraseTy ρ₁.ast = eraseTy ρ₂.ast) (hf₁ : Fits ρ₁.text) (hf₂ : Fits ρ₂.text) :
    ∃ ev₁ ev₂, createEvaluator pinEnv pinGrammar ρ₁.text [] = .ok ev₁ ∧
      createEvaluator pinEnv pinGrammar ρ₂.text [] = .ok ev₂ ∧
      ∀ (re : RegexOracle) (d : Any), ev₁.evaluate re d = ev₂.evaluate re d :=
  spellings_same_outcome_created_fits ρ₁ ρ₂ h₁ h₂ hsame []
    ((fitsIn_zero_iff _).2 hf₁) ((fitsIn_zero_iff _).2 hf₂)

/-! ## 4. (B) `CreateFilter` / `Execute` -/

/-- `Execute` reads the evaluator through `Evaluate` only -/
theorem execute_congr (ev₁ ev₂ : Evaluator) (re : RegexOracle)
    (h : ∀ d, ev₁.evaluate re d = ev₂.evaluate re d) (data : Any) :
    execute re (some ev₁) data = execute re (some ev₂) data := by
  have hf : ev₁.evaluate re = ev₂.evaluate re := funext h
  simp only [execute, hf]

theorem createFilter_ok_inv {text : GoString} {ev : Evaluator}
    (h : createFilter pinEnv pinGrammar text = .ok ev) :
    createEvaluator pinEnv pinGrammar text [] = .ok ev := by
  unfold createFilter at h
  split at h
  · cases h
  · cases hc : createEvaluator pinEnv pinGrammar text [] with
    | ok ev' => rw [hc] at h; simp only [FilterCreate.ok.injEq] at h; rw [h]
    | err => rw [hc] at h; cases h
    | panic => rw [hc] at h; cases h

/-- **C07 for filters.**  `CreateFilter` on two well-formed renderings whose trees differ only
    in the selector types (and whose unlimited parses stay below the `2^64` limit) returns two
    filters — not the nil filter, the texts are non-empty — and `Execute` gives the same result
    (kept elements in the same order, error, panic) on every input. -/
theorem spellings_same_outcome_filter (ρ₁ ρ₂ : Top) (h₁ : ρ₁.WF) (h₂ : ρ₂.WF)
    (hsame : eraseTy ρ₁.ast = eraseTy ρ₂.ast) (hf₁ : Fits ρ₁.text) (hf₂ : Fits ρ₂.text) :
    ∃ ev₁ ev₂, createFilter pinEnv pinGrammar ρ₁.text = .ok ev₁ ∧
      createFilter pinEnv pinGrammar ρ₂.text = .ok ev₂ ∧
      ∀ (re : RegexOracle) (data : Any),
        execute re (some ev₁) data = execute re (some ev₂) data := by
  obtain ⟨ev₁, ev₂, c₁, c₂, he⟩ :=
    spellings_same_outcome_created_default ρ₁ ρ₂ h₁ h₂ hsame hf₁ hf₂
  refine ⟨ev₁, ev₂, ?_, ?_, fun re data => execute_congr ev₁ ev₂ re (he re) data⟩
  · simp [createFilter, rendering_nonempty ρ₁ h₁, c₁]
  · simp [createFilter, rendering_nonempty ρ₂ h₂, c₂]

theorem spellings_same_outcome_of_filters (ρ₁ ρ₂ : Top) (h₁ : ρ₁.WF) (h₂ : ρ₂.WF)
    (hsame : eraseTy ρ₁.ast = eraseTy ρ₂.ast) (ev₁ ev₂ : Evaluator)
    (hc₁ : createFilter pinEnv pinGrammar ρ₁.text = .ok ev₁)
    (hc₂ : createFilter pinEnv pinGrammar ρ₂.text = .ok ev₂) (re : RegexOracle) (data : Any) :
    execute re (some ev₁) data = execute re (some ev₂) data :=
  execute_congr ev₁ ev₂ re
    (spellings_same_outcome_of_created_same ρ₁ ρ₂ h₁ h₂ hsame [] ev₁ ev₂
      (createFilter_ok_inv hc₁) (createFilter_ok_inv hc₂) re) data

/-- `CreateFilter` on a well-formed rendering never returns the nil filter and never panics -/
theorem createFilter_rendering (ρ : Top) (h : ρ.WF) :
    (Fits ρ.text → ∃ ev, createFilter pinEnv pinGrammar ρ.text = .ok ev ∧ ev.ast = norm ρ.ast) ∧
    (¬ Fits ρ.text → createFilter pinEnv pinGrammar ρ.text = .err) := by
  obtain ⟨N, hN, hc⟩ := create_rendering ρ h
  constructor
  · intro hf
    refine ⟨evOf (norm ρ.ast) [] ρ.text, ?_, rfl⟩
    simp only [createFilter, rendering_nonempty ρ h, Bool.false_eq_true, ↓reduceIte,
      (hc []).1 (le_of_cnt_lt hN hf)]
  · intro hf
    have hlt : effectiveMax (getOpts []).maxExpressions < N := by
      apply Nat.lt_of_not_le
      intro hle
      exact hf ((fitsIn_zero_iff _).1 (fitsIn_of_le hN hle))
    simp only [createFilter, rendering_nonempty ρ h, Bool.false_eq_true, ↓reduceIte,
      (hc []).2 hlt]

/-! ## 5. (C) Non-vacuity: `a.b.0 == 1`, `a["b"][ `0` ] == 1`, `"/a/b/0" == 1` -/

namespace Example
open Bexpr.Props.C07.Example

def one : NumLit := ⟨false, [49], []⟩

/-- `<selector> == 1` -/
def top (x : SelX) : Top := ⟨[], .orUp (.andUp (.leaf (.opValue x (.eq [32] [32]) (.num one)))), []⟩

def ρDot : Top := top (.bexpr dotted)
def ρBr : Top := top (.bexpr bracketed)
def ρPtr : Top := top (.ptr path)

theorem texts : ρDot.text = asc "a.b.0 == 1" ∧ ρBr.text = asc "a[\"b\"][ `0` ] == 1" ∧
    ρPtr.text = asc "\"/a/b/0\" == 1" := by
  rw [asc_ofList, asc_ofList, asc_ofList]
  decide +kernel

/-- the same as byte lists -/
def tDot : GoString := [97, 46, 98, 46, 48, 32, 61, 61, 32, 49]
def tBr : GoString := [97, 91, 34, 98, 34, 93, 91, 32, 96, 48, 96, 32, 93, 32, 61, 61, 32, 49]
def tPtr : GoString := [34, 47, 97, 47, 98, 47, 48, 34, 32, 61, 61, 32, 49]

theorem texts_bytes : ρDot.text = tDot ∧ ρBr.text = tBr ∧ ρPtr.text = tPtr := by decide +kernel

theorem one_WF : one.WF := by decide +kernel

theorem top_WF (x : SelX) (hx : x.WF) (hk : (MatchSp.opValue x (.eq [32] [32]) (.num one)).notKwOK) :
    (top x).WF :=
  ⟨AllIn.nil, ⟨⟨hx, ⟨by decide, by decide⟩, one_WF⟩, hk⟩, AllIn.nil⟩

theorem ρDot_WF : ρDot.WF := by decide +kernel

theorem ρBr_WF : ρBr.WF := by decide +kernel

/-- by hand: deciding `SegOK` of the pointer segments would evaluate Go's Unicode tables -/
theorem ρPtr_WF : ρPtr.WF := by
  refine top_WF _ pointer_WF ?_
  intro σ hσ
  simp [MatchSp.lead] at hσ

/-- the three trees: the same path `[a, b, 0]`, operator `==`, value `1`; the pointer spelling
    differs in the selector type -/
theorem asts :
    norm ρDot.ast = .match_ ⟨.bexpr, path⟩ .equal (some [49]) ∧
    norm ρBr.ast = .match_ ⟨.bexpr, path⟩ .equal (some [49]) ∧
    norm ρPtr.ast = .match_ ⟨.jsonPointer, path⟩ .equal (some [49]) := ⟨rfl, rfl, rfl⟩

theorem same : eraseTy ρDot.ast = eraseTy ρBr.ast ∧ eraseTy ρDot.ast = eraseTy ρPtr.ast :=
  ⟨rfl, rfl⟩

/-- `{"a": {"b": [1]}}` as `json.Unmarshal` into an `interface{}` builds it:
    `map[string]interface{}{"a": map[string]interface{}{"b": []interface{}{float64(1)}}}` -/
def datum : Any :=
  some (.map "" GoType.stringT .iface false [(.str "" [97], .iface (some
    (.map "" GoType.stringT .iface false [(.str "" [98], .iface (some
      (.slice "" .iface false [.iface (some (.float .float64 "" 0x3FF0000000000000))])))])))])

/-- the same with the Go literal's `int`: `[]interface{}{1}` -/
def datumInt : Any :=
  some (.map "" GoType.stringT .iface false [(.str "" [97], .iface (some
    (.map "" GoType.stringT .iface false [(.str "" [98], .iface (some
      (.slice "" .iface false [.iface (some (.int .int "" 1))])))])))])

/-- `{"a": {"b": [2]}}` -/
def datum2 : Any :=
  some (.map "" GoType.stringT .iface false [(.str "" [97], .iface (some
    (.map "" GoType.stringT .iface false [(.str "" [98], .iface (some
      (.slice "" .iface false [.iface (some (.float .float64 "" 0x4000000000000000))])))])))])

/-- what `CreateEvaluator` + `Evaluate` return, as one value -/
def createAndEvaluate (text : GoString) (opts : List Opt) (re : RegexOracle) (d : Any) :
    Option Out :=
  match createEvaluator pinEnv pinGrammar text opts with
  | .ok ev => some (ev.evaluate re d)
  | _ => none

/-- The engine on the three texts, in one kernel evaluation (the kernel shares the grammar's rule
    lookups and the runs of one text only inside one declaration): the step counts, and parse +
    create + evaluate on `{"a": {"b": [1]}}` computed from the bytes (`end_to_end_kernel`). -/
theorem kernel_runs :
    ((run pinEnv pinGrammar 0 tDot).cnt = 668 ∧ (run pinEnv pinGrammar 0 tBr).cnt = 836 ∧
      (run pinEnv pinGrammar 0 tPtr).cnt = 552) ∧
    (createAndEvaluate tDot [] (fun _ => none) datum = some (.val true) ∧
      createAndEvaluate tBr [] (fun _ => none) datum = some (.val true) ∧
      createAndEvaluate tPtr [] (fun _ => none) datum = some (.val true)) := by
  decide +kernel

theorem step_counts :
    (run pinEnv pinGrammar 0 tDot).cnt = 668 ∧ (run pinEnv pinGrammar 0 tBr).cnt = 836 ∧
    (run pinEnv pinGrammar 0 tPtr).cnt = 552 :=
  kernel_runs.1

theorem steps_eq_cnt {text : GoString} {v : PVal} {N : Nat}
    (h : AcceptsIn pinEnv pinGrammar text v N) (hfit : Fits text) :
    N = (run pinEnv pinGrammar 0 text).cnt :=
  (cnt_of_acceptsIn h ((fitsIn_zero_iff text).2 hfit)).symm

theorem steps_of_rendering (ρ : Top) (h : ρ.WF) {t : GoString} {n : Nat} (ht : ρ.text = t)
    (hfit : Fits ρ.text) (hc : (run pinEnv pinGrammar 0 t).cnt = n) :
    AcceptsIn pinEnv pinGrammar t (.expr (norm ρ.ast)) n := by
  obtain ⟨N, hN⟩ := rendering_steps ρ h
  subst ht
  rw [← hc, ← steps_eq_cnt hN hfit]
  exact hN

theorem fits : Fits ρDot.text ∧ Fits ρBr.text ∧ Fits ρPtr.text := by
  rw [texts_bytes.1, texts_bytes.2.1, texts_bytes.2.2]
  exact ⟨C16Eval.fits_of_cnt step_counts.1 (by decide),
    C16Eval.fits_of_cnt step_counts.2.1 (by decide), C16Eval.fits_of_cnt step_counts.2.2 (by decide)⟩

/-- the derivations of the three texts and their sizes: 668, 836 and 552 parser steps -/
theorem steps :
    AcceptsIn pinEnv pinGrammar tDot (.expr (.match_ ⟨.bexpr, path⟩ .equal (some [49]))) 668 ∧
    AcceptsIn pinEnv pinGrammar tBr (.expr (.match_ ⟨.bexpr, path⟩ .equal (some [49]))) 836 ∧
    AcceptsIn pinEnv pinGrammar tPtr (.expr (.match_ ⟨.jsonPointer, path⟩ .equal (some [49])))
      552 :=
  ⟨steps_of_rendering ρDot ρDot_WF texts_bytes.1 fits.1 step_counts.1,
    steps_of_rendering ρBr ρBr_WF texts_bytes.2.1 fits.2.1 step_counts.2.1,
    steps_of_rendering ρPtr ρPtr_WF texts_bytes.2.2 fits.2.2 step_counts.2.2⟩

/-- **The three spellings, default options**: `CreateEvaluator("a.b.0 == 1")`,
    ``CreateEvaluator("a[\"b\"][ `0` ] == 1")`` and `CreateEvaluator("\"/a/b/0\" == 1")` return
    evaluators, and the three have the same outcome on every datum with every regexp engine. -/
theorem three_spellings_agree :
    ∃ ev₁ ev₂ ev₃, createEvaluator pinEnv pinGrammar tDot [] = .ok ev₁ ∧
      createEvaluator pinEnv pinGrammar tBr [] = .ok ev₂ ∧
      createEvaluator pinEnv pinGrammar tPtr [] = .ok ev₃ ∧
      ∀ (re : RegexOracle) (d : Any),
        ev₁.evaluate re d = ev₂.evaluate re d ∧ ev₁.evaluate re d = ev₃.evaluate re d := by
  obtain ⟨ev₁, ev₂, c₁, c₂, h₁₂⟩ :=
    spellings_same_outcome_created_default ρDot ρBr ρDot_WF ρBr_WF same.1 fits.1 fits.2.1
  obtain ⟨ev₁', ev₃, c₁', c₃, h₁₃⟩ :=
    spellings_same_outcome_created_default ρDot ρPtr ρDot_WF ρPtr_WF same.2 fits.1 fits.2.2
  rw [c₁] at c₁'
  injection c₁' with c₁'
  subst c₁'
  rw [texts_bytes.1] at c₁
  rw [texts_bytes.2.1] at c₂
  rw [texts_bytes.2.2] at c₃
  exact ⟨ev₁, ev₂, ev₃, c₁, c₂, c₃, fun re d => ⟨h₁₂ re d, h₁₃ re d⟩⟩

/-- options: a budget of 836 expressions (exactly what the longest of the three texts needs),
    another tag name, a hook that REPLACES every value (`const42`) and an unknown-value -/
def someOpts : List Opt :=
  [.maxExpressions 836, .tagName [0x6A], .hookFn .const42, .unknownValue none]

/-- the three spellings agree under `someOpts` as well: no restriction on the hook -/
theorem three_spellings_agree_opts :
    ∃ ev₁ ev₂ ev₃, createEvaluator pinEnv pinGrammar tDot someOpts = .ok ev₁ ∧
      createEvaluator pinEnv pinGrammar tBr someOpts = .ok ev₂ ∧
      createEvaluator pinEnv pinGrammar tPtr someOpts = .ok ev₃ ∧
      ∀ (re : RegexOracle) (d : Any),
        ev₁.evaluate re d = ev₂.evaluate re d ∧ ev₁.evaluate re d = ev₃.evaluate re d := by
  have hb : (getOpts someOpts).maxExpressions = 836 := rfl
  have c₁ := create_of_acceptsIn steps.1 someOpts (by rw [hb]; decide)
  have c₂ := create_of_acceptsIn steps.2.1 someOpts (by rw [hb]; decide)
  have c₃ := create_of_acceptsIn steps.2.2 someOpts (by rw [hb]; decide)
  refine ⟨_, _, _, c₁, c₂, c₃, fun re d => ⟨?_, ?_⟩⟩
  · exact evaluators_agree _ _ rfl rfl rfl rfl re d
  · exact evaluators_agree _ _ rfl rfl rfl rfl re d

/-- **The budget hypothesis is needed**: with `MaxExpressions(835)` the dotted and the pointer
    spelling are accepted, the bracketed one (836 steps) is the max-expressions error. -/
theorem budget_needed :
    (∃ ev, createEvaluator pinEnv pinGrammar tDot [.maxExpressions 835] = .ok ev) ∧
    (∃ ev, createEvaluator pinEnv pinGrammar tPtr [.maxExpressions 835] = .ok ev) ∧
    createEvaluator pinEnv pinGrammar tBr [.maxExpressions 835] = .err := by
  have hb : (getOpts [.maxExpressions 835]).maxExpressions = 835 := rfl
  exact ⟨⟨_, create_of_acceptsIn steps.1 _ (by rw [hb]; decide)⟩,
    ⟨_, create_of_acceptsIn steps.2.2 _ (by rw [hb]; decide)⟩,
    create_of_exceeded steps.2.1 _ (by rw [hb]; decide)⟩

theorem datum_wf : Any.wf datum = true ∧ Any.wf datumInt = true ∧ Any.wf datum2 = true := by
  decide +kernel

/-- the tree `[a, b, 0] == 1` (either selector type), on the three data, under the default
    option fields, by evaluation -/
theorem tree_on_datum (re : RegexOracle) (ty : SelType) (tag : GoString) :
    Eval.evaluate re (.match_ ⟨ty, path⟩ .equal (some [49]))
      { tagName := tag, hook := .off, unknown := none, locals := [] } datum = .val true ∧
    Eval.evaluate re (.match_ ⟨ty, path⟩ .equal (some [49]))
      { tagName := tag, hook := .off, unknown := none, locals := [] } datumInt = .val true ∧
    Eval.evaluate re (.match_ ⟨ty, path⟩ .equal (some [49]))
      { tagName := tag, hook := .off, unknown := none, locals := [] } datum2 = .val false := by
  refine ⟨?_, ?_, ?_⟩ <;> rfl

/-- **All three return `true` on `{"a": {"b": [1]}}`** (and on the `int` variant; `false` on
    `{"a": {"b": [2]}}`): the evaluators `CreateEvaluator` returns for the three texts, default
    options, every regexp engine — no error. -/
theorem three_spellings_true :
    ∃ ev₁ ev₂ ev₃, createEvaluator pinEnv pinGrammar tDot [] = .ok ev₁ ∧
      createEvaluator pinEnv pinGrammar tBr [] = .ok ev₂ ∧
      createEvaluator pinEnv pinGrammar tPtr [] = .ok ev₃ ∧
      ∀ re : RegexOracle,
        (ev₁.evaluate re datum = .val true ∧ ev₂.evaluate re datum = .val true ∧
          ev₃.evaluate re datum = .val true) ∧
        (ev₁.evaluate re datumInt = .val true ∧ ev₂.evaluate re datumInt = .val true ∧
          ev₃.evaluate re datumInt = .val true) ∧
        (ev₁.evaluate re datum2 = .val false ∧ ev₂.evaluate re datum2 = .val false ∧
          ev₃.evaluate re datum2 = .val false) := by
  have h0 : (getOpts []).maxExpressions = 0 := rfl
  have c₁ := create_of_acceptsIn steps.1 [] (by rw [h0]; decide)
  have c₂ := create_of_acceptsIn steps.2.1 [] (by rw [h0]; decide)
  have c₃ := create_of_acceptsIn steps.2.2 [] (by rw [h0]; decide)
  refine ⟨_, _, _, c₁, c₂, c₃, fun re => ?_⟩
  have hb := tree_on_datum re .bexpr (getOpts []).tagName
  have hp := tree_on_datum re .jsonPointer (getOpts []).tagName
  exact ⟨⟨hb.1, hb.1, hp.1⟩, ⟨hb.2.1, hb.2.1, hp.2.1⟩, ⟨hb.2.2, hb.2.2, hp.2.2⟩⟩

theorem createAndEvaluate_ok {text : GoString} {opts : List Opt} {ev : Evaluator}
    (h : createEvaluator pinEnv pinGrammar text opts = .ok ev) (re : RegexOracle) (d : Any) :
    createAndEvaluate text opts re d = some (ev.evaluate re d) := by
  rw [createAndEvaluate, h]

/-- **One instance computed by the kernel from the bytes**: parse (the engine `Peg.run` on the
    pinned grammar), create, evaluate — the three texts on `{"a": {"b": [1]}}`, default options
    (the regexp engine is not consulted by `==`; here: the one that compiles nothing).  Evaluated
    together with the step counts, in `kernel_runs`. -/
theorem end_to_end_kernel :
    createAndEvaluate tDot [] (fun _ => none) datum = some (.val true) ∧
    createAndEvaluate tBr [] (fun _ => none) datum = some (.val true) ∧
    createAndEvaluate tPtr [] (fun _ => none) datum = some (.val true) :=
  kernel_runs.2

end Example

end Bexpr.Props.C07Eval

#print axioms Bexpr.Props.C07Eval.fitsIn_zero_iff
#print axioms Bexpr.Props.C07Eval.le_of_fitsIn
#print axioms Bexpr.Props.C07Eval.fitsIn_of_le
#print axioms Bexpr.Props.C07Eval.create_of_exceeded
#print axioms Bexpr.Props.C07Eval.create_ok_inv
#print axioms Bexpr.Props.C07Eval.created_ast
#print axioms Bexpr.Props.C07Eval.rendering_steps
#print axioms Bexpr.Props.C07Eval.create_rendering
#print axioms Bexpr.Props.C07Eval.empty_rejected
#print axioms Bexpr.Props.C07Eval.rendering_nonempty
#print axioms Bexpr.Props.C07Eval.evaluators_agree
#print axioms Bexpr.Props.C07Eval.eraseTy_norm_same
#print axioms Bexpr.Props.C07Eval.spellings_same_outcome_created
#print axioms Bexpr.Props.C07Eval.spellings_same_outcome_of_created
#print axioms Bexpr.Props.C07Eval.spellings_same_outcome_of_created_same
#print axioms Bexpr.Props.C07Eval.spellings_same_outcome_created_fits
#print axioms Bexpr.Props.C07Eval.spellings_same_outcome_created_default
#print axioms Bexpr.Props.C07Eval.execute_congr
#print axioms Bexpr.Props.C07Eval.createFilter_ok_inv
#print axioms Bexpr.Props.C07Eval.spellings_same_outcome_filter
#print axioms Bexpr.Props.C07Eval.spellings_same_outcome_of_filters
#print axioms Bexpr.Props.C07Eval.createFilter_rendering
#print axioms Bexpr.Props.C07Eval.Example.texts
#print axioms Bexpr.Props.C07Eval.Example.texts_bytes
#print axioms Bexpr.Props.C07Eval.Example.one_WF
#print axioms Bexpr.Props.C07Eval.Example.top_WF
#print axioms Bexpr.Props.C07Eval.Example.ρDot_WF
#print axioms Bexpr.Props.C07Eval.Example.ρBr_WF
#print axioms Bexpr.Props.C07Eval.Example.ρPtr_WF
#print axioms Bexpr.Props.C07Eval.Example.asts
#print axioms Bexpr.Props.C07Eval.Example.same
#print axioms Bexpr.Props.C07Eval.Example.step_counts
#print axioms Bexpr.Props.C07Eval.Example.steps_eq_cnt
#print axioms Bexpr.Props.C07Eval.Example.fits
#print axioms Bexpr.Props.C07Eval.Example.steps
#print axioms Bexpr.Props.C07Eval.Example.three_spellings_agree
#print axioms Bexpr.Props.C07Eval.Example.three_spellings_agree_opts
#print axioms Bexpr.Props.C07Eval.Example.budget_needed
#print axioms Bexpr.Props.C07Eval.Example.datum_wf
#print axioms Bexpr.Props.C07Eval.Example.tree_on_datum
#print axioms Bexpr.Props.C07Eval.Example.three_spellings_true
#print axioms Bexpr.Props.C07Eval.Example.end_to_end_kernel
