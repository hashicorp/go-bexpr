/-
  Property C16 (print / parse round trip):

    "Rendering any expression tree to text with any mix of optional whitespace, redundant
     parentheses, double-quote/backtick/bare literal styles, selector spellings and in/contains
     spellings, and parsing it back, yields the same tree: `not` binds tighter than `and`, `and`
     tighter than `or`, chains group to the right, `not not e` is `e`, parentheses override all of
     these, and a quoted literal denotes exactly the Go string it spells."

  The parser is the PINNED grammar table `pinGrammar` with the code blocks `pinEnv`
  (`Ties/PinnedGrammar.lean` ties the regenerated table to it); its meaning is the declarative
  PEG semantics `Sem` (`Props/C15.lean`: the engine is sound and complete for it), so
  `Accepts pinEnv pinGrammar text v` below means: pigeon's `Parse` on `text` returns `v` and no
  error, for every budget that admits the (unique) derivation — `print_parse_roundtrip_engine`.

  What "a rendering of a tree" is.  A rendering is a value `ρ : Top` = leading blanks, an
  `Sp .or`, trailing blanks.  `Sp l` (`Proofs/RoundTripExpr.lean`) is concrete syntax: it records
  every blank run, every keyword, every pair of parentheses (redundant ones included), the
  quantifiers `any/all S as bindings { body }` with all their blanks and the four binding forms
  (`i, v` · `i, _` · `_, v` · `d`), and at the leaves a `MatchSp` (`Proofs/RoundTripMatch.lean`)
  with the spelling of the selector (`a.b.0`, `a["b"][`0`]`, blanks inside the brackets, or
  `"/a/b/0"`), of the operator (`==`, `!=`, `contains`/`in`, `not contains`/`not in`, `matches`,
  `not matches`, `is empty`, `is not empty`, all with their blanks) and of the value (bare
  word, number, backquoted or double-quoted literal).  `ρ.text` is the text, `ρ.ast` the tree
  that was rendered (printing a tree `t` with a layout gives `ρ.text` for a `ρ` with `ρ.ast = t`;
  `ρ` IS the pair of tree and layout).  `STree.full` / `STree.minOr` construct the fully parenthesised
  and the minimally parenthesised rendering of any tree with spelled leaves.

  PROVED (`print_parse_roundtrip_partial`): for every well-formed rendering `ρ`,
      Accepts pinEnv pinGrammar ρ.text (.expr (norm ρ.ast))
  where `norm` folds `not not e` to `e`.  All node kinds (`not`, `and`, `or`, the three match
  forms, quantifiers) and all the layout freedom listed above are covered.

  INTENDED FULL STATEMENT (not proved in this generality):

      theorem print_parse_roundtrip (t : Expr) (ρ : Layout t) (h : Printable t ρ) :
          Accepts pinEnv pinGrammar (print t ρ) (.expr (norm t))

    for every tree `t`, every layout, and `Printable` demanding only what the bexpr language
    itself demands.  String contents and pointer segments are not restricted to ASCII (see 1);
    what separates the proved statement from this one is 2–6 below, of which 2 is a defect of
    the pinned grammar and 3–6 are properties of the language.

  RESTRICTIONS of the proved statement (all are explicit hypotheses inside `Top.WF`):
   1. The text is VALID UTF-8 (not only ASCII): `VT` = Go's
      `utf8.ValidString` (`valid_text_iff`; `Proofs/Utf8Text.lean`).  Concretely
        · the body of a backquoted or double-quoted literal (value or index `a["…"]`) is ANY
          valid UTF-8 string without the delimiter byte (`PartSp.WF`, `ValSp.WF`: `VT body`); a
          backquoted body without `\r` denotes itself (`string_literal_backtick`), any other body
          whatever `strconv.Unquote` says (`string_literal_general`);
        · the renderer's double-quoted literal `quoteX22 s` is covered for EVERY byte string `s`,
          valid UTF-8 or not (`string_literal_quoteX22`, `quoteX22_shape`: its output is always
          valid text — printable runes raw, everything else and every invalid byte escaped), also
          inside renderings (`value_quoteX22_WF`, `index_quoteX22_WF`, `value_backtick_WF`;
          `wf_value_literal`, `wf_index_literal`, `wf_pointer` spell the hypotheses out);
        · a JSON-pointer segment is any non-empty valid UTF-8 string whose runes are in the
          grammar's class `[\pL\pN-_.~:|]` with Go's `unicode.L` / `unicode.N` tables, non-ASCII
          letters and digits included (`SegOK`, `segOK_iff`, `pointer_segment`);
        · blanks, keywords, identifiers, numbers and punctuation are ASCII because the grammar
          says so (`[ \t\r\n]`, `[a-zA-Z][a-zA-Z0-9_/]*`, …), not because of the proof.
      What is still required, validity of the UTF-8, is required by the parser itself: `read`
      logs `invalid encoding` on every byte that does not start a well-formed rune, and a run
      with a non-empty log is a rejection; a raw invalid byte inside a literal makes the engine
      reject (instance: `Example.invalid_byte_rejected`; not proved in general here) — it has to
      be written `\xHH` inside a double-quoted literal, which is what `quoteX22` does.  The
      lexical core is `any_multibyte` / `Proofs/RoundTripLex.lean`: at a well-formed multi-byte
      rune the position holds that rune, reading it advances by the width of its
      encoding and logs nothing, and it matches no ASCII literal and no ASCII-only class.
   2. A DOUBLE-quoted value literal must have a non-empty body that does not start with `/`
      (`ValSp.WF`).  This is a property of the pinned grammar, not of the proof: `Value` tries
      `Selector` first, which reads `"/usr/bin"` as a JSON pointer, so the literal's `Raw` becomes
      `usr/bin` (defect known as the `"/usr/bin"` finding); `""` happens to survive (the empty
      pointer renders as the empty string) but is excluded with the others.  Backquoted values
      and double-quoted INDEX literals `a["/x"]` are not restricted.
   3. The first identifier of a match expression is not the bare word `not`
      (`MatchSp.notKwOK`): `not in x` would be read as the operator `not`.
   4. The first identifier of a quantifier's selector is none of `contains`, `matches`, `not`,
      `is`, `in` (`SelX.kwOK`): `any contains as x {…}` IS a match expression `any contains as`
      for the grammar (language property).
   5. JSON-pointer selector spelling: every escaped path element is non-empty and over the
      grammar's `[\pL\pN-_.~:|]+` (language property: any other rune ends the segment — `SegOK`);
      the path is non-empty.
   6. A number value must be followed by a blank, `)` or the end of input — the grammar's own
      `AfterNumbers` condition.  Inside a rendering this always holds except for a quantifier
      body ending in a number directly before `}`: there a blank is required (`Sp.WF` of `coll`),
      as in the language (`{x == 1}` is an "Invalid number literal" error).
-/
import Props.C15
import Props.C16Lex
import Proofs.RoundTripExpr

namespace Bexpr.Props.C16
open Bexpr Bexpr.Peg Bexpr.Driver Bexpr.Proofs.RoundTrip

/-! ## 1. The round trip -/

/-- **C16, as proved.**  Every well-formed rendering `ρ` (any blanks, any redundant
    parentheses, any selector / operator / literal / binding spellings, see the header) of a
    tree parses back to that tree with `not not e` folded to `e`.
    Restrictions: see 1–6 in the header (string bodies and pointer segments are arbitrary valid
    UTF-8). -/
theorem print_parse_roundtrip_partial (ρ : Top) (h : ρ.WF) :
    Accepts pinEnv pinGrammar ρ.text (.expr (norm ρ.ast)) :=
  accepts_top_norm ρ h

/-- Hence the ENGINE (`run` = pigeon's `Parse`) returns the tree `norm ρ.ast`, no errors, after exactly
    `N` expression evaluations, for every budget `n` that admits `N` (`n = 0` is
    `math.MaxUint64`). -/
theorem print_parse_roundtrip_engine (ρ : Top) (h : ρ.WF) :
    ∃ N, AcceptsIn pinEnv pinGrammar ρ.text (.expr (norm ρ.ast)) N ∧ ∀ n, N ≤ effectiveMax n →
      run pinEnv pinGrammar n ρ.text = { val := .expr (norm ρ.ast), errs := [], cnt := N } := by
  obtain ⟨N, hN⟩ := (C15.accepts_iff_acceptsIn _ _ _ _).1 (print_parse_roundtrip_partial ρ h)
  exact ⟨N, hN, fun n hn => C15.run_of_acceptsIn pinEnv pinGrammar n ρ.text hN hn⟩

/-- Whenever the engine accepts the text of a well-formed rendering at all (any budget), the
    tree is `norm ρ.ast`. -/
theorem print_parse_roundtrip_unique (ρ : Top) (h : ρ.WF) (n : Nat)
    (ha : (run pinEnv pinGrammar n ρ.text).accepted = true) :
    (run pinEnv pinGrammar n ρ.text).val = .expr (norm ρ.ast) :=
  C15.accepts_unique _ _ _ (C15.run_accepted_sound _ _ n _ ha) (print_parse_roundtrip_partial ρ h)

/-- The round trip below the start rule: at each grammar level (`OrExpression`,
    `AndExpression`, `NotExpression`) the rule consumes exactly the rendering and yields its
    tree, inside any admissible context `rest` (`Ctx`: what may follow an expression of that
    level), from any offset, logging nothing. -/
theorem level_roundtrip {l : Lvl} (c : Sp l) (h : c.WF) (rest : GoString)
    (hc : Ctx l c.endsNum rest)
    (hr : VT rest) (rule : String) (fr : Frame) (off : Nat) (errs : List PErr) :
    Sem pinEnv pinGrammar rule (.ruleRef (ruleName l)) fr (ptAt (c.text ++ rest) off) errs
      (.res (ptAt rest (off + c.text.length)) errs fr (.expr (norm c.ast)) true) := by
  have := eats_Sp c h rest hc hr rule fr off errs
  rw [c.val_eq_norm] at this
  exact this

/-! ## 2. Precedence, grouping, parentheses, `not not` -/

/-- Fully parenthesised rendering (every operand of `not`/`and`/`or` in parentheses). -/
theorem print_parse_roundtrip_paren (s : STree) (h : s.LeavesOK) :
    Accepts pinEnv pinGrammar (Top.text ⟨[], s.full, []⟩) (.expr (norm s.ast)) :=
  accepts_full s h

/-- Minimal parentheses: an operand is parenthesised only where the grammar needs it —
    `or` under `and`/`not`, `and` under `not` or as a LEFT operand of `and`, `or` as a LEFT
    operand of `or`.  That this parses back to the same tree IS the statement "`not` binds
    tighter than `and`, `and` tighter than `or`, chains group to the right". -/
theorem print_parse_roundtrip_minimal (s : STree) (h : s.LeavesOK) :
    Accepts pinEnv pinGrammar (Top.text ⟨[], s.minOr, []⟩) (.expr (norm s.ast)) :=
  accepts_minimal s h

/-- `a or b and not c` (no parentheses in the minimal rendering) is `or a (and b (not c))`,
    `a and b and c` is `and a (and b c)`, `(a and b) and c` keeps its parentheses. -/
theorem minimal_shapes (a b c : MatchSp) :
    (STree.or (.leaf a) (.and (.leaf b) (.not (.leaf c)))).minOr =
      .orOp (.andUp (.leaf a)) sp1 sp1
        (.orUp (.andOp (.leaf b) sp1 sp1 (.andUp (.notOp sp1 (.leaf c))))) ∧
    (STree.and (.leaf a) (.and (.leaf b) (.leaf c))).minOr =
      .orUp (.andOp (.leaf a) sp1 sp1 (.andOp (.leaf b) sp1 sp1 (.andUp (.leaf c)))) ∧
    (STree.and (.and (.leaf a) (.leaf b)) (.leaf c)).minOr =
      .orUp (.andOp (.paren [] (.orUp (.andOp (.leaf a) sp1 sp1 (.andUp (.leaf b)))) [])
        sp1 sp1 (.andUp (.leaf c))) :=
  ⟨rfl, rfl, rfl⟩

theorem not_not (e : Expr) : norm (.not (.not e)) = norm e := norm_not_not e

theorem norm_fixed (e : Expr) (h : NoNotNot e) : norm e = e := norm_id e h

theorem norm_folded (e : Expr) : NoNotNot (norm e) := norm_noNotNot e

/-! ## 3. The match forms: `in` / `contains` spellings -/

/-- `V in S` and `S contains V` denote the same node; so do `V not in S` and
    `S not contains V`. -/
theorem in_contains_same (x : SelX) (v : ValSp) (w₁ w₂ u₁ u₂ u₃ : GoString) :
    (MatchSp.inSel v (.in_ w₁ w₂) x).ast = (MatchSp.opValue x (.contains w₁ w₂) v).ast ∧
    (MatchSp.inSel v (.notIn u₁ u₂ u₃) x).ast =
      (MatchSp.opValue x (.notContains u₁ u₂ u₃) v).ast :=
  ⟨rfl, rfl⟩

theorem match_roundtrip (m : MatchSp) (h : m.WF) (rest : GoString) (hf : m.follow rest)
    (hr : VT rest) (rule : String) (fr : Frame) (off : Nat) (errs : List PErr) :
    Sem pinEnv pinGrammar rule (.ruleRef "MatchExpression") fr (ptAt (m.text ++ rest) off) errs
      (.res (ptAt rest (off + m.text.length)) errs fr (.expr m.ast) true) :=
  eats_MatchExpression m h hf hr

/-! ## 4. Literals: a quoted literal denotes the Go string it spells -/

/-- `VT` ("valid text", the hypothesis on the surrounding input everywhere below) is Go's
    `utf8.ValidString`. -/
theorem valid_text_iff (s : GoString) : VT s ↔ Utf8.validString s = true :=
  vt_iff_validString s

theorem valid_text_of_ascii (s : GoString) (h : Asc s) : VT s := h.vt

/-- Backquoted literal: the bytes between the backquotes — ANY valid UTF-8 string without
    backquote and `\r` (Go drops `\r` from raw strings). -/
theorem string_literal_backtick (s rest : GoString) (hs : Utf8.validString s = true)
    (hnq : ∀ c ∈ s, c ≠ 0x60 ∧ c ≠ 0x0D) (hr : VT rest) (rule : String) (fr : Frame) (off : Nat)
    (errs : List PErr) :
    Sem pinEnv pinGrammar rule (.ruleRef "StringLiteral") fr
      (ptAt (([0x60] ++ (s ++ [0x60])) ++ rest) off) errs
      (.res (ptAt rest (off + ([0x60] ++ (s ++ [0x60])).length)) errs fr (.str s) true) :=
  eats_StringLiteral_backtick s ((vt_iff_validString s).2 hs) hnq hr

/-- Double-quoted literal as written by the renderer (`strconv.Quote` with `\x22` for `"`):
    denotes the original string, for EVERY byte string `s` — valid UTF-8 or not, control bytes,
    quotes, backslashes, non-ASCII runes (printable ones are written raw, the others and every
    invalid byte as ASCII escapes). -/
theorem string_literal_quoteX22 (s rest : GoString) (hr : VT rest) (rule : String)
    (fr : Frame) (off : Nat) (errs : List PErr) :
    Sem pinEnv pinGrammar rule (.ruleRef "StringLiteral") fr
      (ptAt (Strconv.quoteX22 s ++ rest) off) errs
      (.res (ptAt rest (off + (Strconv.quoteX22 s).length)) errs fr (.str s) true) :=
  eats_StringLiteral_quoteX22 s hr

/-- The special case of an ASCII rendering in ASCII surroundings (the hypothesis on the rendering
    is not used). -/
theorem string_literal_quoteX22_partial (s rest : GoString) (_ha : Asc (Strconv.quoteX22 s))
    (hr : Asc rest) (rule : String) (fr : Frame) (off : Nat) (errs : List PErr) :
    Sem pinEnv pinGrammar rule (.ruleRef "StringLiteral") fr
      (ptAt (Strconv.quoteX22 s ++ rest) off) errs
      (.res (ptAt rest (off + (Strconv.quoteX22 s).length)) errs fr (.str s) true) :=
  eats_StringLiteral_quoteX22 s hr.vt

/-- The renderer's literal is always `"`, valid UTF-8 text without `"`, `"`. -/
theorem quoteX22_shape (s : GoString) :
    ∃ body, Strconv.quoteX22 s = [0x22] ++ (body ++ [0x22]) ∧ (∀ c ∈ body, c ≠ 0x22) ∧
      Utf8.validString body = true := by
  obtain ⟨body, h1, h2, h3⟩ := quoteX22_body s
  exact ⟨body, h1, h2, (vt_iff_validString body).1 h3⟩

/-- Any delimited literal `q body q` (body: valid UTF-8 without the byte `q`): denotes
    `strconv.Unquote` of the token. -/
theorem string_literal_general (q : UInt8) (hq : q = 0x60 ∨ q = 0x22) (body s rest : GoString)
    (hb : Utf8.validString body = true) (hnq : ∀ c ∈ body, c ≠ q)
    (hu : Strconv.unquote ([q] ++ (body ++ [q])) = some s) (hr : VT rest) (rule : String)
    (fr : Frame) (off : Nat) (errs : List PErr) :
    Sem pinEnv pinGrammar rule (.ruleRef "StringLiteral") fr
      (ptAt (([q] ++ (body ++ [q])) ++ rest) off) errs
      (.res (ptAt rest (off + ([q] ++ (body ++ [q])).length)) errs fr (.str s) true) :=
  eats_StringLiteral hq body s ((vt_iff_validString body).2 hb) hnq hu hr

/-- The lexical core of non-ASCII text: at a well-formed multi-byte rune the parser's
    position holds that rune, `.` consumes exactly its encoding and logs nothing. -/
theorem any_multibyte (r : Nat) (hv : Utf8.validRune r = true) (h80 : 0x80 ≤ r)
    (rest : GoString) (hr : VT rest) (rule : String) (fr : Frame) (off : Nat) (errs : List PErr) :
    (ptAt (Utf8.encodeRune r ++ rest) off).rn = r ∧
    Sem pinEnv pinGrammar rule .any fr (ptAt (Utf8.encodeRune r ++ rest) off) errs
      (.res (ptAt rest (off + (Utf8.encodeRune r).length)) errs fr
        (.bytes (Utf8.encodeRune r)) true) :=
  ⟨ptAt_rn_rune rest off hv h80, Eats.any_rune hv h80 hr⟩

/-- JSON-pointer segment: `/` and non-empty valid UTF-8 all of whose runes are letters or
    numbers (Go's `unicode.L`, `unicode.N`) or one of `-_.~:|`, followed by the end of input or
    an ASCII byte outside the class (in a selector: `/` or `"`). -/
theorem pointer_segment (g rest : GoString) (hg : SegOK g) (hstop : stopsAt segRune rest)
    (hr : VT rest) (rule : String) (fr : Frame) (off : Nat) (errs : List PErr) :
    Sem pinEnv pinGrammar rule (.ruleRef "JsonPointerSegment") fr (ptAt (([47] ++ g) ++ rest) off)
      errs (.res (ptAt rest (off + ([47] ++ g).length)) errs fr (.str g) true) :=
  eats_JsonPointerSegment hg hstop hr

/-- `SegOK`, spelled out and as a computation. -/
theorem segOK_iff (g : GoString) :
    SegOK g ↔ g ≠ [] ∧ runesInB (fun r => [45, 95, 46, 126, 58, 124].contains r ||
      (Unicode.isL r || Unicode.isN r)) g = true :=
  Iff.intro (fun h => ⟨h.1, (runesIn_iff _ g).1 h.2⟩) (fun h => ⟨h.1, (runesIn_iff _ g).2 h.2⟩)

/-! ### What `Top.WF` demands of literals and pointer segments -/

/-- a quoted VALUE literal inside a rendering: any valid UTF-8 body without the delimiter
    (plus restriction 2 for double quotes) -/
theorem wf_value_literal (q : UInt8) (body val : GoString) :
    (ValSp.str q body val).WF ↔ (q = 0x60 ∨ q = 0x22) ∧ Utf8.validString body = true ∧
      (∀ c ∈ body, c ≠ q) ∧ Strconv.unquote ([q] ++ (body ++ [q])) = some val ∧
      (q = 0x22 → ∃ c t, body = c :: t ∧ c ≠ 47) := by
  show (_ ∧ VT body ∧ _) ↔ _
  rw [vt_iff_validString]

/-- a quoted INDEX literal `[ws₁ q body q ws₂]` inside a rendering -/
theorem wf_index_literal (ws₁ ws₂ body val : GoString) (q : UInt8) :
    (PartSp.index ws₁ q body ws₂ val).WF ↔ AllIn isWs ws₁ ∧ AllIn isWs ws₂ ∧
      (q = 0x60 ∨ q = 0x22) ∧ Utf8.validString body = true ∧ (∀ c ∈ body, c ≠ q) ∧
      Strconv.unquote ([q] ++ (body ++ [q])) = some val := by
  show (_ ∧ _ ∧ _ ∧ VT body ∧ _) ↔ _
  rw [vt_iff_validString]

/-- a JSON-pointer selector inside a rendering -/
theorem wf_pointer (path : List GoString) :
    (SelX.ptr path).WF ↔ path ≠ [] ∧ ∀ p ∈ path, SegOK (C16Lex.ptrEscape p) := Iff.rfl

/-- a backquoted value: every valid UTF-8 string without backquote and `\r` may be written
    between backquotes in a rendering, and denotes itself -/
theorem value_backtick_WF (s : GoString) (hs : Utf8.validString s = true)
    (hnq : ∀ c ∈ s, c ≠ 0x60 ∧ c ≠ 0x0D) : (ValSp.str 0x60 s s).WF :=
  ⟨.inl rfl, (vt_iff_validString s).2 hs, fun c hc => (hnq c hc).1,
    by simpa using C16Lex.unquote_quote_backtick s hnq, fun h => by cases h⟩

/-- the body of the renderer's literal `quoteX22 s = "body"` is valid text without `"`, and
    the literal denotes `s` -/
theorem quoteX22_body_of {s body : GoString}
    (h : Strconv.quoteX22 s = [0x22] ++ (body ++ [0x22])) :
    VT body ∧ (∀ c ∈ body, c ≠ 0x22) ∧ Strconv.unquote ([0x22] ++ (body ++ [0x22])) = some s := by
  obtain ⟨b', e, hnq, hvt⟩ := quoteX22_body s
  have hb : b' = body := by
    rw [e] at h
    exact List.append_cancel_right (List.append_cancel_left h)
  subst hb
  exact ⟨hvt, hnq, e ▸ C16Lex.unquote_quote_double_x22 s⟩

/-- the renderer's double-quoted value: for EVERY byte string `s` (valid UTF-8 or not) the
    literal `quoteX22 s = "body"` may be written in a rendering and denotes `s` — subject only
    to restriction 2 (body non-empty, not starting with `/`) -/
theorem value_quoteX22_WF (s body : GoString)
    (h : Strconv.quoteX22 s = [0x22] ++ (body ++ [0x22]))
    (h2 : ∃ c t, body = c :: t ∧ c ≠ 47) : (ValSp.str 0x22 body s).WF :=
  have ⟨hvt, hnq, hu⟩ := quoteX22_body_of h
  ⟨.inr rfl, hvt, hnq, hu, fun _ => h2⟩

/-- the renderer's double-quoted literal as an index literal `a[ "body" ]`, without restriction 2 -/
theorem index_quoteX22_WF (s body ws₁ ws₂ : GoString) (h1 : AllIn isWs ws₁) (h2 : AllIn isWs ws₂)
    (h : Strconv.quoteX22 s = [0x22] ++ (body ++ [0x22])) :
    (PartSp.index ws₁ 0x22 body ws₂ s).WF :=
  have ⟨hvt, hnq, hu⟩ := quoteX22_body_of h
  ⟨h1, h2, .inr rfl, hvt, hnq, hu⟩

/-- Numbers: `-?(0|[1-9][0-9]*)(\.[0-9]+)?` followed by a blank, `)` or the end of input is
    returned as its text. -/
theorem number_literal (n : NumLit) (hn : n.WF) (rest : GoString) (hf : numFollow rest = true)
    (hr : VT rest) (rule : String) (fr : Frame) (off : Nat) (errs : List PErr) :
    Sem pinEnv pinGrammar rule (.ruleRef "NumberLiteral") fr (ptAt (n.text ++ rest) off) errs
      (.res (ptAt rest (off + n.text.length)) errs fr (.str n.text) true) :=
  eats_NumberLiteral n hn hf hr

/-- Identifiers: `[a-zA-Z][a-zA-Z0-9_/]*`, maximal. -/
theorem identifier (b : UInt8) (x rest : GoString) (hb : isAlpha b.toNat = true)
    (hx : AllIn isIdc x) (hstop : headIn isIdc rest = false) (hr : VT rest) (rule : String)
    (fr : Frame) (off : Nat) (errs : List PErr) :
    Sem pinEnv pinGrammar rule (.ruleRef "Identifier") fr (ptAt ((b :: x) ++ rest) off) errs
      (.res (ptAt rest (off + (b :: x).length)) errs fr (.str (b :: x)) true) :=
  eats_Identifier hb hx hstop hr

/-- The three value styles: a bare word / selector denotes its dotted path, a number its text,
    a quoted literal its unquoted string. -/
theorem value_styles (v : ValSp) (h : v.WF) (rest : GoString) (hf : v.follow rest) (hr : VT rest)
    (rule : String) (fr : Frame) (off : Nat) (errs : List PErr) :
    Sem pinEnv pinGrammar rule (.ruleRef "Value") fr (ptAt (v.text ++ rest) off) errs
      (.res (ptAt rest (off + v.text.length)) errs fr (.mval v.raw) true) :=
  eats_Value v h hf hr

/-! ## 5. Non-vacuity: a concrete rendering, by the theorem and by running the engine -/

namespace Example

/-- the bytes of an ASCII literal -/
def asc (s : String) : GoString := s.toList.map GoString.byteOfChar

/-- A string literal is `String.ofList` of its characters: rewriting with this first spares the
    kernel decoding the literal. -/
theorem asc_ofList (cs : List Char) : asc (String.ofList cs) = cs.map GoString.byteOfChar := by
  rw [asc, String.toList_ofList]

/-- `a.b`, `["c"]` with a blank inside the bracket -/
def selA : SelSp := ⟨97, [], [.dotIdent 98 [], .index [32] 0x22 [99] [] [99]]⟩
def numV : NumLit := ⟨true, [49, 50], [53]⟩
def strV : ValSp := .str 0x60 [120, 32, 121] [120, 32, 121]
/-- `a.b[ "c"]!= -12.5` -/
def m1 : MatchSp := .opValue (.bexpr selA) (.ne [] [32]) (.num numV)
/-- `` `x y` not in "/p/q~1r" `` -/
def m2 : MatchSp := .inSel strV (.notIn [32] [32, 32] [9]) (.ptr [[112], [113, 47, 114]])
/-- `foo is empty` -/
def m3 : MatchSp := .post (.bexpr ⟨102, [111, 111], []⟩) (.isEmpty [32] [32])

/-- `  a.b[ "c"]!= -12.5 or not not ( `x y` not  in<TAB>"/p/q~1r" )  and foo is empty ` -/
def top : Top :=
  ⟨[32, 32],
   .orOp (.andUp (.leaf m1)) [32] [32]
     (.orUp (.andOp
       (.notOp [32] (.notOp [32] (.paren [32] (.orUp (.andUp (.leaf m2))) [32])))
       [32, 32] [32] (.andUp (.leaf m3)))),
   [32]⟩

theorem top_text : top.text =
    asc "  a.b[ \"c\"]!= -12.5 or not not ( `x y` not  in\t\"/p/q~1r\" )  and foo is empty " := by
  rw [asc_ofList]
  decide +kernel

theorem top_WF : top.WF := by decide +kernel

/-- the tree: `or m1 (and m2 m3)` — `and` binds tighter than `or`, `not not` folded,
    parentheses gone, pointer path unescaped -/
theorem top_tree : norm top.ast =
    .or (.match_ ⟨.bexpr, [[97], [98], [99]]⟩ .notEqual (some (asc "-12.5")))
        (.and (.match_ ⟨.jsonPointer, [[112], [113, 47, 114]]⟩ .notIn (some (asc "x y")))
              (.match_ ⟨.bexpr, [asc "foo"]⟩ .isEmpty none)) := by
  rw [asc_ofList, asc_ofList, asc_ofList]
  decide +kernel

theorem top_accepted : Accepts pinEnv pinGrammar top.text (.expr (norm top.ast)) :=
  print_parse_roundtrip_partial top top_WF

def valExpr : PVal → Option Expr
  | .expr e => some e
  | _ => none

/-- `all items as _ , v { v.ok != true or any v.tags as t { t in "/a/b" } }` -/
def top2 : Top :=
  ⟨[],
   .coll .all [32] (.bexpr ⟨105, [116, 101, 109, 115], []⟩) [32] [32]
     (.value [32] [32] ⟨118, []⟩) [32] [32]
     (.orOp
       (.andUp (.leaf (.opValue (.bexpr ⟨118, [], [.dotIdent 111 [107]]⟩) (.ne [32] [32])
         (.sel ⟨116, [114, 117, 101], []⟩))))
       [32] [32]
       (.coll .any [32] (.bexpr ⟨118, [], [.dotIdent 116 [97, 103, 115]]⟩)
         [32] [32] (.dflt ⟨116, []⟩) [32] [32]
         (.orUp (.andUp (.leaf (.inSel (.sel ⟨116, [], []⟩) (.in_ [32] [32])
           (.ptr [[97], [98]])))))
         [32]))
     [32],
   []⟩

theorem top2_text : top2.text =
    asc "all items as _ , v { v.ok != true or any v.tags as t { t in \"/a/b\" } }" := by
  rw [asc_ofList]
  decide +kernel

theorem selWF (b : UInt8) (x : GoString) (hb : isAlpha b.toNat = true) (hx : AllIn isIdc x) :
    (SelX.bexpr ⟨b, x, []⟩).WF := ⟨hb, hx, fun p hp => by cases hp⟩

theorem top2_WF : top2.WF := by decide +kernel

theorem top2_accepted : Accepts pinEnv pinGrammar top2.text (.expr (norm top2.ast)) :=
  print_parse_roundtrip_partial top2 top2_WF

/-! ### A rendering with non-ASCII text: string bodies, an index literal, pointer segments -/

/-- the UTF-8 bytes of a Lean string, by the model's `encodeRune` -/
def utf8 (s : String) : GoString := s.toList.flatMap fun c => Utf8.encodeRune c.toNat

theorem utf8_ofList (cs : List Char) :
    utf8 (String.ofList cs) = cs.flatMap fun c => Utf8.encodeRune c.toNat := by
  rw [utf8, String.toList_ofList]

def seg1 : GoString := [0xE5, 0x90, 0x8D, 0xE5, 0x89, 0x8D]            -- 名前
def seg2 : GoString := [0xC3, 0xA9, 0x31]                              -- é1
def rawV : GoString := [110, 97, 0xC3, 0xAF, 118, 101, 32, 0xE2, 0x98, 0x83]   -- naïve ☃
def keyK : GoString := [0xD0, 0xBA, 0xD0, 0xBB, 0xD1, 0x8E, 0xD1, 0x87]  -- ключ
def dqBody : GoString := [0xE6, 0x97, 0xA5, 0xE6, 0x9C, 0xAC, 0x5C, 0x74]  -- 日本\t (escape)
def dqVal : GoString := [0xE6, 0x97, 0xA5, 0xE6, 0x9C, 0xAC, 9]          -- 日本<TAB>

/-- `"/名前/é1" contains `naïve ☃`` -/
def m4 : MatchSp := .opValue (.ptr [seg1, seg2]) (.contains [32] [32]) (.str 0x60 rawV rawV)
/-- `x["ключ"] == "日本\t"` -/
def m5 : MatchSp := .opValue (.bexpr ⟨120, [], [.index [] 0x22 keyK [] keyK]⟩) (.eq [32] [32])
  (.str 0x22 dqBody dqVal)

def top3 : Top := ⟨[], .orOp (.andUp (.leaf m4)) [32] [32] (.orUp (.andUp (.leaf m5))), []⟩

theorem top3_text : top3.text =
    utf8 "\"/名前/é1\" contains `naïve ☃` or x[\"ключ\"] == \"日本\\t\"" := by
  rw [utf8_ofList]
  decide +kernel

/-- the renderer writes printable non-ASCII runes raw, the tab as `\t`, an invalid byte as
    `\xff` -/
theorem quoteX22_examples :
    Strconv.quoteX22 dqVal = [0x22] ++ (dqBody ++ [0x22]) ∧
    Strconv.quoteX22 ([0xFF] ++ seg2) = utf8 "\"\\xffé1\"" := by
  rw [utf8_ofList]
  decide +kernel

theorem top3_WF : top3.WF := by decide +kernel

theorem top3_tree : norm top3.ast =
    .or (.match_ ⟨.jsonPointer, [seg1, seg2]⟩ .in_ (some rawV))
        (.match_ ⟨.bexpr, [[120], keyK]⟩ .equal (some dqVal)) := by
  decide +kernel

theorem top3_accepted : Accepts pinEnv pinGrammar top3.text (.expr (norm top3.ast)) :=
  print_parse_roundtrip_partial top3 top3_WF

/-! ### The engine on these texts -/

/-- Every run of the engine in this file, in one statement: the kernel shares the grammar's rule
    lookups between runs only inside one declaration. -/
theorem engine_runs :
    ((run pinEnv pinGrammar 0 top.text).cnt = 2776 ∧ (run pinEnv pinGrammar 0 top.text).errs = [] ∧
      valExpr (run pinEnv pinGrammar 0 top.text).val = some (norm top.ast)) ∧
    ((run pinEnv pinGrammar 0 top2.text).errs = [] ∧
      valExpr (run pinEnv pinGrammar 0 top2.text).val = some (norm top2.ast)) ∧
    ((run pinEnv pinGrammar 0 top3.text).errs = [] ∧
      valExpr (run pinEnv pinGrammar 0 top3.text).val = some (norm top3.ast)) ∧
    ((run pinEnv pinGrammar 0 (asc "a == `" ++ [0xFF] ++ asc "`")).accepted = false ∧
      (run pinEnv pinGrammar 0 (asc "a == `" ++ [0xFF] ++ asc "`")).errs.all
        (fun e => e.kind == .invalidEncoding && e.off == 6) = true ∧
      (run pinEnv pinGrammar 0 (asc "a == " ++ Strconv.quoteX22 [0xFF])).accepted = true) := by
  rw [asc_ofList, asc_ofList, asc_ofList]
  decide +kernel

/-- cross-check by RUNNING the engine model on the text (kernel computation, independent of
    the theorem): same tree, no errors, 2776 expression evaluations -/
theorem top_engine :
    (run pinEnv pinGrammar 0 top.text).cnt = 2776 ∧ (run pinEnv pinGrammar 0 top.text).errs = [] ∧
    valExpr (run pinEnv pinGrammar 0 top.text).val = some (norm top.ast) :=
  engine_runs.1

/-- the same run as the record `print_parse_roundtrip_engine` predicts, with the size 2776 -/
theorem top_engine' : run pinEnv pinGrammar 0 top.text =
    { val := .expr (norm top.ast), errs := [], cnt := 2776 } := by
  have hacc : (run pinEnv pinGrammar 0 top.text).accepted = true := by
    simp [ParseOut.accepted, top_engine.2.1]
  obtain ⟨M, hM, hMa⟩ := (C15.run_accepts_iff_budget pinEnv pinGrammar 0 top.text
    (.expr (norm top.ast))).1 ⟨hacc, print_parse_roundtrip_unique top top_WF 0 hacc⟩
  have hrun := C15.run_of_acceptsIn pinEnv pinGrammar 0 top.text hMa hM
  have hc : M = 2776 := by
    have := congrArg ParseOut.cnt hrun
    rw [top_engine.1] at this
    exact this.symm
  rw [hrun, hc]

theorem top2_engine : (run pinEnv pinGrammar 0 top2.text).errs = [] ∧
    valExpr (run pinEnv pinGrammar 0 top2.text).val = some (norm top2.ast) :=
  engine_runs.2.1

theorem top3_engine : (run pinEnv pinGrammar 0 top3.text).errs = [] ∧
    valExpr (run pinEnv pinGrammar 0 top3.text).val = some (norm top3.ast) :=
  engine_runs.2.2.1

/-- validity is needed: ``a == `<0xFF>` `` (a raw invalid byte in a backquoted literal) is
    rejected by the engine with an `invalid encoding` error, while the renderer's
    `a == "\xff"` is accepted -/
theorem invalid_byte_rejected :
    (run pinEnv pinGrammar 0 (asc "a == `" ++ [0xFF] ++ asc "`")).accepted = false ∧
    (run pinEnv pinGrammar 0 (asc "a == `" ++ [0xFF] ++ asc "`")).errs.all
      (fun e => e.kind == .invalidEncoding && e.off == 6) = true ∧
    (run pinEnv pinGrammar 0 (asc "a == " ++ Strconv.quoteX22 [0xFF])).accepted = true :=
  engine_runs.2.2.2

end Example

end Bexpr.Props.C16

#print axioms Bexpr.Props.C16.print_parse_roundtrip_partial
#print axioms Bexpr.Props.C16.print_parse_roundtrip_engine
#print axioms Bexpr.Props.C16.print_parse_roundtrip_unique
#print axioms Bexpr.Props.C16.level_roundtrip
#print axioms Bexpr.Props.C16.print_parse_roundtrip_paren
#print axioms Bexpr.Props.C16.print_parse_roundtrip_minimal
#print axioms Bexpr.Props.C16.minimal_shapes
#print axioms Bexpr.Props.C16.not_not
#print axioms Bexpr.Props.C16.norm_fixed
#print axioms Bexpr.Props.C16.norm_folded
#print axioms Bexpr.Props.C16.in_contains_same
#print axioms Bexpr.Props.C16.match_roundtrip
#print axioms Bexpr.Props.C16.string_literal_backtick
#print axioms Bexpr.Props.C16.string_literal_quoteX22
#print axioms Bexpr.Props.C16.string_literal_quoteX22_partial
#print axioms Bexpr.Props.C16.quoteX22_shape
#print axioms Bexpr.Props.C16.any_multibyte
#print axioms Bexpr.Props.C16.pointer_segment
#print axioms Bexpr.Props.C16.segOK_iff
#print axioms Bexpr.Props.C16.valid_text_iff
#print axioms Bexpr.Props.C16.valid_text_of_ascii
#print axioms Bexpr.Props.C16.string_literal_general
#print axioms Bexpr.Props.C16.wf_value_literal
#print axioms Bexpr.Props.C16.wf_index_literal
#print axioms Bexpr.Props.C16.wf_pointer
#print axioms Bexpr.Props.C16.value_backtick_WF
#print axioms Bexpr.Props.C16.value_quoteX22_WF
#print axioms Bexpr.Props.C16.index_quoteX22_WF
#print axioms Bexpr.Props.C16.number_literal
#print axioms Bexpr.Props.C16.identifier
#print axioms Bexpr.Props.C16.value_styles
#print axioms Bexpr.Props.C16.Example.top_text
#print axioms Bexpr.Props.C16.Example.top_WF
#print axioms Bexpr.Props.C16.Example.top_tree
#print axioms Bexpr.Props.C16.Example.top_accepted
#print axioms Bexpr.Props.C16.Example.top_engine
#print axioms Bexpr.Props.C16.Example.top_engine'
#print axioms Bexpr.Props.C16.Example.top2_text
#print axioms Bexpr.Props.C16.Example.top2_accepted
#print axioms Bexpr.Props.C16.Example.top2_engine
#print axioms Bexpr.Props.C16.Example.top3_text
#print axioms Bexpr.Props.C16.Example.quoteX22_examples
#print axioms Bexpr.Props.C16.Example.top3_WF
#print axioms Bexpr.Props.C16.Example.top3_tree
#print axioms Bexpr.Props.C16.Example.invalid_byte_rejected
#print axioms Bexpr.Props.C16.Example.top3_accepted
#print axioms Bexpr.Props.C16.Example.top3_engine
