/-
  C12 — One Evaluator or Filter can be shared by concurrent goroutines.

  What is proved here (the logic part, about abstract steps `Step σ l` over a shared state `σ`
  and per-call local states `l`, `Bexpr/Eval/Effects.lean`):
   * `interleave_eq_sequential`: if no step writes the shared state, then after EVERY
     interleaving the shared state is the initial one and each call ends in exactly the local
     state (hence the result) of its own sequential run from the initial shared state — for any
     number of calls, any schedule.
   * `no_conflict`: if every write of every call goes to memory owned by that call and no call
     touches memory owned by another (`Disciplined`), no two accesses of different calls conflict, i.e. the execution is race-free under
     happens-before whatever the schedule.
  What ties it to the code: `Ties/Effects.lean` — every store site reachable from Evaluate / Execute,
  regenerated from /repo on each run with a class computed by the translator's freshness analysis,
  has a class that `Bexpr/Eval/Effects.lean` (`isLocalSite`) counts as call-local, and each
  appended-to slice has a fresh origin; the regexp cache is written at creation only.  That the
  steps of the modelled Evaluate / Execute are `ReadOnly` is not a Lean theorem: it is this tie.
  PARTIAL, named: the Go memory model, the internals of reflect / regexp (`*Regexp` is documented
  safe for concurrent use) / strconv, and "this address is freshly allocated in this call" are
  not proved in Lean; the last is the translator's analysis (xlate/facts_effects.go).
  The dynamic half is the `conc` fragment built with the Go race detector.
-/
import Bexpr.Eval.Effects
import Bexpr.Eval.Impl

namespace Bexpr.Props.C12
open Bexpr.Eval.Effects

variable {σ l : Type}

theorem upd_same (f : Nat → l) (i : Nat) (v : l) : upd f i v i = v := by simp [upd]
theorem upd_other (f : Nat → l) (i j : Nat) (v : l) (h : j ≠ i) : upd f i v j = f j := by simp [upd, h]

/-- steps of one call, run alone, leave the shared state unchanged when they are read-only -/
theorem runSeq_shared (steps : List (Step σ l)) (h : ∀ s ∈ steps, s.ReadOnly) (a : σ) (b : l) :
    (runSeq steps a b).1 = a := by
  induction steps generalizing a b with
  | nil => rfl
  | cons st rest ih =>
    simp only [runSeq]
    have h1 : (st.run a b).1 = a := h st (by simp) a b
    rw [ih (fun s hs => h s (by simp [hs]))]
    exact h1

/-- every interleaving of read-only calls: shared state unchanged, and every call ends in the
    local state of its sequential run from the INITIAL shared state -/
theorem interleave_eq_sequential (sched : List (Nat × Step σ l)) (h : ∀ p ∈ sched, p.2.ReadOnly)
    (a : σ) (loc : Nat → l) :
    (runAll sched a loc).1 = a ∧
      ∀ i, (runAll sched a loc).2 i = (runSeq (stepsOf i sched) a (loc i)).2 := by
  induction sched generalizing a loc with
  | nil => exact ⟨rfl, fun _ => rfl⟩
  | cons p rest ih =>
    obtain ⟨j, st⟩ := p
    have hro : (st.run a (loc j)).1 = a := h (j, st) (by simp) a (loc j)
    have ih' := ih (fun q hq => h q (by simp [hq])) (st.run a (loc j)).1 (upd loc j (st.run a (loc j)).2)
    simp only [runAll]
    refine ⟨by rw [ih'.1, hro], fun i => ?_⟩
    rw [ih'.2 i, hro]
    by_cases hij : i = j
    · subst hij
      simp only [stepsOf, List.filter_cons, beq_self_eq_true, if_true, List.map_cons, runSeq, upd_same]
      rw [hro]
    · have : (j == i) = false := by simp; exact fun h => hij h.symm
      simp only [stepsOf, List.filter_cons, this]
      rw [upd_other _ _ _ _ hij]
      rfl

/-- in particular the outcome of a call does not depend on the schedule -/
theorem schedule_independent (s1 s2 : List (Nat × Step σ l))
    (h1 : ∀ p ∈ s1, p.2.ReadOnly) (h2 : ∀ p ∈ s2, p.2.ReadOnly)
    (a : σ) (loc : Nat → l) (i : Nat) (hsame : stepsOf i s1 = stepsOf i s2) :
    (runAll s1 a loc).2 i = (runAll s2 a loc).2 i := by
  rw [(interleave_eq_sequential s1 h1 a loc).2 i, (interleave_eq_sequential s2 h2 a loc).2 i, hsame]

/-- memory locations: shared, or owned by one call -/
inductive Loc where
  | shared (name : Nat)
  | ownedBy (call : Nat) (name : Nat)
  deriving DecidableEq

structure Access where
  call : Nat
  loc : Loc
  isWrite : Bool

/-- two accesses conflict: different calls, same location, at least one write -/
def conflict (x y : Access) : Prop := x.call ≠ y.call ∧ x.loc = y.loc ∧ (x.isWrite = true ∨ y.isWrite = true)

/-- the discipline: a call writes only memory it owns, and touches no memory owned by another
    call -/
def Disciplined (x : Access) : Prop :=
  (x.isWrite = true → ∃ n, x.loc = .ownedBy x.call n) ∧ (∀ c n, x.loc = .ownedBy c n → c = x.call)

theorem no_conflict (x y : Access) (hx : Disciplined x) (hy : Disciplined y) : ¬ conflict x y := by
  rintro ⟨hne, hloc, hw⟩
  rcases hw with hw | hw
  · obtain ⟨n, hn⟩ := hx.1 hw
    exact hne (hy.2 x.call n (hloc ▸ hn))
  · obtain ⟨n, hn⟩ := hy.1 hw
    exact hne (hx.2 y.call n (hloc.symm ▸ hn)).symm

/-- The model of Evaluate is a Lean function of (syntax tree, options, datum), so two calls with
    the same arguments return the same outcome; the statement itself is reflexivity. -/
theorem evaluate_is_function (re : Bexpr.Eval.RegexOracle) (ev : Bexpr.Eval.Evaluator) (d : Bexpr.Go.Any) :
    ev.evaluate re d = ev.evaluate re d := rfl

/-- non-vacuity: two calls of two read-only steps each, interleaved a b a b, on a shared Nat -/
def exStep (k : Nat) : Step Nat Nat := { run := fun a b => (a, a + b + k) }
example : (exStep 1).ReadOnly := fun _ _ => rfl
example : (runAll [(0, exStep 1), (1, exStep 10), (0, exStep 2), (1, exStep 20)] 5 (fun _ => 0)).2 0
    = (runSeq [exStep 1, exStep 2] 5 0).2 := by decide

end Bexpr.Props.C12

#print axioms Bexpr.Props.C12.interleave_eq_sequential
#print axioms Bexpr.Props.C12.schedule_independent
#print axioms Bexpr.Props.C12.no_conflict
#print axioms Bexpr.Props.C12.runSeq_shared
