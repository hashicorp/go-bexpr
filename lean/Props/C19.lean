/-
  C19 — `ExpressionDump` renders the tree faithfully.

  Model: `Bexpr.Dump.dump` (`Bexpr/Eval/Dump.lean`), `Bexpr.Selector.render`
  (`Bexpr/Peg/Actions.lean`), Go: `/repo/grammar/ast.go`.
-/
import Bexpr.Eval.Dump
import Proofs.DumpLemmas

namespace Bexpr.Props.C19
open Bexpr Bexpr.Dump Bexpr.Proofs.Dump

/-! ### the reference renderer: a pre-order list of (level, text) lines -/

/-- header text of a node (without indentation, without the newline) -/
def header : Expr → GoString
  | .not _ => s "Not {"
  | .and _ _ => s "And {"
  | .or _ _ => s "Or {"
  | .match_ _ op _ => s (matchOpName op) ++ s " {"
  | .coll op sel b _ =>
    s (collOpName op) ++ s " " ++ bindingString b ++ s " on " ++ sel.render ++ s " {"

/-- the attribute lines of a match node (texts only) -/
def matchAttrs (sel : Selector) (op : MatchOp) (val : Option GoString) : List GoString :=
  (s "Selector: " ++ sel.render) ::
    (if printsValue op then [s "Value: " ++ Strconv.quote (val.getD [])] else [])

/-- One block per node: header at the node's level, attribute lines and child blocks one level
    deeper, the closing brace at the node's level. -/
def render : Expr → Nat → List (Nat × GoString)
  | .not e, l => (l, s "Not {") :: (render e (l + 1) ++ [(l, s "}")])
  | .and a b, l => (l, s "And {") :: (render a (l + 1) ++ render b (l + 1) ++ [(l, s "}")])
  | .or a b, l => (l, s "Or {") :: (render a (l + 1) ++ render b (l + 1) ++ [(l, s "}")])
  | .match_ sel op val, l =>
    (l, s (matchOpName op) ++ s " {") ::
      ((matchAttrs sel op val).map (fun t => (l + 1, t)) ++ [(l, s "}")])
  | .coll op sel b inner, l =>
    (l, s (collOpName op) ++ s " " ++ bindingString b ++ s " on " ++ sel.render ++ s " {") ::
      (render inner (l + 1) ++ [(l, s "}")])

/-- the bytes of one output line: indentation, text, newline -/
def lineStr (indent : GoString) (p : Nat × GoString) : GoString :=
  repeatStr indent p.1 ++ p.2 ++ s "\n"

/-- the bytes of a list of lines -/
def linesStr (indent : GoString) (ls : List (Nat × GoString)) : GoString :=
  (ls.map (lineStr indent)).flatten

theorem linesStr_nil (indent : GoString) : linesStr indent [] = [] := rfl

theorem linesStr_cons (indent : GoString) (p : Nat × GoString) (ls : List (Nat × GoString)) :
    linesStr indent (p :: ls) = lineStr indent p ++ linesStr indent ls := by
  simp [linesStr]

theorem linesStr_append (indent : GoString) (a b : List (Nat × GoString)) :
    linesStr indent (a ++ b) = linesStr indent a ++ linesStr indent b := by
  simp [linesStr]

theorem linesStr_block (indent : GoString) (l : Nat) (hd : GoString)
    (mid : List (Nat × GoString)) :
    linesStr indent ((l, hd) :: (mid ++ [(l, s "}")])) =
      repeatStr indent l ++ (hd ++ s "\n") ++ linesStr indent mid ++ repeatStr indent l ++ s "}\n" := by
  simp [linesStr, lineStr, s_close]

/-! ### `dump` is the concatenation of the rendered lines -/

theorem dump_eq_render (indent : GoString) (e : Expr) (level : Nat)
    (h : e.parserShaped = true) :
    dump indent e level = some (linesStr indent (render e level)) := by
  induction e generalizing level with
  | not e ih =>
    simp only [dump, ih (level + 1) h, render, linesStr_block, ← s_not, bind, Option.bind, pure]
  | and a b iha ihb | or a b iha ihb =>
    simp only [Expr.parserShaped, Bool.and_eq_true] at h
    simp only [dump, iha (level + 1) h.1, ihb (level + 1) h.2, render, linesStr_block,
      linesStr_append, ← s_and, ← s_or, bind, Option.bind, pure, ← List.append_assoc]
  | match_ sel op val =>
    simp only [Expr.parserShaped, beq_iff_eq] at h
    cases hp : printsValue op
    · simp only [dump, hp, render, matchAttrs, linesStr_cons, linesStr_append, linesStr_nil, lineStr,
        s_open, s_close, List.map, List.append_nil, ← List.append_assoc, Bool.false_eq_true, if_false]
    · have ht : op.takesValue = true := by cases op <;> first | rfl | cases hp
      rw [ht] at h
      cases val with
      | none => cases h
      | some raw =>
        simp only [dump, hp, render, matchAttrs, linesStr_cons, linesStr_append, linesStr_nil,
          lineStr, s_open, s_close, List.map, List.append_nil, ← List.append_assoc, if_true,
          Option.getD_some]
  | coll op sel b inner ih =>
    simp only [dump, ih (level + 1) h, render, linesStr_block, s_open, bind, Option.bind, pure,
      ← List.append_assoc]

/-- the same with `linesStr` unfolded: `flatten` of the mapped lines -/
theorem dump_eq_render' (indent : GoString) (e : Expr) (level : Nat)
    (h : e.parserShaped = true) :
    dump indent e level =
      some (((render e level).map fun (p : Nat × GoString) =>
        repeatStr indent p.1 ++ p.2 ++ s "\n").flatten) :=
  dump_eq_render indent e level h

/-! ### Totality on parser-shaped trees -/

theorem dump_total (indent : GoString) (e : Expr) (level : Nat) (h : e.parserShaped = true) :
    (dump indent e level).isSome = true := by
  rw [dump_eq_render indent e level h]; rfl

/-- a value-printing match node without a value makes `dump` panic (`.equal`, for instance) -/
theorem dump_none_example (indent : GoString) (sel : Selector) (level : Nat) :
    dump indent (.match_ sel .equal none) level = none := rfl

/-- `matches` / `not matches` carry a value that is NOT printed; a missing value is harmless
    there (so `parserShaped` is sufficient, not necessary, for totality). -/
example (indent : GoString) (sel : Selector) (level : Nat) :
    (dump indent (.match_ sel .matches none) level).isSome = true := rfl

/-! ### Block structure and levels (of `render`) -/

theorem level_ge_of_block {ls : List (Nat × GoString)} {l : Nat} {hd cl : GoString}
    (h : ∃ mid, ls = (l, hd) :: (mid ++ [(l, cl)]) ∧ ∀ p ∈ mid, l + 1 ≤ p.1) :
    ∀ p ∈ ls, l ≤ p.1 := by
  obtain ⟨mid, rfl, hmid⟩ := h
  intro p hp
  simp only [List.mem_cons, List.mem_append, List.not_mem_nil, or_false] at hp
  rcases hp with rfl | hp | rfl
  · exact Nat.le_refl _
  · exact Nat.le_of_succ_le (hmid p hp)
  · exact Nat.le_refl _

/-- first line: the header at the node's level; last line: `}` at the node's level; everything in
    between (attribute lines and the children's blocks) is at least one level deeper. -/
theorem render_block (e : Expr) (l : Nat) :
    ∃ mid, render e l = (l, header e) :: (mid ++ [(l, s "}")]) ∧ ∀ p ∈ mid, l + 1 ≤ p.1 := by
  -- a child is rendered at `l + 1` and is a block itself (`level_ge_of_block`)
  induction e generalizing l with
  | not e ih => exact ⟨render e (l + 1), rfl, level_ge_of_block (ih (l + 1))⟩
  | and a b iha ihb | or a b iha ihb =>
    exact ⟨render a (l + 1) ++ render b (l + 1), rfl, List.forall_mem_append.2
      ⟨level_ge_of_block (iha (l + 1)), level_ge_of_block (ihb (l + 1))⟩⟩
  | match_ sel op val =>
    refine ⟨(matchAttrs sel op val).map (fun t => (l + 1, t)), rfl, ?_⟩
    intro p hp
    obtain ⟨t, _, rfl⟩ := List.mem_map.1 hp
    exact Nat.le_refl _
  | coll op sel b inner ih => exact ⟨render inner (l + 1), rfl, level_ge_of_block (ih (l + 1))⟩

theorem render_level_ge (e : Expr) (l : Nat) : ∀ p ∈ render e l, l ≤ p.1 :=
  level_ge_of_block (render_block e l)

/-- first and last line of a node's block are at the node's level … -/
theorem dump_levels_first_last (e : Expr) (l : Nat) :
    (render e l).head? = some (l, header e) ∧ (render e l).getLast? = some (l, s "}") := by
  obtain ⟨mid, hm, _⟩ := render_block e l
  rw [hm]
  refine ⟨rfl, ?_⟩
  rw [← List.cons_append, List.getLast?_append]
  rfl

/-- … and every line of a child's block is at a level ≥ the parent's level + 1 (first conjunct);
    the other conjuncts unfold `render` on the four nodes that have children. -/
theorem dump_levels :
    (∀ e l, ∀ p ∈ render e (l + 1), l + 1 ≤ p.1) ∧
    (∀ e l, render (.not e) l = (l, s "Not {") :: (render e (l + 1) ++ [(l, s "}")])) ∧
    (∀ a b l, render (.and a b) l =
      (l, s "And {") :: (render a (l + 1) ++ render b (l + 1) ++ [(l, s "}")])) ∧
    (∀ a b l, render (.or a b) l =
      (l, s "Or {") :: (render a (l + 1) ++ render b (l + 1) ++ [(l, s "}")])) ∧
    (∀ op sel b inner l, render (.coll op sel b inner) l =
      (l, header (.coll op sel b inner)) :: (render inner (l + 1) ++ [(l, s "}")])) :=
  ⟨fun e l => render_level_ge e (l + 1), fun _ _ => rfl, fun _ _ _ => rfl, fun _ _ _ => rfl,
    fun _ _ _ _ _ => rfl⟩

/-- indentation is uniform: rendering at a deeper level only shifts the levels -/
theorem render_shift (e : Expr) (l k : Nat) :
    render e (l + k) = (render e l).map fun p => (p.1 + k, p.2) := by
  -- in every case: unfold, push the map inside, and read `l + k + 1` as `(l + 1) + k`
  induction e generalizing l with
  | match_ sel op val =>
    simp only [render, List.map_cons, List.map_append, List.map_nil, List.map_map,
      Nat.add_right_comm l k 1]
    rfl
  | _ => simp only [render, List.map_cons, List.map_append, List.map_nil,
      Nat.add_right_comm l k 1, *]

/-- number of lines: two per node, plus the attribute lines of match nodes -/
def lineCount : Expr → Nat
  | .not e => lineCount e + 2
  | .and a b => lineCount a + lineCount b + 2
  | .or a b => lineCount a + lineCount b + 2
  | .match_ _ op _ => if printsValue op then 4 else 3
  | .coll _ _ _ inner => lineCount inner + 2

theorem render_length (e : Expr) (l : Nat) : (render e l).length = lineCount e := by
  induction e generalizing l with
  | not e ih => simp [render, lineCount, ih]
  | and a b iha ihb => simp [render, lineCount, iha, ihb]; omega
  | or a b iha ihb => simp [render, lineCount, iha, ihb]; omega
  | match_ sel op val => cases h : printsValue op <;> simp [render, lineCount, matchAttrs, h]
  | coll op sel b inner ih => simp [render, lineCount, ih]

/-! ### Determinism — `dump` is a function of (indent, tree, level) -/

theorem dump_deterministic (i₁ i₂ : GoString) (e₁ e₂ : Expr) (l₁ l₂ : Nat)
    (hi : i₁ = i₂) (he : e₁ = e₂) (hl : l₁ = l₂) : dump i₁ e₁ l₁ = dump i₂ e₂ l₂ := by
  subst hi he hl; rfl

/-! ### `Selector.String()` -/

theorem selector_string_spec :
    (∀ ty, (⟨ty, []⟩ : Selector).render = []) ∧
    (∀ path, (⟨.bexpr, path⟩ : Selector).render = GoString.join (GoString.ofString ".") path) ∧
    (∀ path, (⟨.jsonPointer, path⟩ : Selector).render =
      GoString.join (GoString.ofString "/") path) ∧
    (∀ path, (⟨.unknown, path⟩ : Selector).render = []) := by
  refine ⟨fun _ => rfl, ?_, ?_, ?_⟩ <;> intro path <;> cases path <;> rfl

theorem selector_string_bexpr (path : List GoString) :
    (⟨.bexpr, path⟩ : Selector).render = (path.intersperse [46]).flatten := by
  rw [selector_string_spec.2.1, join_eq_flatten_intersperse, GoString.ofString_dot]

theorem selector_string_jsonPointer (path : List GoString) :
    (⟨.jsonPointer, path⟩ : Selector).render = (path.intersperse [47]).flatten := by
  rw [selector_string_spec.2.2.1, join_eq_flatten_intersperse, GoString.ofString_slash]

/-! ### Operator names -/

theorem matchOpName_injective (a b : MatchOp) (h : matchOpName a = matchOpName b) : a = b :=
  injective_of_list matchOpName
    [.equal, .notEqual, .in_, .notIn, .isEmpty, .isNotEmpty, .matches, .notMatches]
    (fun x => by cases x <;> decide) (by decide +kernel) a b h

theorem collOpName_injective (a b : CollOp) (h : collOpName a = collOpName b) : a = b :=
  injective_of_list collOpName [.all, .any] (fun x => by cases x <;> decide) (by decide +kernel) a b h

theorem bindModeName_injective (a b : BindMode) (h : bindModeName a = bindModeName b) :
    a = b :=
  injective_of_list bindModeName [.default, .index, .value, .indexAndValue]
    (fun x => by cases x <;> decide) (by decide +kernel) a b h

theorem printsValue_iff (op : MatchOp) :
    printsValue op = true ↔ op = .equal ∨ op = .notEqual ∨ op = .in_ ∨ op = .notIn := by
  cases op <;> simp [printsValue]

/-- the four equality / membership operators print `Value: <quoted raw>` … -/
theorem render_match_prints (sel : Selector) (op : MatchOp) (raw : GoString) (l : Nat)
    (h : printsValue op = true) :
    render (.match_ sel op (some raw)) l =
      [(l, s (matchOpName op) ++ s " {"), (l + 1, s "Selector: " ++ sel.render),
       (l + 1, s "Value: " ++ Strconv.quote raw), (l, s "}")] := by
  simp [render, matchAttrs, h]

/-- … the other four never look at the value. -/
theorem render_match_silent (sel : Selector) (op : MatchOp) (val : Option GoString) (l : Nat)
    (h : printsValue op = false) :
    render (.match_ sel op val) l =
      [(l, s (matchOpName op) ++ s " {"), (l + 1, s "Selector: " ++ sel.render), (l, s "}")] := by
  simp [render, matchAttrs, h]

theorem dump_match_silent (indent : GoString) (sel : Selector) (op : MatchOp)
    (v w : Option GoString) (l : Nat) (h : printsValue op = false) :
    dump indent (.match_ sel op v) l = dump indent (.match_ sel op w) l := by
  simp [dump, h]

theorem header_coll (op : CollOp) (sel : Selector) (b : Binding) (inner : Expr) :
    header (.coll op sel b inner) =
      s (collOpName op) ++ s " " ++ bindingString b ++ s " on " ++ sel.render ++ s " {" := rfl

/-! ### Non-vacuity -/

section examples

/-- `foo.bar == "a\"b" and not (all Value (v) in /xs { v is empty })` -/
def exTree : Expr :=
  .and
    (.match_ ⟨.bexpr, [s "foo", s "bar"]⟩ .equal (some (s "a\"b")))
    (.not (.coll .all ⟨.jsonPointer, [s "xs"]⟩ { mode := .value, value := s "v" }
      (.match_ ⟨.bexpr, [s "v"]⟩ .isEmpty none)))

example : exTree.parserShaped = true := by decide

example : dump (s "  ") exTree 0 = some (s (
    "And {\n" ++
    "  Equal {\n" ++
    "    Selector: foo.bar\n" ++
    "    Value: \"a\\\"b\"\n" ++
    "  }\n" ++
    "  Not {\n" ++
    "    ALL Value (v) on xs {\n" ++
    "      Is Empty {\n" ++
    "        Selector: v\n" ++
    "      }\n" ++
    "    }\n" ++
    "  }\n" ++
    "}\n")) := by decide +kernel

example : (render exTree 0).map (·.1) = [0, 1, 2, 2, 1, 1, 2, 3, 4, 3, 2, 1, 0] := by
  decide +kernel

example : lineCount exTree = 13 := by decide

/-- a tree that is not parser-shaped and does panic -/
example : dump (s "  ") (.not (.match_ ⟨.bexpr, [s "x"]⟩ .in_ none)) 0 = none := rfl

example : (⟨.jsonPointer, [s "a", s "b", s "c"]⟩ : Selector).render = s "a/b/c" := by
  decide +kernel
example : (⟨.bexpr, [s "a", s "b", s "c"]⟩ : Selector).render = s "a.b.c" := by
  decide +kernel

end examples

end Bexpr.Props.C19

#print axioms Bexpr.Props.C19.dump_total
#print axioms Bexpr.Props.C19.dump_eq_render
#print axioms Bexpr.Props.C19.dump_eq_render'
#print axioms Bexpr.Props.C19.render_block
#print axioms Bexpr.Props.C19.render_level_ge
#print axioms Bexpr.Props.C19.dump_levels_first_last
#print axioms Bexpr.Props.C19.dump_levels
#print axioms Bexpr.Props.C19.render_shift
#print axioms Bexpr.Props.C19.render_length
#print axioms Bexpr.Props.C19.dump_deterministic
#print axioms Bexpr.Props.C19.selector_string_spec
#print axioms Bexpr.Props.C19.selector_string_bexpr
#print axioms Bexpr.Props.C19.selector_string_jsonPointer
#print axioms Bexpr.Props.C19.matchOpName_injective
#print axioms Bexpr.Props.C19.collOpName_injective
#print axioms Bexpr.Props.C19.bindModeName_injective
#print axioms Bexpr.Props.C19.printsValue_iff
#print axioms Bexpr.Props.C19.render_match_prints
#print axioms Bexpr.Props.C19.render_match_silent
#print axioms Bexpr.Props.C19.dump_match_silent
