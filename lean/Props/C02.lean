/-
  Props.C02 — "Equality compares in the selected value's own type; bad literals
  are errors."

  Stated about `doMatchEqual (some raw) (some v)`, the comparison of a raw literal with a value
  already selected and dereferenced.  NOT stated here: the way to that comparison in
  `evaluateMatch`, through a pointer or an interface (`indirect`) and the narrowing of a
  `json.Number` (`narrowJsonNumber`); and the exact-comparison theorems of §3 take the literal
  in its canonical decimal spelling, the prefixed spellings stop at `parseUint` / `parseInt`.
-/
import Bexpr.Eval.Impl
import Bexpr.Go.WF
import Proofs.StrconvLemmas

namespace Bexpr.Props.C02
open Bexpr Bexpr.Go Bexpr.Eval Bexpr.Strconv Bexpr.GoString

/-! ## 1. `doMatchEqual` per scalar constructor -/

/-- bool: the literal is parsed by `strconv.ParseBool`; a bad literal is an error. -/
theorem eq_bool_spec (raw : GoString) (n : String) (b : Bool) :
    doMatchEqual (some raw) (some (.bool n b)) =
      match parseBool raw with
      | .ok b' => .val (b' == b)
      | .error _ => .err false := by
  simp only [doMatchEqual, coerceLit]
  cases parseBool raw with
  | ok a => rfl
  | error e => cases e <;> rfl

/-- signed integers: `strconv.ParseInt(raw, 0, 64)` and exact comparison in `Int`
(never via floating point). -/
theorem eq_int_spec (raw : GoString) (k : Kind) (n : String) (i : Int) (hk : k.isInt = true) :
    doMatchEqual (some raw) (some (.int k n i)) =
      match parseInt raw 0 64 with
      | .ok i' => .val (i' == i)
      | .error _ => .err false := by
  cases k <;> first
    | (cases hk; done)
    | (simp only [doMatchEqual, coerceLit]
       cases parseInt raw 0 64 with
       | ok a => rfl
       | error e => cases e <;> rfl)

/-- unsigned integers (all kinds but `uintptr`): `strconv.ParseUint(raw, 0, 64)` and
exact comparison in `Nat`. -/
theorem eq_uint_spec (raw : GoString) (k : Kind) (n : String) (u : Nat)
    (hk : k.isUint = true) (hp : k ≠ .uintptr) :
    doMatchEqual (some raw) (some (.uint k n u)) =
      match parseUint raw 0 64 with
      | .ok u' => .val (u' == u)
      | .error _ => .err false := by
  cases k <;> first
    | (cases hk; done)
    | exact absurd rfl hp
    | (simp only [doMatchEqual, coerceLit]
       cases parseUint raw 0 64 with
       | ok a => rfl
       | error e => cases e <;> rfl)

/-- `uintptr` has no equality function: always an error (never a silent `false`). -/
theorem eq_uintptr_error (raw : Option GoString) (n : String) (u : Nat) :
    doMatchEqual raw (some (.uint .uintptr n u)) = .err false := by
  simp [doMatchEqual, RV.kind, GoVal.kind, hasEqFn, Kind.isInt, Kind.isUint]

/-- float32: `strconv.ParseFloat(raw, 32)` (correctly rounded to binary32) and IEEE
`==` on binary32. -/
theorem eq_float32_spec (raw : GoString) (n : String) (bits : Nat) :
    doMatchEqual (some raw) (some (.float .float32 n bits)) =
      match parseFloat raw 32 with
      | .ok f => .val (feq 32 f bits)
      | .error _ => .err false := by
  simp only [doMatchEqual, coerceLit]
  cases parseFloat raw 32 with
  | ok a => rfl
  | error e => cases e <;> rfl

/-- float64: `strconv.ParseFloat(raw, 64)` and IEEE `==` on binary64. -/
theorem eq_float64_spec (raw : GoString) (n : String) (bits : Nat) :
    doMatchEqual (some raw) (some (.float .float64 n bits)) =
      match parseFloat raw 64 with
      | .ok f => .val (feq 64 f bits)
      | .error _ => .err false := by
  simp only [doMatchEqual, coerceLit]
  cases parseFloat raw 64 with
  | ok a => rfl
  | error e => cases e <;> rfl

/-- Both float kinds at once, for a well-formed float value. -/
theorem eq_float_spec (raw : GoString) (k : Kind) (n : String) (bits : Nat)
    (hwf : (GoVal.float k n bits).wf = true) :
    doMatchEqual (some raw) (some (.float k n bits)) =
      match parseFloat raw k.bits with
      | .ok f => .val (feq k.bits f bits)
      | .error _ => .err false := by
  have hk : k = .float32 ∨ k = .float64 := by
    simpa [GoVal.wf] using hwf
  rcases hk with rfl | rfl
  · exact eq_float32_spec raw n bits
  · exact eq_float64_spec raw n bits

/-- strings (any defined string type): byte-wise comparison with the raw literal;
no literal is ever rejected. -/
theorem eq_string_spec (raw : GoString) (n : String) (s : GoString) :
    doMatchEqual (some raw) (some (.str n s)) = .val (raw == s) := rfl

/-- A kind without an equality function is an error whatever the literal is
(even a missing one): never a silent `false`, never a panic. -/
theorem eq_noEqFn_error (raw : Option GoString) (value : RV) (h : hasEqFn value.kind = false) :
    doMatchEqual raw value = .err false := by
  simp [doMatchEqual, h]

theorem eq_complex_error (raw : Option GoString) (k : Kind) (n : String)
    (hwf : (GoVal.complex k n).wf = true) :
    doMatchEqual raw (some (.complex k n)) = .err false := by
  have hk : k = .complex64 ∨ k = .complex128 := by simpa [GoVal.wf] using hwf
  rcases hk with rfl | rfl <;> exact eq_noEqFn_error _ _ rfl

theorem eq_other_error (raw : Option GoString) (k : Kind) (n : String) (isNil : Bool)
    (hwf : (GoVal.other k n isNil).wf = true) :
    doMatchEqual raw (some (.other k n isNil)) = .err false := by
  have hk : (k = .chan ∨ k = .func) ∨ k = .unsafePointer := by simpa [GoVal.wf] using hwf
  rcases hk with (rfl | rfl) | rfl <;> exact eq_noEqFn_error _ _ rfl

/-- nil (the zero `reflect.Value`), slices, arrays, maps, structs, interface slots,
pointers, complex numbers and chan/func/unsafe.Pointer values: `==` is an error. -/
theorem eq_nonscalar_error (raw : Option GoString) :
    doMatchEqual raw none = .err false
    ∧ (∀ n e isNil xs, doMatchEqual raw (some (.slice n e isNil xs)) = .err false)
    ∧ (∀ e xs, doMatchEqual raw (some (.array e xs)) = .err false)
    ∧ (∀ n kt vt isNil es, doMatchEqual raw (some (.map n kt vt isNil es)) = .err false)
    ∧ (∀ n fs, doMatchEqual raw (some (.struct n fs)) = .err false)
    ∧ (∀ v, doMatchEqual raw (some (.iface v)) = .err false)
    ∧ (∀ e v, doMatchEqual raw (some (.ptr e v)) = .err false)
    ∧ (∀ k n, (GoVal.complex k n).wf = true →
        doMatchEqual raw (some (.complex k n)) = .err false)
    ∧ (∀ k n isNil, (GoVal.other k n isNil).wf = true →
        doMatchEqual raw (some (.other k n isNil)) = .err false) :=
  ⟨eq_noEqFn_error _ _ (by decide), fun _ _ _ _ => eq_noEqFn_error _ _ rfl,
    fun _ _ => eq_noEqFn_error _ _ rfl, fun _ _ _ _ _ => eq_noEqFn_error _ _ rfl,
    fun _ _ => eq_noEqFn_error _ _ rfl, fun _ => eq_noEqFn_error _ _ rfl,
    fun _ _ => eq_noEqFn_error _ _ rfl, eq_complex_error raw, eq_other_error raw⟩

/-- On a well-formed value of any shape, with the literal present, `doMatchEqual` never panics
or leaves the model: the outcome is `.val _` or `.err false`. -/
theorem eq_scalar_total (raw : GoString) (v : GoVal) (hwf : v.wf = true) :
    (∃ b, doMatchEqual (some raw) (some v) = .val b) ∨
      doMatchEqual (some raw) (some v) = .err false := by
  cases v with
  | bool n b =>
    rw [eq_bool_spec]; cases parseBool raw <;> simp
  | int k n i =>
    rw [eq_int_spec _ _ _ _ (by simpa [GoVal.wf] using hwf)]; cases parseInt raw 0 64 <;> simp
  | uint k n u =>
    by_cases hp : k = .uintptr
    · subst hp; right; exact eq_uintptr_error _ _ _
    · rw [eq_uint_spec _ _ _ _ (by simpa [GoVal.wf] using hwf) hp]
      cases parseUint raw 0 64 <;> simp
  | float k n bits =>
    rw [eq_float_spec _ _ _ _ hwf]; cases parseFloat raw k.bits <;> simp
  | str n s => left; exact ⟨_, eq_string_spec _ _ _⟩
  | complex k n => right; exact eq_complex_error _ k n hwf
  | other k n isNil => right; exact eq_other_error _ k n isNil hwf
  | ptr e v => right; exact eq_noEqFn_error _ _ rfl
  | slice n e isNil xs => right; exact eq_noEqFn_error _ _ rfl
  | array e xs => right; exact eq_noEqFn_error _ _ rfl
  | map n kt vt isNil es => right; exact eq_noEqFn_error _ _ rfl
  | struct n fs => right; exact eq_noEqFn_error _ _ rfl
  | iface v => right; exact eq_noEqFn_error _ _ rfl

/-! ## 2. `ParseBool` is exactly its table -/

/-- An ASCII literal as a Go string (bytes of the characters). -/
def asc (s : String) : GoString := s.toList.map byteOfChar

theorem trueStrs_eq : trueStrs = ["1", "t", "T", "TRUE", "true", "True"].map asc := by decide
theorem falseStrs_eq : falseStrs = ["0", "f", "F", "FALSE", "false", "False"].map asc := by decide

/-- `ParseBool` accepts exactly twelve spellings; everything else is a syntax error
(never a range error, never a default value). -/
theorem parseBool_table (s : GoString) :
    (parseBool s = .ok true ↔ s ∈ ["1", "t", "T", "TRUE", "true", "True"].map asc)
    ∧ (parseBool s = .ok false ↔ s ∈ ["0", "f", "F", "FALSE", "false", "False"].map asc)
    ∧ (s ∉ ["1", "t", "T", "TRUE", "true", "True"].map asc →
       s ∉ ["0", "f", "F", "FALSE", "false", "False"].map asc → parseBool s = .error .syntax)
    ∧ parseBool s ≠ .error .range := by
  rw [← trueStrs_eq, ← falseStrs_eq]
  have hdisj : ∀ x, x ∈ trueStrs → x ∈ falseStrs → False := by decide
  unfold parseBool
  by_cases ht : s ∈ trueStrs
  · have hf : s ∉ falseStrs := fun hf => hdisj s ht hf
    simp [ht, hf]
  · by_cases hf : s ∈ falseStrs
    · simp [ht, hf]
    · simp [ht, hf]

/-! ## 3. Integer literals round-trip, for ALL values -/

/-- Decimal text of an integer: optional `-`, then `natToDec` of the magnitude
(Go `strconv.FormatInt(i, 10)`). -/
def intToDec (i : Int) : GoString :=
  if i < 0 then 0x2D :: natToDec i.natAbs else natToDec i.toNat

/-- `strconv.FormatUint(n, 16)`; likewise `octDigits` (8), `binDigits` (2). -/
def hexDigits (n : Nat) : GoString := (Nat.toDigits 16 n).map byteOfChar
def octDigits (n : Nat) : GoString := (Nat.toDigits 8 n).map byteOfChar
def binDigits (n : Nat) : GoString := (Nat.toDigits 2 n).map byteOfChar

theorem parseUint_natToDec (n base : Nat) (hb : base = 0 ∨ base = 10) :
    parseUint (natToDec n) base 64 = if n < 2 ^ 64 then .ok n else .error .range := by
  rcases hb with rfl | rfl
  · exact parseUint_digitBytes10_base0 n
  · exact parseUint_digitBytes_base (by omega) (by omega) n

/-- `ParseUint(Itoa(n), 0, 64) = n` for every `n < 2^64`. -/
theorem parseUint_dec (n : Nat) (h : n < 2 ^ 64) : parseUint (natToDec n) 0 64 = .ok n :=
  (parseUint_natToDec n 0 (.inl rfl)).trans (if_pos h)

/-- (go-bexpr itself always passes base 0.) -/
theorem parseUint_dec_base10 (n : Nat) (h : n < 2 ^ 64) :
    parseUint (natToDec n) 10 64 = .ok n :=
  (parseUint_natToDec n 10 (.inr rfl)).trans (if_pos h)

/-- Every decimal numeral of a value `≥ 2^64` is a RANGE error (not a wrapped value). -/
theorem parseUint_dec_overflow (n : Nat) (h : 2 ^ 64 ≤ n) :
    parseUint (natToDec n) 0 64 = .error .range :=
  (parseUint_natToDec n 0 (.inl rfl)).trans (if_neg (Nat.not_lt.mpr h))

theorem parseUint_dec_base10_overflow (n : Nat) (h : 2 ^ 64 ≤ n) :
    parseUint (natToDec n) 10 64 = .error .range :=
  (parseUint_natToDec n 10 (.inr rfl)).trans (if_neg (Nat.not_lt.mpr h))

/-- What `ParseInt` answers on the decimal text of ANY integer, for base 0 and 10. -/
theorem parseInt_intToDec (i : Int) (base : Nat) (hb : base = 0 ∨ base = 10) :
    parseInt (intToDec i) base 64 =
      if -2 ^ 63 ≤ i ∧ i < 2 ^ 63 then .ok i else .error .range := by
  unfold intToDec
  by_cases hneg : i < 0
  · rw [if_pos hneg, parseInt_minus (parseUint_natToDec _ base hb),
      show -(i.natAbs : Int) = i by omega]
    exact ite_congr (propext (by omega)) (fun _ => rfl) (fun _ => rfl)
  · obtain ⟨d, t, hd, _, heq⟩ := digitBytes_head (b := 10) (by omega) i.toNat
    have hun := parseUint_natToDec i.toNat base hb
    rw [if_neg hneg]
    rw [natToDec_eq_digitBytes, heq] at hun ⊢
    rw [parseInt_unsigned (digitByte_ne_minus d (by omega)) (digitByte_ne_plus d (by omega)) hun,
      show (i.toNat : Int) = i by omega]
    exact ite_congr (propext (by omega)) (fun _ => rfl) (fun _ => rfl)

/-- `ParseInt(FormatInt(i, 10), 0, 64) = i` for every `int64` value. -/
theorem parseInt_dec (i : Int) (h1 : -2 ^ 63 ≤ i) (h2 : i < 2 ^ 63) :
    parseInt (intToDec i) 0 64 = .ok i := by
  rw [parseInt_intToDec i 0 (.inl rfl), if_pos ⟨h1, h2⟩]

theorem parseInt_dec_base10 (i : Int) (h1 : -2 ^ 63 ≤ i) (h2 : i < 2 ^ 63) :
    parseInt (intToDec i) 10 64 = .ok i := by
  rw [parseInt_intToDec i 10 (.inr rfl), if_pos ⟨h1, h2⟩]

/-- Outside the `int64` range the decimal text is a RANGE error. -/
theorem parseInt_dec_overflow (i : Int) (h : i < -2 ^ 63 ∨ 2 ^ 63 ≤ i) :
    parseInt (intToDec i) 0 64 = .error .range := by
  have : ¬ (-2 ^ 63 ≤ i ∧ i < 2 ^ 63) := by omega
  rw [parseInt_intToDec i 0 (.inl rfl), if_neg this]

theorem asc_prefixes :
    asc "0x" = [0x30, 0x78] ∧ asc "0X" = [0x30, 0x58] ∧ asc "0o" = [0x30, 0x6F]
    ∧ asc "0O" = [0x30, 0x4F] ∧ asc "0b" = [0x30, 0x62] ∧ asc "0B" = [0x30, 0x42]
    ∧ asc "-0x" = [0x2D, 0x30, 0x78] := by decide

theorem parseUint_pre {pre : String} {p : UInt8} (b : Nat) (hpre : asc pre = [0x30, p])
    (hp : (if isB p then 2 else if isO p then 8 else if isX p then 16 else 0) = b) (n : Nat)
    (hb : 2 ≤ b := by omega) (h16 : b ≤ 16 := by omega) :
    parseUint (asc pre ++ (Nat.toDigits b n).map byteOfChar) 0 64 =
      if n < 2 ^ 64 then .ok n else .error .range := by
  rw [hpre]
  exact parseUint_prefixed hb h16 p hp n

/-- `0x` / `0X` + hex digits. -/
theorem parseUint_hex (n : Nat) (h : n < 2 ^ 64) :
    parseUint (asc "0x" ++ hexDigits n) 0 64 = .ok n
    ∧ parseUint (asc "0X" ++ hexDigits n) 0 64 = .ok n :=
  ⟨(parseUint_pre 16 asc_prefixes.1 rfl n).trans (if_pos h),
    (parseUint_pre 16 asc_prefixes.2.1 rfl n).trans (if_pos h)⟩

/-- `0o` / `0O` + octal digits. -/
theorem parseUint_oct (n : Nat) (h : n < 2 ^ 64) :
    parseUint (asc "0o" ++ octDigits n) 0 64 = .ok n
    ∧ parseUint (asc "0O" ++ octDigits n) 0 64 = .ok n :=
  ⟨(parseUint_pre 8 asc_prefixes.2.2.1 rfl n).trans (if_pos h),
    (parseUint_pre 8 asc_prefixes.2.2.2.1 rfl n).trans (if_pos h)⟩

/-- `0b` / `0B` + binary digits. -/
theorem parseUint_bin (n : Nat) (h : n < 2 ^ 64) :
    parseUint (asc "0b" ++ binDigits n) 0 64 = .ok n
    ∧ parseUint (asc "0B" ++ binDigits n) 0 64 = .ok n :=
  ⟨(parseUint_pre 2 asc_prefixes.2.2.2.2.1 rfl n).trans (if_pos h),
    (parseUint_pre 2 asc_prefixes.2.2.2.2.2.1 rfl n).trans (if_pos h)⟩

/-- `0x` + the hex digits of a value `≥ 2^64` is a RANGE error. -/
theorem parseUint_hex_overflow (n : Nat) (h : 2 ^ 64 ≤ n) :
    parseUint (asc "0x" ++ hexDigits n) 0 64 = .error .range :=
  (parseUint_pre 16 asc_prefixes.1 rfl n).trans (if_neg (Nat.not_lt.mpr h))

/-- Signed hexadecimal: `0x…` up to `2^63 - 1`, `-0x…` down to `-2^63`. -/
theorem parseInt_hex (n : Nat) :
    (n < 2 ^ 63 → parseInt (asc "0x" ++ hexDigits n) 0 64 = .ok (n : Int))
    ∧ (n ≤ 2 ^ 63 → parseInt (asc "-0x" ++ hexDigits n) 0 64 = .ok (-(n : Int)))
    ∧ (2 ^ 63 ≤ n → parseInt (asc "0x" ++ hexDigits n) 0 64 = .error .range)
    ∧ (2 ^ 63 < n → parseInt (asc "-0x" ++ hexDigits n) 0 64 = .error .range) := by
  have hu := parseUint_prefixed (b := 16) (by omega) (by omega) 0x78 rfl n
  have hpos := parseInt_unsigned (c := 0x30) rfl rfl hu
  have hneg := parseInt_minus hu
  rw [asc_prefixes.1, asc_prefixes.2.2.2.2.2.2]
  exact ⟨fun h => hpos.trans (if_pos h), fun h => hneg.trans (if_pos h),
    fun h => hpos.trans (if_neg (Nat.not_lt.mpr h)), fun h => hneg.trans (if_neg (Nat.not_le.mpr h))⟩

/-- For all naturals, in range or not: reading the digits back at a bit size large enough for
both (`a + b` bits) is a left inverse. -/
theorem natToDec_injective (a b : Nat) (h : natToDec a = natToDec b) : a = b := by
  have ha := uintLoop_digitBytes (b := 10) (by omega) (by omega) (a + b) false a
  have hb := uintLoop_digitBytes (b := 10) (by omega) (by omega) (a + b) false b
  have h1 : a < 2 ^ (a + b) := Nat.lt_of_lt_of_le Nat.lt_two_pow_self
    (Nat.pow_le_pow_right (by omega) (by omega))
  have h2 : b < 2 ^ (a + b) := Nat.lt_of_lt_of_le Nat.lt_two_pow_self
    (Nat.pow_le_pow_right (by omega) (by omega))
  rw [natToDec_eq_digitBytes, natToDec_eq_digitBytes] at h
  rw [h] at ha
  simp only [h1, h2, if_true] at ha hb
  rw [ha] at hb
  exact Except.ok.inj hb

/-- Two different in-range integers never have the same decimal text, hence no
decimal literal denotes two different `int64` values. -/
theorem intToDec_injective (i j : Int) (hi : -2 ^ 63 ≤ i ∧ i < 2 ^ 63)
    (hj : -2 ^ 63 ≤ j ∧ j < 2 ^ 63) (h : intToDec i = intToDec j) : i = j := by
  have h1 := parseInt_dec i hi.1 hi.2
  have h2 := parseInt_dec j hj.1 hj.2
  rw [h, h2] at h1
  exact (Except.ok.inj h1).symm

/-- **Exact integer comparison.**  For every `int64` literal `j` (written in
decimal) and every signed-integer value `i`, `==` answers `j = i` — decided in `Int`,
so `2^53` and `2^53 + 1` are different. -/
theorem eq_int_exact (j : Int) (hj1 : -2 ^ 63 ≤ j) (hj2 : j < 2 ^ 63) (k : Kind) (n : String)
    (i : Int) (hk : k.isInt = true) :
    doMatchEqual (some (intToDec j)) (some (.int k n i)) = .val (j == i) := by
  rw [eq_int_spec _ _ _ _ hk, parseInt_dec j hj1 hj2]

/-- … so the match succeeds exactly when the two integers are equal. -/
theorem eq_int_exact_iff (j : Int) (hj1 : -2 ^ 63 ≤ j) (hj2 : j < 2 ^ 63) (k : Kind)
    (n : String) (i : Int) (hk : k.isInt = true) :
    doMatchEqual (some (intToDec j)) (some (.int k n i)) = .val true ↔ j = i := by
  rw [eq_int_exact j hj1 hj2 k n i hk]
  simp

/-- Exact comparison for unsigned kinds. -/
theorem eq_uint_exact (m : Nat) (hm : m < 2 ^ 64) (k : Kind) (n : String) (u : Nat)
    (hk : k.isUint = true) (hp : k ≠ .uintptr) :
    doMatchEqual (some (natToDec m)) (some (.uint k n u)) = .val (m == u) := by
  rw [eq_uint_spec _ _ _ _ hk hp, parseUint_dec m hm]

/-- An out-of-range literal is an error, never a wrapped or saturated comparison. -/
theorem eq_int_out_of_range (j : Int) (hj : j < -2 ^ 63 ∨ 2 ^ 63 ≤ j) (k : Kind) (n : String)
    (i : Int) (hk : k.isInt = true) :
    doMatchEqual (some (intToDec j)) (some (.int k n i)) = .err false := by
  rw [eq_int_spec _ _ _ _ hk, parseInt_dec_overflow j hj]

/-! ## 4. `ParseFloat` -/

/-- The empty literal is a syntax error for every bit size. -/
theorem parseFloat_syntax_empty (bitSize : Nat) : parseFloat [] bitSize = .error .syntax := by
  simp [parseFloat, special, readFloat]

/-- binary64 pattern of the integer `n` for `0 < n < 2^53`: exponent field
`log2 n + 1023` (written `log2 n + 1022` plus the leading bit of the significand) and
the significand `n` shifted left so that its top bit is bit 52. -/
def bitsOfNat64 (n : Nat) : Nat :=
  if n = 0 then 0 else (Nat.log2 n + 1022) * 2 ^ 52 + n * 2 ^ (52 - Nat.log2 n)

/-- binary32 pattern of the integer `n` for `0 < n < 2^24`. -/
def bitsOfNat32 (n : Nat) : Nat :=
  if n = 0 then 0 else (Nat.log2 n + 126) * 2 ^ 23 + n * 2 ^ (23 - Nat.log2 n)

theorem bitsOfNat64_eq (n : Nat) : bitsOfNat64 n = bitsOfNat fmt64 n :=
  (bitsOfNat_of_emin fmt64 1022 (by decide) n).symm

theorem bitsOfNat32_eq (n : Nat) : bitsOfNat32 n = bitsOfNat fmt32 n :=
  (bitsOfNat_of_emin fmt32 126 (by decide) n).symm

/-- So the exponent field is `log2 n + 1023 ≤ 1075`, not the all-ones `2047`: the pattern is finite. -/
theorem bitsOfNat64_bounds (n : Nat) (hn : n ≠ 0) (h : n < 2 ^ 53) :
    (Nat.log2 n + 1023) * 2 ^ 52 ≤ bitsOfNat64 n ∧ bitsOfNat64 n < (Nat.log2 n + 1024) * 2 ^ 52
    ∧ Nat.log2 n ≤ 52 := by
  rw [bitsOfNat64, if_neg hn]
  exact intPattern_bounds 52 1022 n hn h

/-- Every integer below `2^53` written in decimal parses to the float64 with exactly
that value — no rounding. -/
theorem parseFloat_int_exact (n : Nat) (h : n < 2 ^ 53) :
    parseFloat (natToDec n) 64 = .ok (bitsOfNat64 n) := by
  rw [bitsOfNat64_eq]
  exact parseFloat_digitBytes 64 1022 n h (by decide) (by decide)

theorem bitsOfNat32_bounds (n : Nat) (hn : n ≠ 0) (h : n < 2 ^ 24) :
    (Nat.log2 n + 127) * 2 ^ 23 ≤ bitsOfNat32 n ∧ bitsOfNat32 n < (Nat.log2 n + 128) * 2 ^ 23
    ∧ Nat.log2 n ≤ 23 := by
  rw [bitsOfNat32, if_neg hn]
  exact intPattern_bounds 23 126 n hn h

/-- Every integer below `2^24` written in decimal parses to the float32 with exactly
that value. -/
theorem parseFloat32_int_exact (n : Nat) (h : n < 2 ^ 24) :
    parseFloat (natToDec n) 32 = .ok (bitsOfNat32 n) := by
  rw [bitsOfNat32_eq]
  exact parseFloat_digitBytes 32 126 n h (by decide) (by decide)

/-- `bitsOfNat64 n` really is the float whose value is `n`: decoding the pattern
(`finiteToRat`, the model's reading of a finite pattern as a fraction `num/den`)
gives `num = n * den`. -/
theorem bitsOfNat64_value (n : Nat) (h : n < 2 ^ 53) :
    (finiteToRat fmt64 (bitsOfNat64 n)).1 = n * (finiteToRat fmt64 (bitsOfNat64 n)).2 := by
  rw [bitsOfNat64_eq]
  exact bitsOfNat_value fmt64 1022 (by decide) (by decide) n h

/-- Comparing an integer literal below `2^53` with a float64 value compares the
value's pattern with the pattern of exactly that integer (IEEE `==`). -/
theorem eq_float64_int_literal (n : Nat) (h : n < 2 ^ 53) (nm : String) (bits : Nat) :
    doMatchEqual (some (natToDec n)) (some (.float .float64 nm bits)) =
      .val (feq 64 (bitsOfNat64 n) bits) := by
  rw [eq_float64_spec, parseFloat_int_exact n h]

/-
  Nearest-even rounding of every literal is `Props/C02Float.lean` (`parseFloat_nearest`).
  Agreement of the model with Go's Eisel–Lemire / slow-path implementation is an empirical
  (differential) fact, not a Lean theorem; see the KNOWN DIVERGENCE note on `parseFloat`.
-/

/-! ## 5. Non-vacuity: concrete instances -/

/-- `2^53 + 1` is compared exactly as an integer … -/
example : doMatchEqual (some (asc "9007199254740993"))
    (some (.int .int64 "" 9007199254740993)) = .val true := by decide +kernel
/-- … and differs from `2^53`. -/
example : doMatchEqual (some (asc "9007199254740993"))
    (some (.int .int64 "" 9007199254740992)) = .val false := by decide +kernel
example : doMatchEqual (some (asc "9007199254740992"))
    (some (.int .int64 "" 9007199254740993)) = .val false := by decide +kernel
/-- The same instance obtained from the general theorem. -/
example : doMatchEqual (some (intToDec 9007199254740993))
    (some (.int .int64 "" 9007199254740992)) = .val false :=
  eq_int_exact 9007199254740993 (by decide) (by decide) .int64 "" 9007199254740992 rfl
/-- Contrast: as a float64 LITERAL `2^53 + 1` rounds to `2^53` (ties to even), so a
float64 field holding `2^53` matches it — which is why integers must not go through
floats. -/
example : doMatchEqual (some (asc "9007199254740993"))
    (some (.float .float64 "" 0x4340000000000000)) = .val true := by decide +kernel
example : bitsOfNat64 9007199254740991 = 0x433FFFFFFFFFFFFF := by decide +kernel
example : asc "9007199254740993" = intToDec 9007199254740993 := by decide +kernel
example : intToDec (-42) = asc "-42" := by decide +kernel
/-- int64 limits. -/
example : doMatchEqual (some (asc "-9223372036854775808"))
    (some (.int .int64 "" (-9223372036854775808))) = .val true := by decide +kernel
example : doMatchEqual (some (asc "9223372036854775808"))
    (some (.int .int64 "" 0)) = .err false := by decide +kernel
example : doMatchEqual (some (asc "18446744073709551615"))
    (some (.uint .uint64 "" 18446744073709551615)) = .val true := by decide +kernel
example : doMatchEqual (some (asc "18446744073709551616"))
    (some (.uint .uint64 "" 0)) = .err false := by decide +kernel
/-- Base prefixes and underscores (base 0). -/
example : doMatchEqual (some (asc "0x_ff")) (some (.int .int8 "" 255)) = .val true := by decide +kernel
example : doMatchEqual (some (asc "-0b101")) (some (.int .int "" (-5))) = .val true := by decide +kernel
example : doMatchEqual (some (asc "0o17")) (some (.uint .uint8 "" 15)) = .val true := by decide +kernel
example : doMatchEqual (some (asc "017")) (some (.uint .uint8 "" 15)) = .val true := by decide +kernel
example : doMatchEqual (some (asc "1__0")) (some (.int .int "" 10)) = .err false := by decide +kernel
example : hexDigits 255 = asc "ff" := by decide +kernel
/-- Bad literals are errors, not `false`. -/
example : doMatchEqual (some (asc "yes")) (some (.bool "" true)) = .err false := by decide +kernel
example : doMatchEqual (some (asc "True")) (some (.bool "" true)) = .val true := by decide +kernel
example : doMatchEqual (some (asc "1.5")) (some (.int .int "" 1)) = .err false := by decide +kernel
example : doMatchEqual (some (asc "abc")) (some (.float .float32 "" 0)) = .err false := by decide +kernel
example : doMatchEqual (some (asc "1e400")) (some (.float .float64 "" 0)) = .err false := by
  decide +kernel
/-- Floats: IEEE `==` (NaN ≠ NaN, `+0 == -0`), float32 rounding of the literal. -/
example : doMatchEqual (some (asc "NaN")) (some (.float .float64 "" 0x7FF8000000000001)) =
    .val false := by decide +kernel
example : doMatchEqual (some (asc "0")) (some (.float .float64 "" 0x8000000000000000)) =
    .val true := by decide +kernel
example : doMatchEqual (some (asc "0.1")) (some (.float .float32 "" 0x3DCCCCCD)) = .val true := by
  decide +kernel
example : doMatchEqual (some (asc "0.1")) (some (.float .float64 "" 0x3FB999999999999A)) =
    .val true := by decide +kernel
/-- Strings compare bytes; non-scalars and nil are errors. -/
example : doMatchEqual (some (asc "abc")) (some (.str "MyString" (asc "abc"))) = .val true := by
  decide +kernel
example : doMatchEqual (some (asc "1")) none = .err false := by decide +kernel
example : doMatchEqual (some (asc "1")) (some (.slice "" (.basic .int "") false [])) = .err false := by
  decide +kernel

end Bexpr.Props.C02

#print axioms Bexpr.Props.C02.eq_bool_spec
#print axioms Bexpr.Props.C02.eq_int_spec
#print axioms Bexpr.Props.C02.eq_uint_spec
#print axioms Bexpr.Props.C02.eq_uintptr_error
#print axioms Bexpr.Props.C02.eq_float32_spec
#print axioms Bexpr.Props.C02.eq_float64_spec
#print axioms Bexpr.Props.C02.eq_float_spec
#print axioms Bexpr.Props.C02.eq_string_spec
#print axioms Bexpr.Props.C02.eq_noEqFn_error
#print axioms Bexpr.Props.C02.eq_nonscalar_error
#print axioms Bexpr.Props.C02.eq_scalar_total
#print axioms Bexpr.Props.C02.parseBool_table
#print axioms Bexpr.Props.C02.parseUint_dec
#print axioms Bexpr.Props.C02.parseUint_dec_base10
#print axioms Bexpr.Props.C02.parseUint_dec_overflow
#print axioms Bexpr.Props.C02.parseUint_dec_base10_overflow
#print axioms Bexpr.Props.C02.parseInt_intToDec
#print axioms Bexpr.Props.C02.parseInt_dec
#print axioms Bexpr.Props.C02.parseInt_dec_base10
#print axioms Bexpr.Props.C02.parseInt_dec_overflow
#print axioms Bexpr.Props.C02.parseUint_hex
#print axioms Bexpr.Props.C02.parseUint_oct
#print axioms Bexpr.Props.C02.parseUint_bin
#print axioms Bexpr.Props.C02.parseUint_hex_overflow
#print axioms Bexpr.Props.C02.parseInt_hex
#print axioms Bexpr.Props.C02.natToDec_injective
#print axioms Bexpr.Props.C02.intToDec_injective
#print axioms Bexpr.Props.C02.eq_int_exact
#print axioms Bexpr.Props.C02.eq_int_exact_iff
#print axioms Bexpr.Props.C02.eq_uint_exact
#print axioms Bexpr.Props.C02.eq_int_out_of_range
#print axioms Bexpr.Props.C02.parseFloat_syntax_empty
#print axioms Bexpr.Props.C02.bitsOfNat64_bounds
#print axioms Bexpr.Props.C02.parseFloat_int_exact
#print axioms Bexpr.Props.C02.bitsOfNat32_bounds
#print axioms Bexpr.Props.C02.parseFloat32_int_exact
#print axioms Bexpr.Props.C02.bitsOfNat64_value
#print axioms Bexpr.Props.C02.eq_float64_int_literal
