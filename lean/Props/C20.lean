/-
  C20 — The shipped generated parser is the one the shipped grammar describes.

  Both sides of every equation below are REGENERATED from /repo on every run:
  `BexprGen.PegGrammar` / `BexprGen.PegActions` by the reader of `grammar/grammar.peg`
  (re-implementing pigeon's node numbering, label scoping and class parsing),
  `BexprGen.GoGrammar` / `BexprGen.GoActions` by the go/ast reader of `grammar/grammar.go`.
  The comparison is complete (every rule, node, literal, class, label, code token) and is
  decided by the kernel (`rfl`), not sampled.  Positions are deliberately not compared.
-/
import Bexpr.Driver

namespace Bexpr.Props.C20
open Bexpr Bexpr.Peg Bexpr.Driver

/-- same rules in the same order, same alternatives, sequences, labels, predicates, repetition
    operators, literals, character classes and rule references -/
theorem peg_table_eq_go_table : BexprGen.PegGrammar.grammar = BexprGen.GoGrammar.grammar := rfl

/-- each action's / code predicate's name, argument labels and code (token for token) -/
theorem peg_actions_eq_go_actions : BexprGen.PegActions.actions = BexprGen.GoActions.actions := rfl

/-- hence the two tables have the same executable semantics in the model … -/
theorem peg_env_eq_go_env : pegEnv = goEnv := by
  unfold pegEnv goEnv pegSem goSem
  rw [peg_actions_eq_go_actions]

/-- … and every parse of the shipped parser is the parse the grammar source specifies,
    on all inputs and budgets (including inputs no test or generator reaches). -/
theorem parser_is_grammar (max : Nat) (input : GoString) :
    Peg.run goEnv goGrammar max input = Peg.run pegEnv pegGrammar max input := by
  unfold pegGrammar goGrammar
  rw [peg_env_eq_go_env, peg_table_eq_go_table]

/-- the tables are what the translators fully understood: no `unsupported` node … -/
def supported : PExpr → Bool
  | .unsupported _ => false
  | .choice alts => supportedList alts
  | .seq es => supportedList es
  | .action _ e => supported e
  | .labeled _ e => supported e
  | .andP e => supported e
  | .notP e => supported e
  | .zeroOrOne e => supported e
  | .zeroOrMore e => supported e
  | .oneOrMore e => supported e
  | _ => true
where supportedList : List PExpr → Bool
  | [] => true
  | e :: es => supported e && supportedList es

theorem go_table_supported : goGrammar.all (fun r => supported r.expr) = true := by decide +kernel

/-- … every code block is one of the recognised shapes (no `ActionSem.unknown`) … -/
theorem go_actions_recognised : goSem.all (fun p => p.2 != .unknown) = true := by decide +kernel

/-- … the `callon*` wrappers pass exactly the labels the `on*` functions take … -/
theorem go_params_consistent :
    BexprGen.GoActions.actions.all (fun a => !a.params.contains "!mismatch") = true := by
  decide +kernel

/-- … and the table is non-trivial: 37 rules, 50 code blocks (non-vacuity). -/
example : goGrammar.length = 37 ∧ goSem.length = 50 := by decide +kernel

end Bexpr.Props.C20

#print axioms Bexpr.Props.C20.peg_table_eq_go_table
#print axioms Bexpr.Props.C20.peg_actions_eq_go_actions
#print axioms Bexpr.Props.C20.parser_is_grammar
#print axioms Bexpr.Props.C20.go_table_supported
#print axioms Bexpr.Props.C20.go_actions_recognised
