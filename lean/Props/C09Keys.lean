/-
  Property C09 (and C01's universe) — map keys of EVERY key type.

  `pointerstructure.Get` steps into a map by converting the path part to the map's key type
  (`coerce`: assignable / convertible / `mapstructure.WeakDecode`) and comparing the result with every
  key.  `Bexpr.Go.coerceKey` / `getMap` model this for every key type a Go map can have; no key type
  is answered `unmodelled`.  The general theorems are in `Proofs/Keys.lean`; here they stand under
  the property's name, together with kernel-checked examples that reproduce what was observed on
  the real code (probe runs, and the harness's key sweep on every `./check C09`).

  Finding F12: below a pointer key type an array type may be uncomparable, and then
  `mapstructure.decodeArray` panics (`decodePanics`), so `pointerstructure.Get` does
  (`GetErr.panic`, `get_panics`).  `getValue` walks through `safeGet`, which recovers the panic and
  returns it as the lookup error: `evaluate_recovers_walk_panic`; the parent walk of
  `evaluateNotPresent`, which is NOT guarded, cannot panic where it is reached
  (`parent_walk_no_panic`).  So the no-panic theorems of `Props/C09.lean` need no exclusion of key
  types.
-/
import Proofs.Keys
import Proofs.SpecLemmas
import Props.C09

namespace Bexpr.Props.C09Keys
open Bexpr Bexpr.Go Bexpr.Eval Bexpr.Proofs.Keys

/-- For every map whose key type does not make mapstructure panic, and every part, `getMap`
    returns a value of the map, `notFound` or `convert` — never `unmodelled`, never a panic. -/
theorem getMap_total_keys (part : GoString) (kt : GoType) (es : List (GoVal × GoVal))
    (hk : decodePanics kt = false) :
    (∃ e, e ∈ es ∧ getMap part kt es = .ok (some e.2)) ∨ getMap part kt es = .error .notFound ∨
      getMap part kt es = .error .convert :=
  Proofs.Keys.getMap_total_keys part kt es hk

/-- The same for every WELL-FORMED map value (its key type is comparable) whose key type has no pointer
    inside: all scalar kinds, `interface{}`, non-empty interface types, structs, complex numbers,
    channels, arrays of these at any depth. -/
theorem getMap_total_wf (part : GoString) (n : String) (kt vt : GoType) (nl : Bool)
    (es : List (GoVal × GoVal)) (hw : (GoVal.map n kt vt nl es).wf = true)
    (hp : ptrFree kt = true) :
    (∃ e, e ∈ es ∧ getMap part kt es = .ok (some e.2)) ∨ getMap part kt es = .error .notFound ∨
      getMap part kt es = .error .convert :=
  Proofs.Keys.getMap_total_wf part n kt vt nl es hw hp

/-- In general there is a fourth answer, the panic, given only for the key types of F12
    (`decodePanics`; exactly for them: `getMap_panic_iff`). -/
theorem getMap_total (part : GoString) (kt : GoType) (es : List (GoVal × GoVal)) :
    (∃ e, e ∈ es ∧ getMap part kt es = .ok (some e.2)) ∨ getMap part kt es = .error .notFound ∨
      getMap part kt es = .error .convert ∨
      (getMap part kt es = .error .panic ∧ decodePanics kt = true) :=
  Proofs.Keys.getMap_total part kt es

theorem getMap_panic_iff (part : GoString) (kt : GoType) (es : List (GoVal × GoVal)) :
    getMap part kt es = .error .panic ↔ decodePanics kt = true :=
  Proofs.Keys.getMap_panic_iff part kt es

theorem get_ne_unmodelled (cfg : Config) (parts : List GoString) (v : Any) :
    Go.get cfg parts v ≠ .error .unmodelled :=
  Proofs.Keys.get_ne_unmodelled cfg parts v

/-- no key compares equal to a freshly allocated pointer -/
theorem keyEqV_fresh_ptr (f : Nat → Nat → Nat → Bool) (a : GoVal) (e : GoType) (v : GoVal) :
    keyEqV f a (.ptr e (some v)) = false := by
  rcases a with _|_|_|_|_|_|⟨_, _|_⟩|_|_|_|_|⟨_|_⟩|_ <;> simp [keyEqV]

/-- **A pointer-keyed map never yields a value**: the part is decoded into a fresh pointee, and the
    fresh pointer equals no key — "couldn't convert", the library's panic, or `ErrNotFound`. -/
theorem getMap_ptr_never_found (part : GoString) (e : GoType) (es : List (GoVal × GoVal)) (r : RV) :
    getMap part (.ptr e) es ≠ .ok r := by
  unfold getMap coerceKey
  simp only [decodeInto]
  cases decodeInto part e with
  | error x => simp
  | ok v =>
    simp only []
    have : es.find? (fun e' => fkeyEq e'.1 (.ptr e (some v))) = none := by
      rw [List.find?_eq_none]
      intro x _
      simp [fkeyEq, keyEq, unboxKey, keyEqV_fresh_ptr]
    simp [this]

/-! ## A panic inside the walk is the lookup error -/

/-- `Get` panics on every non-empty path from a map whose key type makes the decoder panic, under
    every hook configuration (the key is coerced before anything else happens) -/
theorem get_panics (cfg : Config) (p : GoString) (ps : List GoString) (n : String) (kt vt : GoType)
    (nl : Bool) (es : List (GoVal × GoVal)) (hk : decodePanics kt = true) :
    Go.get cfg (p :: ps) (some (.map n kt vt nl es)) = .error .panic := by
  have hm : getMap p kt es = .error .panic := (Proofs.Keys.getMap_panic_iff p kt es).2 hk
  simp [Go.get, getLoop, getStep, valueOf, unwrapForStep, unwrapIfaceV, unwrapPtrV, hm,
    getStep.applyHook]

/-- `safeGet`: whatever the options (unknown value configured or not), a panicking walk is the
    ordinary lookup error — not the absent-key path, not the unknown value -/
theorem getValue_recovers_walk_panic (o : Opts) (d : Any) (path p : List GoString)
    (hp : resolveLocals o.locals.reverse path = .ok (.inr p))
    (hg : Go.get o.cfg p d = .error .panic) : getValue o d path = .error := by
  simp [getValue, hp, hg]

/-- On a datum that is a map with a `decodePanics` key type
    (`map[*[1][]int]V` …) every match expression and every quantifier whose selector steps into it
    evaluates to `(false, error)` — `Out.err false` — for every operator, literal, hook and unknown
    value; `Evaluate` does not panic. -/
theorem evaluate_recovers_walk_panic (re : RegexOracle) (o : Opts) (hl : o.locals = [])
    (ty : SelType) (p : GoString) (ps : List GoString) (n : String) (kt vt : GoType) (nl : Bool)
    (es : List (GoVal × GoVal)) (hk : decodePanics kt = true) :
    (∀ op raw, evaluate re (.match_ ⟨ty, p :: ps⟩ op raw) o (some (.map n kt vt nl es)) = .err false) ∧
    (∀ cop b inner,
      evaluate re (.coll cop ⟨ty, p :: ps⟩ b inner) o (some (.map n kt vt nl es)) = .err false) := by
  have hg : getValue o (some (.map n kt vt nl es)) (p :: ps) = .error :=
    getValue_recovers_walk_panic o _ _ (p :: ps) (by simp [hl, resolveLocals])
      (get_panics o.cfg p ps n kt vt nl es hk)
  exact ⟨fun op raw => by simp [evaluate, evaluateMatch, hg],
    fun cop b inner => by simp [evaluate, hg]⟩

/-- The parent walk of `evaluateNotPresent` calls `ptr.Get` unguarded.  It is reached only after the
    full walk answered ErrNotFound, and then the walk of the path without its last part — a prefix
    of the steps already taken — cannot panic. -/
theorem parent_walk_no_panic (cfg : Config) (parts : List GoString) (d : Any)
    (h : Go.get cfg parts d = .error .notFound) :
    Go.get cfg parts.dropLast d ≠ .error .panic := by
  intro hp
  have hne : parts ≠ [] := by
    intro h0; subst h0; simp [Go.get] at h
  have hsplit : parts = parts.dropLast ++ [parts.getLast hne] :=
    (List.dropLast_concat_getLast hne).symm
  rw [hsplit, Proofs.SpecLemmas.get_append, hp] at h
  cases h

/-! ## Kernel-checked examples: the observations on the real code

Go strings are byte lists: `[49]` = "1", `[120]` = "x", `[]` = "", `[49, 50]` = "12". -/

namespace Examples

def intT : GoType := .basic .int ""
def i (n : Int) : GoVal := .int .int "" n
def s1 : GoVal := .str "" [49]

/-- `map[[1]int]string{{1}: "1"}`: the part "1" finds the key `[1]int{1}` -/
example : getMap [49] (.array 1 intT) [(.array intT [i 1], s1)] = .ok (some s1) := by rfl
/-- … "12" looks for `[1]int{12}`: not found; "x" does not convert (the empty part, `[1]int{0}`, and
    arrays of structs are exercised by the harness's key sweep: string literals / `String.endsWith` do
    not reduce in the kernel) -/
example : getMap [49, 50] (.array 1 intT) [(.array intT [i 1], s1)] = .error .notFound := by rfl
example : getMap [120] (.array 1 intT) [(.array intT [i 1], s1)] = .error .convert := by rfl
/-- `map[[2]int]string{{1, 2}: "1"}`: "1" looks for `[2]int{1, 0}` — not found; with the key
    `{1, 0}` in the map it is found -/
example : getMap [49] (.array 2 intT) [(.array intT [i 1, i 2], s1)] = .error .notFound := by rfl
example : getMap [49] (.array 2 intT) [(.array intT [i 1, i 2], s1), (.array intT [i 1, i 0], i 7)]
    = .ok (some (i 7)) := by rfl
/-- `[0]int` keys: the lifted one-element input is too long — "couldn't convert" -/
example : getMap [49] (.array 0 intT) [(.array intT [], s1)] = .error .convert := by rfl
/-- nested arrays: `map[[2][2]int]V`, "1" is `{{1, 0}, {0, 0}}` -/
example : getMap [49] (.array 2 (.array 2 intT))
    [(.array (.array 2 intT) [.array intT [i 1, i 0], .array intT [i 0, i 0]], s1)]
    = .ok (some s1) := by rfl
/-- `map[[2]interface{}]V{{"1", nil}: …}`: "1" is `{"1", nil}` -/
example : getMap [49] (.array 2 .iface)
    [(.array .iface [.iface (some s1), .iface (some (i 0))], i 2),
     (.array .iface [.iface (some s1), .iface none], i 1)] = .ok (some (i 1)) := by rfl
/-- `map[[1]MyStr]V`: every part converts -/
example : getMap [120] (.array 1 (.basic .string "main.MyStr"))
    [(.array (.basic .string "main.MyStr") [.str "main.MyStr" [120]], s1)] = .ok (some s1) := by rfl
/-- `map[*int]int{&one: 1, nil: 2}`: never found; "x" does not convert -/
example : getMap [49] (.ptr intT) [(.ptr intT (some (i 1)), i 1), (.ptr intT none, i 2)]
    = .error .notFound := by rfl
example : getMap [120] (.ptr intT) [(.ptr intT (some (i 1)), i 1)] = .error .convert := by rfl
/-- `map[[1]*int]V`: the array holds a fresh pointer — never found -/
example : getMap [49] (.array 1 (.ptr intT)) [(.array (.ptr intT) [.ptr intT (some (i 1))], s1)]
    = .error .notFound := by rfl
/-- struct, complex, channel, non-empty interface, uintptr, unsafe.Pointer keys: "couldn't convert" -/
example : getMap [49] (.struct "main.S") [(.struct "main.S" [], s1)] = .error .convert := by rfl
example : getMap [49] (.basic .complex128 "") [(.complex .complex128 "", s1)] = .error .convert := by rfl
example : getMap [49] (.other .chan "") [(.other .chan "" false, s1)] = .error .convert := by rfl
example : getMap [49] (.other .interface "error") [(.other .interface "error" false, s1)]
    = .error .convert := by rfl
example : getMap [49] (.basic .uintptr "") [(.uint .uintptr "" 1, s1)] = .error .convert := by rfl
example : getMap [49] (.other .unsafePointer "") [] = .error .convert := by rfl
/-- pointers to slices: `*[]byte` always converts (never found), `*[]int` converts iff the element does -/
example : getMap [120] (.ptr (.slice "" (.basic .uint8 ""))) [] = .error .notFound := by rfl
example : getMap [120] (.ptr (.slice "" intT)) [] = .error .convert := by rfl
example : getMap [49] (.ptr (.slice "" intT)) [] = .error .notFound := by rfl
/-- F12: `map[*[1][]int]V`, `map[[1]*[1]map[string]int]V`: the library panics, whatever the part -/
example : getMap [49] (.ptr (.array 1 (.slice "" intT))) [] = .error .panic := by rfl
example : getMap [] (.array 1 (.ptr (.array 1 (.map "" GoType.stringT intT)))) [] = .error .panic := by rfl
example : decodePanics (.ptr (.array 0 (.slice "" intT))) = true := by decide
example : decodePanics (.ptr (.array 1 intT)) = false := by decide

/-- the well-formedness of such maps: key types comparable, keys of the key type -/
example : (GoVal.map "" (.array 1 intT) GoType.stringT false [(.array intT [i 1], s1)]).wf = true := by
  decide
example : (GoVal.map "" (.other .interface "error") intT false
    [(.other .interface "error" false, i 1), (.other .interface "error" true, i 2)]).wf = true := by
  decide
example : (GoVal.map "" (.slice "" intT) intT true []).wf = false := by decide

/-- `map[string]interface{}{"m": map[*[1][]int]int{}}` -/
def f12 : Any := some (.map "" GoType.stringT .iface false
  [(.str "" [109], .iface (some (.map "" (.ptr (.array 1 (.slice "" intT))) intT false [])))])
/-- `map[*[1][]int]int{}` -/
def f12map : GoVal := .map "" (.ptr (.array 1 (.slice "" intT))) intT false []
/-! `m.a == 1` on `f12`: `pointerstructure.Get` panics, the evaluator returns `(false, error)`, also
    with an unknown value configured, and for a quantifier. -/
example : Any.wf f12 = true := by decide
example : Go.get C09.Examples.opts0.cfg [[109], [97]] f12 = .error .panic := by rfl
example : evaluate C09.Examples.re0 (.match_ ⟨.bexpr, [[109], [97]]⟩ .equal (some [49]))
    C09.Examples.opts0 f12 = .err false := by decide +kernel
example : evaluate C09.Examples.re0 (.match_ ⟨.bexpr, [[109], [97]]⟩ .notEqual (some [49]))
    { C09.Examples.opts0 with unknown := some (some (i 1)) } f12 = .err false := by decide +kernel
example : evaluate C09.Examples.re0
    (.coll .any ⟨.bexpr, [[109], [97]]⟩ { mode := .default, default := [118] }
      (.match_ ⟨.bexpr, [[118]]⟩ .isEmpty none)) C09.Examples.opts0 f12 = .err false := by decide +kernel
/-- the theorem instantiated on `map[*[1][]int]int{}` itself -/
example : evaluate C09.Examples.re0 (.match_ ⟨.bexpr, [[97]]⟩ .equal (some [49]))
    C09.Examples.opts0 (some f12map) = .err false :=
  (evaluate_recovers_walk_panic _ _ rfl .bexpr [97] [] "" (.ptr (.array 1 (.slice "" intT))) intT
    false [] (by decide)).1 _ _
example : evaluate C09.Examples.re0 (.match_ ⟨.bexpr, [[109], [97]]⟩ .equal (some [49]))
    C09.Examples.opts0 f12 ≠ .panic :=
  C09.evaluate_no_panic _ _ _ _ (by decide) (by decide) C09.Examples.opts0_wf

end Examples

end Bexpr.Props.C09Keys

#print axioms Bexpr.Props.C09Keys.getMap_total_keys
#print axioms Bexpr.Props.C09Keys.getMap_total_wf
#print axioms Bexpr.Props.C09Keys.getMap_total
#print axioms Bexpr.Props.C09Keys.getMap_panic_iff
#print axioms Bexpr.Props.C09Keys.get_ne_unmodelled
#print axioms Bexpr.Props.C09Keys.getMap_ptr_never_found
#print axioms Bexpr.Props.C09Keys.get_panics
#print axioms Bexpr.Props.C09Keys.getValue_recovers_walk_panic
#print axioms Bexpr.Props.C09Keys.evaluate_recovers_walk_panic
#print axioms Bexpr.Props.C09Keys.parent_walk_no_panic
