/-
  C17, FULL STACK: `CreateFilter(text)` + `Execute(data)` in terms of the REFERENCE outcome of the
  printed tree on each element.

  `Props/C17.lean` specifies `(*Filter).Execute` in terms of `Evaluate` of the filter's evaluator;
  `Props/C01Eval.lean` (`created_refines_spec`) shows that the evaluator created from the text of
  a well-formed rendering `ρ` returns, on a datum satisfying `C01.Hyps`, the reference outcome
  `Spec.denote re ρ.ast (top … d)`.  Here the two are composed through the real entry points
  `createFilter` (= `bexpr.CreateFilter`: the nil filter for the empty text, otherwise
  `CreateEvaluator` with NO options) and `execute` (= `(*Filter).Execute`).

  `refElem re ρ x` is the reference outcome (`C01Eval.refOutcome`) of the printed tree `ρ.ast` on
  the element `x` under the default options (tag name `bexpr`, no hook, no unknown-value);
  `ElemOK x` are the hypotheses of C01 (`C01.Hyps`) on `x` under these options: `x` well formed
  and every list reachable in it of at most 2^63 elements (the hook and unknown-value clauses are
  vacuous); `elemOK_of_size`: a well-formed value of at most 2^63 nodes (`rvSize`) is `ElemOK`.

  PROVED (`created_filter_spec`, the conjunction; components `filter_*` hold for every filter
  `CreateFilter` returns, without budget hypothesis)
   * `CreateFilter(ρ.text)` returns a filter — never the nil filter (the text is not empty), never
     the type-assertion panic — provided the unlimited parse stays below the 2^64 limit (`Fits`,
     necessary: `C16Eval.fits_necessary`).
   * slice / array / map (ANY key type; `Execute` never looks at the keys): if every element
     (entry value) is `ElemOK` and has a reference outcome that is a value, the result is the
     container of the same type (arrays: the slice `[]elem`) holding exactly the elements /
     entries whose reference outcome is `.val true`, in the original order.
   * slice / array: if the elements before `x` are `ElemOK` with value outcomes and `x` is
     `ElemOK` with a reference outcome that is not a value, the result is the image of THAT
     outcome (`.err` for an error, whatever follows `x`): `filter_first_error_*`,
     `filter_error_*`.
   * map: if every entry is `ElemOK` with a reference outcome that is a value or an error, the
     result is `.err` iff some entry's reference outcome is an error (independent of the
     iteration order, which Go leaves unspecified).
-/
import Props.C01Eval
import Props.C17

namespace Bexpr.Props.C17Eval
open Bexpr Bexpr.Go Bexpr.Eval Bexpr.Peg Bexpr.Driver Bexpr.Proofs.RoundTrip
open Bexpr.Proofs Bexpr.Proofs.SpecLemmas
open Bexpr.Props.C16Eval (Fits)
open Bexpr.Props.C07Eval (createFilter_ok_inv createFilter_rendering)
open Bexpr.Props.C01Eval (cfgOf refOutcome created_refines_spec_of_created)

/-- the hypotheses of C01 on one element, for the options `CreateFilter` uses (none) -/
def ElemOK (x : Any) : Prop := C01.Hyps x (cfgOf []) (getOpts []).unknown

/-- sufficient: a well-formed value of at most 2^63 nodes -/
theorem elemOK_of_size (x : Any) (hwf : Any.wf x = true) (hsz : rvSize x ≤ 2 ^ 63) : ElemOK x :=
  C01Eval.hyps_default x hwf hsz

/-- necessary up to the size: an `ElemOK` value is well formed -/
theorem ElemOK.wf {x : Any} (h : ElemOK x) : Any.wf x = true := C01.Hyps.wf h

/-- the reference outcome of the printed tree on one element, default options -/
abbrev refElem (re : RegexOracle) (ρ : Top) (x : Any) : Out := refOutcome re ρ.ast [] x

theorem filter_refines (ρ : Top) (h : ρ.WF) (ev : Evaluator)
    (hc : createFilter pinEnv pinGrammar ρ.text = .ok ev) (re : RegexOracle) (x : Any)
    (hx : ElemOK x) : ev.evaluate re x = refElem re ρ x :=
  created_refines_spec_of_created ρ h [] ev (createFilter_ok_inv hc) re x hx

theorem created_filter (ρ : Top) (h : ρ.WF) (hfit : Fits ρ.text) :
    ∃ ev, createFilter pinEnv pinGrammar ρ.text = .ok ev ∧ ev.ast = norm ρ.ast :=
  (createFilter_rendering ρ h).1 hfit

section components
variable (ρ : Top) (h : ρ.WF) (ev : Evaluator)
  (hc : createFilter pinEnv pinGrammar ρ.text = .ok ev) (re : RegexOracle)
include h hc

/-- slice: exactly the elements whose reference outcome is `true`, in order -/
theorem filter_slice_spec (name : String) (elem : GoType) (isNil : Bool) (xs : List GoVal)
    (hok : ∀ x ∈ xs, ElemOK x.toAny) (hval : ∀ x ∈ xs, ∃ b, refElem re ρ x.toAny = .val b) :
    execute re (some ev) (some (.slice name elem isNil xs)) =
      .ok (some (.slice name elem false
        (xs.filter fun x => refElem re ρ x.toAny == .val true))) := by
  have heq := fun x hx => filter_refines ρ h ev hc re _ (hok x hx)
  rw [C17.execute_slice_spec re ev name elem isNil xs (fun x hx => heq x hx ▸ hval x hx),
    List.filter_congr fun x hx => by rw [heq x hx]]

/-- array: the slice `[]elem` of the elements whose reference outcome is `true` -/
theorem filter_array_spec (elem : GoType) (xs : List GoVal)
    (hok : ∀ x ∈ xs, ElemOK x.toAny) (hval : ∀ x ∈ xs, ∃ b, refElem re ρ x.toAny = .val b) :
    execute re (some ev) (some (.array elem xs)) =
      .ok (some (.slice "" elem false
        (xs.filter fun x => refElem re ρ x.toAny == .val true))) := by
  have heq := fun x hx => filter_refines ρ h ev hc re _ (hok x hx)
  rw [C17.execute_array_spec re ev elem xs (fun x hx => heq x hx ▸ hval x hx),
    List.filter_congr fun x hx => by rw [heq x hx]]

/-- map, any key type (string keys, `interface{}` keys, …): the same map type with the entries
    (key and value unchanged) whose value has the reference outcome `true` -/
theorem filter_map_spec (name : String) (kt vt : GoType) (isNil : Bool)
    (es : List (GoVal × GoVal)) (hok : ∀ e ∈ es, ElemOK e.2.toAny)
    (hval : ∀ e ∈ es, ∃ b, refElem re ρ e.2.toAny = .val b) :
    execute re (some ev) (some (.map name kt vt isNil es)) =
      .ok (some (.map name kt vt false
        (es.filter fun e => refElem re ρ e.2.toAny == .val true))) := by
  have heq := fun e he => filter_refines ρ h ev hc re _ (hok e he)
  rw [C17.execute_map_spec re ev name kt vt isNil es (fun e he => heq e he ▸ hval e he),
    List.filter_congr fun e he => by rw [heq e he]]

/-- slice: the FIRST element whose reference outcome is not a value decides; nothing is assumed
    about the elements after it -/
theorem filter_first_error_slice (name : String) (elem : GoType) (isNil : Bool)
    (pre : List GoVal) (x : GoVal) (post : List GoVal)
    (hok : ∀ y ∈ pre, ElemOK y.toAny) (hokx : ElemOK x.toAny)
    (hpre : ∀ y ∈ pre, ∃ b, refElem re ρ y.toAny = .val b)
    (hx : ∀ b, refElem re ρ x.toAny ≠ .val b) :
    execute re (some ev) (some (.slice name elem isNil (pre ++ x :: post))) =
      outToExec (refElem re ρ x.toAny) := by
  have hxe := filter_refines ρ h ev hc re _ hokx
  rw [C17.execute_first_error_slice re ev name elem isNil pre x post
    (fun y hy => by rw [filter_refines ρ h ev hc re _ (hok y hy)]; exact hpre y hy)
    (by rw [hxe]; exact hx), hxe]

theorem filter_first_error_array (elem : GoType) (pre : List GoVal) (x : GoVal)
    (post : List GoVal) (hok : ∀ y ∈ pre, ElemOK y.toAny) (hokx : ElemOK x.toAny)
    (hpre : ∀ y ∈ pre, ∃ b, refElem re ρ y.toAny = .val b)
    (hx : ∀ b, refElem re ρ x.toAny ≠ .val b) :
    execute re (some ev) (some (.array elem (pre ++ x :: post))) =
      outToExec (refElem re ρ x.toAny) := by
  have hxe := filter_refines ρ h ev hc re _ hokx
  rw [C17.execute_first_error_array re ev elem pre x post
    (fun y hy => by rw [filter_refines ρ h ev hc re _ (hok y hy)]; exact hpre y hy)
    (by rw [hxe]; exact hx), hxe]

/-- slice: `.err` as soon as one element's reference outcome is an error and the reference
    outcomes of all elements before it are values -/
theorem filter_error_slice (name : String) (elem : GoType) (isNil : Bool)
    (pre : List GoVal) (x : GoVal) (post : List GoVal)
    (hok : ∀ y ∈ pre, ElemOK y.toAny) (hokx : ElemOK x.toAny)
    (hpre : ∀ y ∈ pre, ∃ b, refElem re ρ y.toAny = .val b)
    (b : Bool) (hx : refElem re ρ x.toAny = .err b) :
    execute re (some ev) (some (.slice name elem isNil (pre ++ x :: post))) = .err := by
  rw [filter_first_error_slice ρ h ev hc re name elem isNil pre x post hok hokx hpre
    (by rw [hx]; intro b' hb'; cases hb'), hx]
  rfl

theorem filter_error_array (elem : GoType) (pre : List GoVal) (x : GoVal) (post : List GoVal)
    (hok : ∀ y ∈ pre, ElemOK y.toAny) (hokx : ElemOK x.toAny)
    (hpre : ∀ y ∈ pre, ∃ b, refElem re ρ y.toAny = .val b)
    (b : Bool) (hx : refElem re ρ x.toAny = .err b) :
    execute re (some ev) (some (.array elem (pre ++ x :: post))) = .err := by
  rw [filter_first_error_array ρ h ev hc re elem pre x post hok hokx hpre
    (by rw [hx]; intro b' hb'; cases hb'), hx]
  rfl

/-- map: `.err` iff some entry's reference outcome is an error (all outcomes values or errors);
    the statement does not mention the iteration order -/
theorem filter_map_err_iff (name : String) (kt vt : GoType) (isNil : Bool)
    (es : List (GoVal × GoVal)) (hok : ∀ e ∈ es, ElemOK e.2.toAny)
    (hve : ∀ e ∈ es, (∃ b, refElem re ρ e.2.toAny = .val b) ∨
                      ∃ b, refElem re ρ e.2.toAny = .err b) :
    execute re (some ev) (some (.map name kt vt isNil es)) = .err ↔
      ∃ e ∈ es, ∃ b, refElem re ρ e.2.toAny = .err b := by
  have heq : ∀ e ∈ es, ev.evaluate re e.2.toAny = refElem re ρ e.2.toAny :=
    fun e he => filter_refines ρ h ev hc re _ (hok e he)
  rw [C17.execute_map_err_iff re ev name kt vt isNil es
    (fun e he => by rw [heq e he]; exact hve e he)]
  constructor
  · rintro ⟨e, he, b, hb⟩; exact ⟨e, he, b, by rw [← heq e he]; exact hb⟩
  · rintro ⟨e, he, b, hb⟩; exact ⟨e, he, b, by rw [heq e he]; exact hb⟩

end components

/-- **`CreateFilter` + `Execute` at the text level.**  For every well-formed rendering `ρ`
    whose unlimited parse stays below the 2^64 limit, `CreateFilter(ρ.text)` returns a filter
    `ev` (holding the tree `norm ρ.ast`), and with every regexp engine `Execute`
     (1) on a slice, (2) on an array, (3) on a map of any key type whose elements / entry values
         are `ElemOK` and have value reference outcomes: keeps exactly those whose reference
         outcome `Spec.denote re ρ.ast (top … element)` is `.val true`, in order;
     (4) on a slice, (5) on an array `pre ++ x :: post` where `pre` is as before and the reference
         outcome of `x` (`ElemOK`) is not a value: returns the image of that outcome, which (6)
         is `.err` for an error (by definition of `outToExec`);
     (7) on a map whose entries are `ElemOK` with value-or-error reference outcomes: is `.err`
         iff some entry's reference outcome is an error. -/
theorem created_filter_spec (ρ : Top) (h : ρ.WF) (hfit : Fits ρ.text) :
    ∃ ev, createFilter pinEnv pinGrammar ρ.text = .ok ev ∧ ev.ast = norm ρ.ast ∧
      ∀ re : RegexOracle,
        (∀ name elem isNil xs, (∀ x ∈ xs, ElemOK x.toAny) →
          (∀ x ∈ xs, ∃ b, refElem re ρ x.toAny = .val b) →
          execute re (some ev) (some (.slice name elem isNil xs)) =
            .ok (some (.slice name elem false
              (xs.filter fun x => refElem re ρ x.toAny == .val true)))) ∧
        (∀ elem xs, (∀ x ∈ xs, ElemOK x.toAny) →
          (∀ x ∈ xs, ∃ b, refElem re ρ x.toAny = .val b) →
          execute re (some ev) (some (.array elem xs)) =
            .ok (some (.slice "" elem false
              (xs.filter fun x => refElem re ρ x.toAny == .val true)))) ∧
        (∀ name kt vt isNil (es : List (GoVal × GoVal)), (∀ e ∈ es, ElemOK e.2.toAny) →
          (∀ e ∈ es, ∃ b, refElem re ρ e.2.toAny = .val b) →
          execute re (some ev) (some (.map name kt vt isNil es)) =
            .ok (some (.map name kt vt false
              (es.filter fun e => refElem re ρ e.2.toAny == .val true)))) ∧
        (∀ name elem isNil pre x post, (∀ y ∈ pre, ElemOK y.toAny) → ElemOK x.toAny →
          (∀ y ∈ pre, ∃ b, refElem re ρ y.toAny = .val b) →
          (∀ b, refElem re ρ x.toAny ≠ .val b) →
          execute re (some ev) (some (.slice name elem isNil (pre ++ x :: post))) =
            outToExec (refElem re ρ x.toAny)) ∧
        (∀ elem pre x post, (∀ y ∈ pre, ElemOK y.toAny) → ElemOK x.toAny →
          (∀ y ∈ pre, ∃ b, refElem re ρ y.toAny = .val b) →
          (∀ b, refElem re ρ x.toAny ≠ .val b) →
          execute re (some ev) (some (.array elem (pre ++ x :: post))) =
            outToExec (refElem re ρ x.toAny)) ∧
        (∀ b, outToExec (.err b) = .err) ∧
        (∀ name kt vt isNil (es : List (GoVal × GoVal)), (∀ e ∈ es, ElemOK e.2.toAny) →
          (∀ e ∈ es, (∃ b, refElem re ρ e.2.toAny = .val b) ∨
                      ∃ b, refElem re ρ e.2.toAny = .err b) →
          (execute re (some ev) (some (.map name kt vt isNil es)) = .err ↔
            ∃ e ∈ es, ∃ b, refElem re ρ e.2.toAny = .err b)) := by
  obtain ⟨ev, hc, ha⟩ := created_filter ρ h hfit
  exact ⟨ev, hc, ha, fun re =>
    ⟨filter_slice_spec ρ h ev hc re, filter_array_spec ρ h ev hc re, filter_map_spec ρ h ev hc re,
     filter_first_error_slice ρ h ev hc re, filter_first_error_array ρ h ev hc re,
     fun _ => rfl, filter_map_err_iff ρ h ev hc re⟩⟩

/-- `CreateFilter` on a text whose unlimited parse does not fit is the error, not a filter: the
    budget hypothesis of `created_filter_spec` cannot be dropped -/
theorem created_filter_needs_fits (ρ : Top) (h : ρ.WF) (hn : ¬ Fits ρ.text) :
    createFilter pinEnv pinGrammar ρ.text = .err :=
  (createFilter_rendering ρ h).2 hn

/-! ## Non-vacuity -/

namespace Example
open Bexpr.Props.C01Eval.Example
open Bexpr.Props.C16.Example (asc)

/-- the elements of `dB1`, `dB3` of `Props/C01Eval.lean` wrapped one level deeper: each element
    is a document `{"items": […]}` -/
def good : GoVal := .iface dB1
def bad : GoVal := .iface dB3
def other : GoVal := .iface dB2

theorem elems_ok : ElemOK good.toAny ∧ ElemOK other.toAny ∧ ElemOK bad.toAny :=
  ⟨hypsB.1, hypsB.2.1, hypsB.2.2⟩

/-- `[]interface{}{dB1, dB2, dB1}` filtered by the text of example B (newlines, tabs, two
    quantifiers): the first and the third element are kept -/
example : ∃ ev, createFilter pinEnv pinGrammar topB.text = .ok ev ∧
    execute noRe (some ev) (some (.slice "" .iface false [good, other, good])) =
      .ok (some (.slice "" .iface false [good, good])) := by
  obtain ⟨ev, hc, _, hs⟩ := created_filter_spec topB topB_WF fitsB
  refine ⟨ev, hc, ?_⟩
  rw [(hs noRe).1 "" .iface false [good, other, good]]
  · have : ([good, other, good].filter fun x => refElem noRe topB x.toAny == .val true) =
        [good, good] := by
      simp only [List.filter, good, other, GoVal.toAny, refElem, refB.1, refB.2.1]
      rfl
    rw [this]
  · intro x hx
    simp only [List.mem_cons, List.not_mem_nil, or_false] at hx
    rcases hx with rfl | rfl | rfl
    · exact elems_ok.1
    · exact elems_ok.2.1
    · exact elems_ok.1
  · intro x hx
    simp only [List.mem_cons, List.not_mem_nil, or_false] at hx
    rcases hx with rfl | rfl | rfl
    · exact ⟨true, refB.1⟩
    · exact ⟨false, refB.2.1⟩
    · exact ⟨true, refB.1⟩

/-- `[good, bad, good]`: the second element's reference outcome is an error — `Execute` fails -/
example : ∃ ev, createFilter pinEnv pinGrammar topB.text = .ok ev ∧
    execute noRe (some ev) (some (.slice "" .iface false [good, bad, good])) = .err := by
  obtain ⟨ev, hc, _⟩ := created_filter topB topB_WF fitsB
  refine ⟨ev, hc, ?_⟩
  refine filter_error_slice topB topB_WF ev hc noRe "" .iface false [good] bad [good] ?_
    elems_ok.2.2 ?_ false refB.2.2
  · intro y hy
    simp only [List.mem_cons, List.not_mem_nil, or_false] at hy
    subst hy
    exact elems_ok.1
  · intro y hy
    simp only [List.mem_cons, List.not_mem_nil, or_false] at hy
    subst hy
    exact ⟨true, refB.1⟩

/-- `map[int]interface{}{1: dB1, 2: dB2}` (a key type that is not `string`): the entry with key 1
    is kept, key and value unchanged -/
example : ∃ ev, createFilter pinEnv pinGrammar topB.text = .ok ev ∧
    execute noRe (some ev) (some (.map "" (.basic .int "") .iface false
        [(.int .int "" 1, good), (.int .int "" 2, other)])) =
      .ok (some (.map "" (.basic .int "") .iface false [(.int .int "" 1, good)])) := by
  obtain ⟨ev, hc, _⟩ := created_filter topB topB_WF fitsB
  refine ⟨ev, hc, ?_⟩
  rw [filter_map_spec topB topB_WF ev hc noRe "" (.basic .int "") .iface false
    [(.int .int "" 1, good), (.int .int "" 2, other)]]
  · have : ([(GoVal.int .int "" 1, good), (GoVal.int .int "" 2, other)].filter
        fun e => refElem noRe topB e.2.toAny == .val true) = [(.int .int "" 1, good)] := by
      simp only [List.filter, good, other, GoVal.toAny, refElem, refB.1, refB.2.1]
      rfl
    rw [this]
  · intro e he
    simp only [List.mem_cons, List.not_mem_nil, or_false] at he
    rcases he with rfl | rfl
    · exact elems_ok.1
    · exact elems_ok.2.1
  · intro e he
    simp only [List.mem_cons, List.not_mem_nil, or_false] at he
    rcases he with rfl | rfl
    · exact ⟨true, refB.1⟩
    · exact ⟨false, refB.2.1⟩

end Example

end Bexpr.Props.C17Eval

#print axioms Bexpr.Props.C17Eval.elemOK_of_size
#print axioms Bexpr.Props.C17Eval.ElemOK.wf
#print axioms Bexpr.Props.C17Eval.filter_refines
#print axioms Bexpr.Props.C17Eval.created_filter
#print axioms Bexpr.Props.C17Eval.filter_slice_spec
#print axioms Bexpr.Props.C17Eval.filter_array_spec
#print axioms Bexpr.Props.C17Eval.filter_map_spec
#print axioms Bexpr.Props.C17Eval.filter_first_error_slice
#print axioms Bexpr.Props.C17Eval.filter_first_error_array
#print axioms Bexpr.Props.C17Eval.filter_error_slice
#print axioms Bexpr.Props.C17Eval.filter_error_array
#print axioms Bexpr.Props.C17Eval.filter_map_err_iff
#print axioms Bexpr.Props.C17Eval.created_filter_spec
#print axioms Bexpr.Props.C17Eval.created_filter_needs_fits
#print axioms Bexpr.Props.C17Eval.Example.elems_ok
