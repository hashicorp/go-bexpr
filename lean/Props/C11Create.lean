/-
  Property C11 (expression budget), lifted from the engine (`Peg.run`, `Props/C11.lean`) to the
  public entry point `createEvaluator env g expression opts` (`Bexpr/Eval/Create.lean`,
  Go: `bexpr.go:CreateEvaluator` + `options.go:WithMaxExpressions`).

    "for every input there is a step count N such that creating an evaluator under
     WithMaxExpressions(n) gives exactly the unlimited result when n = 0 or n ≥ N, and fails
     when 0 < n < N; a limited creation never executes more than n + 1 parser steps."

  The budget reaches the engine through the option fold: `n = (getOpts opts).maxExpressions`
  (the argument of the LAST `Opt.maxExpressions` in `opts`, else 0: `C18.getOpts_maxExpressions`).
  "The budget removed" is written `opts ++ [.maxExpressions 0]` (last one wins,
  `C18.getOpts_last_wins`); `getOpts_budget_removed_eq_filter` shows that this is the same option
  record as the one obtained by deleting every `Opt.maxExpressions` from `opts`.

  Everything is generic in the action semantics `env`, the grammar `g` and the expression text.
-/
import Bexpr.Eval.Create
import Props.C11
import Props.C18

namespace Bexpr.Props.C11Create
open Bexpr Bexpr.Go Bexpr.Eval Bexpr.Peg Bexpr.Proofs.Options

/-! ## How `createEvaluator` uses the engine -/

/-- What `CreateEvaluator` makes of a finished parse (`out`) and the folded options (`po`). -/
def ofRun (po : Options) (expression : GoString) (out : ParseOut) : CreateOut :=
  if !out.accepted then .err else
  match out.val with
  | .expr e =>
    .ok { ast := e, tagName := po.tagName, hook := po.hook, unknown := po.unknown,
          expression := expression }
  | _ => .panic

/-- `createEvaluator` performs exactly ONE engine run, namely `run env g n expr` with
    `n = (getOpts opts).maxExpressions`, and post-processes its output with `ofRun`. -/
theorem create_eq_ofRun (env : Env) (g : Grammar) (expr : GoString) (opts : List Opt) :
    createEvaluator env g expr opts =
      ofRun (getOpts opts) expr (run env g (getOpts opts).maxExpressions expr) := rfl

theorem getOpts_append_budget (opts : List Opt) (m : Nat) :
    getOpts (opts ++ [.maxExpressions m]) = { getOpts opts with maxExpressions := m } :=
  C18.getOpts_last_wins opts _

theorem getOpts_append_budget_max (opts : List Opt) (m : Nat) :
    (getOpts (opts ++ [.maxExpressions m])).maxExpressions = m := by
  rw [getOpts_append_budget]

theorem create_append_budget (env : Env) (g : Grammar) (expr : GoString) (opts : List Opt)
    (m : Nat) :
    createEvaluator env g expr (opts ++ [.maxExpressions m]) =
      ofRun (getOpts opts) expr (run env g m expr) := by
  rw [create_eq_ofRun, getOpts_append_budget]
  rfl

theorem create_append_budget_twice (env : Env) (g : Grammar) (expr : GoString) (opts : List Opt)
    (n m : Nat) :
    createEvaluator env g expr (opts ++ [.maxExpressions n] ++ [.maxExpressions m]) =
      createEvaluator env g expr (opts ++ [.maxExpressions m]) := by
  rw [create_append_budget, create_append_budget, getOpts_append_budget]
  rfl

theorem foldl_apply_forget_budget (l : List Opt) (o : Options) (k m : Nat) :
    { l.foldl Opt.apply { o with maxExpressions := k } with maxExpressions := m } =
    ({ l.foldl Opt.apply o with maxExpressions := m } : Options) := by
  induction l generalizing o k with
  | nil => rfl
  | cons a t ih =>
    rw [List.foldl_cons, List.foldl_cons]
    cases a with
    | maxExpressions n => rfl
    | tagName s => exact ih { o with tagName := s } k
    | hookFn h => exact ih { o with hook := h } k
    | unknownValue v => exact ih { o with unknown := some v } k
    | nilOpt => exact ih o k

theorem foldl_apply_filter_budget (l : List Opt) (o : Options) :
    (l.filter fun a => decide (a.kind ≠ .maxExpressions)).foldl Opt.apply o =
    { l.foldl Opt.apply o with maxExpressions := o.maxExpressions } := by
  induction l generalizing o with
  | nil => rfl
  | cons a t ih =>
    rw [List.foldl_cons]
    cases a with
    | maxExpressions n =>
      rw [List.filter_cons_of_neg (by simp [Opt.kind]), ih]
      exact (foldl_apply_forget_budget t o n o.maxExpressions).symm
    | _ =>
      rw [List.filter_cons_of_pos (by simp [Opt.kind]), List.foldl_cons, ih]
      rfl

/-- "Budget removed", two readings that agree: append `WithMaxExpressions(0)`, or delete every
    `WithMaxExpressions` option from the list. -/
theorem getOpts_budget_removed_eq_filter (opts : List Opt) :
    getOpts (opts ++ [.maxExpressions 0]) =
      getOpts (opts.filter fun a => decide (a.kind ≠ .maxExpressions)) := by
  rw [getOpts_append_budget]
  exact (foldl_apply_filter_budget opts defaultOptions).symm

theorem create_budget_removed_eq_filter (env : Env) (g : Grammar) (expr : GoString)
    (opts : List Opt) :
    createEvaluator env g expr (opts ++ [.maxExpressions 0]) =
      createEvaluator env g expr (opts.filter fun a => decide (a.kind ≠ .maxExpressions)) := by
  rw [create_eq_ofRun, create_eq_ofRun, getOpts_budget_removed_eq_filter]

theorem create_congr_run (env : Env) (g : Grammar) (expr : GoString) (opts : List Opt) (m : Nat)
    (h : run env g (getOpts opts).maxExpressions expr = run env g m expr) :
    createEvaluator env g expr opts = createEvaluator env g expr (opts ++ [.maxExpressions m]) := by
  rw [create_append_budget, create_eq_ofRun, h]

theorem ofRun_err_iff (po : Options) (expr : GoString) (out : ParseOut) :
    ofRun po expr out = .err ↔ out.accepted = false := by
  unfold ofRun
  cases out.accepted with
  | false => simp
  | true =>
    simp only [Bool.not_true, Bool.false_eq_true, if_false, reduceCtorEq, iff_false]
    split <;> simp

theorem create_err_iff (env : Env) (g : Grammar) (expr : GoString) (opts : List Opt) :
    createEvaluator env g expr opts = .err ↔
      (run env g (getOpts opts).maxExpressions expr).accepted = false :=
  ofRun_err_iff ..

theorem create_err_of_errs (env : Env) (g : Grammar) (expr : GoString) (opts : List Opt)
    (h : ∃ e, e ∈ (run env g (getOpts opts).maxExpressions expr).errs) :
    createEvaluator env g expr opts = .err := by
  obtain ⟨e, he⟩ := h
  apply (create_err_iff env g expr opts).2
  unfold ParseOut.accepted
  cases hl : (run env g (getOpts opts).maxExpressions expr).errs with
  | nil => rw [hl] at he; cases he
  | cons _ _ => rfl

theorem create_err_below (env : Env) (g : Grammar) (expr : GoString) (opts : List Opt)
    (h0 : 0 < (getOpts opts).maxExpressions)
    (hlt : (getOpts opts).maxExpressions < (run env g 0 expr).cnt) :
    createEvaluator env g expr opts = .err := by
  obtain ⟨_, ⟨e, he, _⟩, _⟩ := C11.budget_exact_lt env g expr _ h0 hlt
  exact create_err_of_errs env g expr opts ⟨e, he⟩

/-! ## The threshold theorem at creation level -/

/-- C11 for `createEvaluator`, with the threshold written out: `N = (run env g 0 expr).cnt`, the
    number of parser steps of the unlimited run.  `n = (getOpts opts).maxExpressions` is a `uint64`
    in Go, whence `n ≤ 2^64 - 1`. -/
theorem create_budget_exact (env : Env) (g : Grammar) (expr : GoString) (opts : List Opt)
    (hn : (getOpts opts).maxExpressions ≤ 2 ^ 64 - 1) :
    (((getOpts opts).maxExpressions = 0 ∨
        (run env g 0 expr).cnt ≤ (getOpts opts).maxExpressions) →
      createEvaluator env g expr opts =
        createEvaluator env g expr (opts ++ [.maxExpressions 0])) ∧
    (0 < (getOpts opts).maxExpressions →
      (getOpts opts).maxExpressions < (run env g 0 expr).cnt →
      createEvaluator env g expr opts = .err) := by
  refine ⟨fun h => ?_, create_err_below env g expr opts⟩
  apply create_congr_run
  rcases h with h | h
  · rw [h]
  · exact C11.budget_exact_ge env g expr _ h hn

/-- **C11 at creation level.**  For every expression there is a step count `N` (that of the
    unlimited engine run, at most `2^64`) such that for EVERY option list `opts` whose effective
    budget `n = (getOpts opts).maxExpressions` fits a `uint64`:
    * `n = 0 ∨ N ≤ n`: the result is EQUAL to the result with the budget removed (same outcome
      class; same `ast`, `tagName`, `hook`, `unknown`, `expression` when `.ok`);
    * `0 < n < N`: creation fails. -/
theorem create_budget_threshold (env : Env) (g : Grammar) (expr : GoString) :
    ∃ N : Nat, N = (run env g 0 expr).cnt ∧ N ≤ 2 ^ 64 ∧
      ∀ opts : List Opt, (getOpts opts).maxExpressions ≤ 2 ^ 64 - 1 →
        (((getOpts opts).maxExpressions = 0 ∨ N ≤ (getOpts opts).maxExpressions) →
          createEvaluator env g expr opts =
            createEvaluator env g expr (opts ++ [.maxExpressions 0])) ∧
        (0 < (getOpts opts).maxExpressions → (getOpts opts).maxExpressions < N →
          createEvaluator env g expr opts = .err) :=
  ⟨_, rfl, C11.unlimited_cnt_le env g expr, fun opts hn => create_budget_exact env g expr opts hn⟩

theorem create_budget_threshold_filter (env : Env) (g : Grammar) (expr : GoString) :
    ∃ N : Nat, N = (run env g 0 expr).cnt ∧
      ∀ opts : List Opt, (getOpts opts).maxExpressions ≤ 2 ^ 64 - 1 →
        (((getOpts opts).maxExpressions = 0 ∨ N ≤ (getOpts opts).maxExpressions) →
          createEvaluator env g expr opts =
            createEvaluator env g expr
              (opts.filter fun a => decide (a.kind ≠ .maxExpressions))) ∧
        (0 < (getOpts opts).maxExpressions → (getOpts opts).maxExpressions < N →
          createEvaluator env g expr opts = .err) := by
  refine ⟨_, rfl, fun opts hn => ?_⟩
  rw [← create_budget_removed_eq_filter]
  exact create_budget_exact env g expr opts hn

/-- The field-wise reading of the first half of `create_budget_exact`: same outcome class as with the budget
    removed, and for `.ok` the same five fields. -/
theorem create_budget_threshold_fields (env : Env) (g : Grammar) (expr : GoString)
    (opts : List Opt) (hn : (getOpts opts).maxExpressions ≤ 2 ^ 64 - 1)
    (h : (getOpts opts).maxExpressions = 0 ∨
      (run env g 0 expr).cnt ≤ (getOpts opts).maxExpressions) :
    (createEvaluator env g expr opts = .err ↔
      createEvaluator env g expr (opts ++ [.maxExpressions 0]) = .err) ∧
    (createEvaluator env g expr opts = .panic ↔
      createEvaluator env g expr (opts ++ [.maxExpressions 0]) = .panic) ∧
    (∀ ev, createEvaluator env g expr opts = .ok ev →
      ∃ ev', createEvaluator env g expr (opts ++ [.maxExpressions 0]) = .ok ev' ∧
        ev'.ast = ev.ast ∧ ev'.tagName = ev.tagName ∧ ev'.hook = ev.hook ∧
        ev'.unknown = ev.unknown ∧ ev'.expression = ev.expression) ∧
    (∀ ev', createEvaluator env g expr (opts ++ [.maxExpressions 0]) = .ok ev' →
      createEvaluator env g expr opts = .ok ev') := by
  have e := (create_budget_exact env g expr opts hn).1 h
  rw [← e]
  exact ⟨Iff.rfl, Iff.rfl, fun ev hev => ⟨ev, hev, rfl, rfl, rfl, rfl, rfl⟩, fun _ h => h⟩

theorem create_budget_threshold_explicit (env : Env) (g : Grammar) (expr : GoString) :
    ∃ N : Nat, N = (run env g 0 expr).cnt ∧
      ∀ (opts : List Opt) (n : Nat), n ≤ 2 ^ 64 - 1 →
        ((n = 0 ∨ N ≤ n) →
          createEvaluator env g expr (opts ++ [.maxExpressions n]) =
            createEvaluator env g expr (opts ++ [.maxExpressions 0])) ∧
        (0 < n → n < N → createEvaluator env g expr (opts ++ [.maxExpressions n]) = .err) := by
  refine ⟨_, rfl, fun opts n hn => ?_⟩
  have hb := getOpts_append_budget_max opts n
  have h := create_budget_exact env g expr (opts ++ [.maxExpressions n]) (by rw [hb]; exact hn)
  rw [hb, create_append_budget_twice] at h
  exact h

/-! ## Monotonicity in the budget -/

theorem threshold_le_of_not_err (env : Env) (g : Grammar) (expr : GoString) (opts : List Opt)
    (h0 : 0 < (getOpts opts).maxExpressions)
    (h : createEvaluator env g expr opts ≠ .err) :
    (run env g 0 expr).cnt ≤ (getOpts opts).maxExpressions :=
  Nat.le_of_not_lt fun hlt => h (create_err_below env g expr opts h0 hlt)

/-- A creation that did not fail under a positive budget `n` is the creation under every larger
    budget and under budget 0: all these runs are the unlimited run. -/
theorem create_eq_of_not_err (env : Env) (g : Grammar) (expr : GoString) (opts : List Opt)
    (h0 : 0 < (getOpts opts).maxExpressions) (hn : (getOpts opts).maxExpressions ≤ 2 ^ 64 - 1)
    (h : createEvaluator env g expr opts ≠ .err) (n' : Nat)
    (hn' : n' = 0 ∨ (getOpts opts).maxExpressions ≤ n') (hle : n' ≤ 2 ^ 64 - 1) :
    createEvaluator env g expr (opts ++ [.maxExpressions n']) = createEvaluator env g expr opts := by
  have hN := threshold_le_of_not_err env g expr opts h0 h
  have h1 : run env g (getOpts opts).maxExpressions expr = run env g 0 expr :=
    C11.budget_exact_ge env g expr _ hN hn
  have h2 : run env g n' expr = run env g 0 expr := by
    rcases hn' with rfl | hn'
    · rfl
    · exact C11.budget_exact_ge env g expr _ (Nat.le_trans hN hn') hle
  exact (create_congr_run env g expr opts n' (h1.trans h2.symm)).symm

/-- **Monotonicity.**
    (1) If creation succeeds under the budget `n > 0` of `opts` then it succeeds with the SAME
        evaluator when the budget is overwritten by any larger `n' ≥ n` (`≤ 2^64 - 1`) or by 0.
    (2) If creation under budget 0 is a (syntax) error then creation is an error under every
        budget and whatever the other options are. -/
theorem create_budget_monotone (env : Env) (g : Grammar) (expr : GoString) :
    (∀ (opts : List Opt) (ev : Evaluator),
      0 < (getOpts opts).maxExpressions → (getOpts opts).maxExpressions ≤ 2 ^ 64 - 1 →
      createEvaluator env g expr opts = .ok ev →
      ∀ n', (n' = 0 ∨ (getOpts opts).maxExpressions ≤ n') → n' ≤ 2 ^ 64 - 1 →
        createEvaluator env g expr (opts ++ [.maxExpressions n']) = .ok ev) ∧
    (∀ opts₀ : List Opt, (getOpts opts₀).maxExpressions = 0 →
      createEvaluator env g expr opts₀ = .err →
      ∀ opts : List Opt, (getOpts opts).maxExpressions ≤ 2 ^ 64 - 1 →
        createEvaluator env g expr opts = .err) := by
  refine ⟨?_, ?_⟩
  · intro opts ev h0 hn hok n' hn' hle
    rw [create_eq_of_not_err env g expr opts h0 hn (by rw [hok]; exact fun h => nomatch h) n' hn' hle]
    exact hok
  · intro opts₀ hz herr opts hn
    have hacc : (run env g 0 expr).accepted = false := by
      have := (create_err_iff env g expr opts₀).1 herr
      rw [hz] at this; exact this
    by_cases h : (getOpts opts).maxExpressions = 0 ∨
        (run env g 0 expr).cnt ≤ (getOpts opts).maxExpressions
    · rw [(create_budget_exact env g expr opts hn).1 h, create_append_budget]
      exact (ofRun_err_iff ..).2 hacc
    · exact (create_budget_exact env g expr opts hn).2 (by omega) (by omega)

theorem create_budget_monotone_explicit (env : Env) (g : Grammar) (expr : GoString)
    (opts : List Opt) (n : Nat) (ev : Evaluator) (h0 : 0 < n) (hn : n ≤ 2 ^ 64 - 1)
    (hok : createEvaluator env g expr (opts ++ [.maxExpressions n]) = .ok ev) :
    (∀ n', n ≤ n' → n' ≤ 2 ^ 64 - 1 →
      createEvaluator env g expr (opts ++ [.maxExpressions n']) = .ok ev) ∧
    createEvaluator env g expr (opts ++ [.maxExpressions 0]) = .ok ev := by
  have hb := getOpts_append_budget_max opts n
  have h0' : 0 < (getOpts (opts ++ [.maxExpressions n])).maxExpressions := by rw [hb]; exact h0
  have hn' : (getOpts (opts ++ [.maxExpressions n])).maxExpressions ≤ 2 ^ 64 - 1 := by
    rw [hb]; exact hn
  -- one argument at a time: as a single application this runs into the heartbeat limit (`whnf`)
  have key := (create_budget_monotone env g expr).1 (opts ++ [.maxExpressions n]) ev
  have key := key h0'
  have key := key hn'
  have key := key hok
  rw [hb] at key
  have e := create_append_budget_twice env g expr opts n
  refine ⟨fun n' hle hle' => ?_, ?_⟩
  · exact (e n').symm.trans (key n' (.inr hle) hle')
  · exact (e 0).symm.trans (key 0 (.inl rfl) (Nat.zero_le _))

/-- Panics are monotone too: a `.panic` (wrong top-level value) under a positive budget persists
    under all larger budgets and under budget 0. -/
theorem create_budget_monotone_panic (env : Env) (g : Grammar) (expr : GoString)
    (opts : List Opt) (h0 : 0 < (getOpts opts).maxExpressions)
    (hn : (getOpts opts).maxExpressions ≤ 2 ^ 64 - 1)
    (hp : createEvaluator env g expr opts = .panic) (n' : Nat)
    (hn' : n' = 0 ∨ (getOpts opts).maxExpressions ≤ n') (hle : n' ≤ 2 ^ 64 - 1) :
    createEvaluator env g expr (opts ++ [.maxExpressions n']) = .panic := by
  rw [create_eq_of_not_err env g expr opts h0 hn (by rw [hp]; exact fun h => nomatch h) n' hn' hle]
  exact hp

/-! ## Bounded work: the "adversarial input" corollary -/

/-- Under a positive budget `n` the single engine run that `createEvaluator` performs
    (`create_eq_ofRun`) executes at most `n + 1` parser steps, whatever the expression text. -/
theorem create_steps_le (env : Env) (g : Grammar) (expr : GoString) (opts : List Opt)
    (h0 : 0 < (getOpts opts).maxExpressions) :
    createEvaluator env g expr opts =
      ofRun (getOpts opts) expr (run env g (getOpts opts).maxExpressions expr) ∧
    (run env g (getOpts opts).maxExpressions expr).cnt ≤ (getOpts opts).maxExpressions + 1 :=
  ⟨rfl, C11.budget_steps_le env g expr _ h0⟩

/-- Below the threshold, creation is never `.ok` (nor `.panic`): it is `.err`, the run carries the
    max-expressions error and stopped after exactly `n + 1` steps. -/
theorem create_never_ok_below_threshold (env : Env) (g : Grammar) (expr : GoString)
    (opts : List Opt) (h0 : 0 < (getOpts opts).maxExpressions)
    (hlt : (getOpts opts).maxExpressions < (run env g 0 expr).cnt) :
    (∀ ev, createEvaluator env g expr opts ≠ .ok ev) ∧
    createEvaluator env g expr opts ≠ .panic ∧
    createEvaluator env g expr opts = .err ∧
    (∃ e ∈ (run env g (getOpts opts).maxExpressions expr).errs, e.kind = .maxExpr) ∧
    (run env g (getOpts opts).maxExpressions expr).cnt = (getOpts opts).maxExpressions + 1 := by
  have herr := create_err_below env g expr opts h0 hlt
  refine ⟨fun ev h => ?_, fun h => ?_, herr, (C11.budget_exact_lt env g expr _ h0 hlt).2⟩
  · rw [herr] at h; cases h
  · rw [herr] at h; cases h

theorem create_steps_eq_above_threshold (env : Env) (g : Grammar) (expr : GoString)
    (opts : List Opt) (hn : (getOpts opts).maxExpressions ≤ 2 ^ 64 - 1)
    (hN : (run env g 0 expr).cnt ≤ (getOpts opts).maxExpressions) :
    (run env g (getOpts opts).maxExpressions expr).cnt = (run env g 0 expr).cnt := by
  rw [C11.budget_exact_ge env g expr _ hN hn]

/-- The adversarial-input form: ONE bound for ALL expressions.  With `WithMaxExpressions(n)`,
    `n > 0`, as the last budget option, no expression text (however long or deeply nested) makes
    the creation run more than `n + 1` parser steps; and a successful creation never needed more
    than `n`. -/
theorem create_adversarial_bound (env : Env) (g : Grammar) (opts : List Opt) (n : Nat)
    (h0 : 0 < n) :
    ∀ expr : GoString,
      createEvaluator env g expr (opts ++ [.maxExpressions n]) =
        ofRun (getOpts (opts ++ [.maxExpressions n])) expr (run env g n expr) ∧
      (run env g n expr).cnt ≤ n + 1 ∧
      (createEvaluator env g expr (opts ++ [.maxExpressions n]) ≠ .err →
        (run env g n expr).cnt ≤ n) := by
  intro expr
  have hb := getOpts_append_budget_max opts n
  refine ⟨?_, C11.budget_steps_le env g expr n h0, fun hne => ?_⟩
  · rw [create_eq_ofRun, hb]
  · -- compare the effective budgets `n` and `n + 1`
    rw [Proofs.Budget.run_eq_runMax, C11.effectiveMax_pos h0]
    have hs := Proofs.Budget.runMax_sim env g n (n + 1) (by omega) expr
    by_cases hc : (Proofs.Budget.runMax env g (n + 1) expr).cnt ≤ n
    · rw [hs.1 hc]; exact hc
    · exfalso
      obtain ⟨_, ⟨e, he, _⟩, _⟩ := hs.2 (by omega)
      apply hne
      apply create_err_of_errs
      rw [hb, Proofs.Budget.run_eq_runMax, C11.effectiveMax_pos h0]
      exact ⟨e, he⟩

/-! ## Non-vacuity -/

namespace Example
open Bexpr.Props.C18 (gs toyTree toyEnv toyG)

/-! ### the toy grammar of `Props/C18.lean` (`Input <- {mk} ()`): `N = 2` -/

example : (run toyEnv toyG 0 (gs "x")).cnt = 2 := by decide

/-- `create_budget_exact` instantiated: budget 1 (< N = 2) fails … -/
example : createEvaluator toyEnv toyG (gs "x") [.tagName (gs "t"), .maxExpressions 1] = .err :=
  (create_budget_exact toyEnv toyG (gs "x") [.tagName (gs "t"), .maxExpressions 1]
    (by decide)).2 (by decide) (by decide)

/-- … and budget 2 (= N) is the unlimited result, which is `.ok`. -/
example : createEvaluator toyEnv toyG (gs "x") [.tagName (gs "t"), .maxExpressions 2] =
    createEvaluator toyEnv toyG (gs "x")
      ([.tagName (gs "t"), .maxExpressions 2] ++ [.maxExpressions 0]) :=
  (create_budget_exact toyEnv toyG (gs "x") [.tagName (gs "t"), .maxExpressions 2]
    (by decide)).1 (.inr (by decide))

example : ∃ ev, createEvaluator toyEnv toyG (gs "x") [.tagName (gs "t"), .maxExpressions 2] =
    .ok ev ∧ ev.ast = toyTree ∧ ev.tagName = gs "t" ∧ ev.expression = gs "x" :=
  ⟨_, rfl, rfl, rfl, rfl⟩

/-! ### a grammar whose step count depends on the input:
    `Input <- {mk} (S !.)`, `S <- "a" S / "a"` -/

def env : Env where
  action := fun _ _ _ => .ret (.expr toyTree) none
  pred := fun _ _ => .ret true none
  classIn := fun _ _ => some false

def g : Grammar :=
  [{ name := "Input", displayName := "",
     expr := .action "mk" (.seq [.ruleRef "S", .notP .any]) },
   { name := "S", displayName := "",
     expr := .choice [.seq [.lit [97] false, .ruleRef "S"], .lit [97] false] }]

def optsWith (n : Nat) : List Opt :=
  [.maxExpressions 1, .hookFn .unwrap, .maxExpressions n, .nilOpt, .tagName (gs "json")]

example (n : Nat) : (getOpts (optsWith n)).maxExpressions = n := rfl

/-- the thresholds: `N("aa") = 18`, `N("aaa") = 22` (grows with the input) -/
theorem N_aa : (run env g 0 (gs "aa")).cnt = 18 := by decide
theorem N_aaa : (run env g 0 (gs "aaa")).cnt = 22 := by decide

/-- `create_budget_exact`, second half, at `n = 17 = N - 1`: `.err` (as an instance of the theorem and by
    computation). -/
example : createEvaluator env g (gs "aa") (optsWith 17) = .err :=
  (create_budget_exact env g (gs "aa") (optsWith 17) (by decide)).2 (by decide)
    (by rw [N_aa]; decide)
example : createEvaluator env g (gs "aa") (optsWith 17) = .err := rfl
example : createEvaluator env g (gs "aa") (optsWith 1) = .err := rfl

/-- `create_budget_exact`, first half, at `n = 18 = N`: equal to the creation without budget, which is `.ok`. -/
example : createEvaluator env g (gs "aa") (optsWith 18) =
    createEvaluator env g (gs "aa") (optsWith 18 ++ [.maxExpressions 0]) :=
  (create_budget_exact env g (gs "aa") (optsWith 18) (by decide)).1
    (.inr (by rw [N_aa]; decide))

example : ∃ ev, createEvaluator env g (gs "aa") (optsWith 18) = .ok ev ∧
    ev.ast = toyTree ∧ ev.tagName = gs "json" ∧ ev.hook = .unwrap ∧ ev.unknown = none ∧
    ev.expression = gs "aa" := ⟨_, rfl, rfl, rfl, rfl, rfl, rfl⟩

/-- the budget that suffices for `"aa"` does not suffice for `"aaa"` -/
example : createEvaluator env g (gs "aaa") (optsWith 18) = .err := rfl
example : ∃ ev, createEvaluator env g (gs "aaa") (optsWith 22) = .ok ev ∧ ev.ast = toyTree :=
  ⟨_, rfl, rfl⟩

/-- `create_budget_monotone` (1) instantiated: `.ok` under 18 ⇒ the same evaluator under 1000 and under 0 -/
example : ∃ ev, createEvaluator env g (gs "aa") (optsWith 18) = .ok ev ∧
    createEvaluator env g (gs "aa") (optsWith 18 ++ [.maxExpressions 1000]) = .ok ev ∧
    createEvaluator env g (gs "aa") (optsWith 18 ++ [.maxExpressions 0]) = .ok ev :=
  ⟨_, rfl,
    (create_budget_monotone env g (gs "aa")).1 (optsWith 18) _ (by decide) (by decide) rfl 1000
      (.inr (by decide)) (by decide),
    (create_budget_monotone env g (gs "aa")).1 (optsWith 18) _ (by decide) (by decide) rfl 0
      (.inl rfl) (by decide)⟩

/-- `create_budget_monotone` (2) instantiated: `"ab"` is a syntax error without budget, hence under every budget -/
example : createEvaluator env g (gs "ab") [] = .err := rfl
example (n : Nat) (hn : n ≤ 2 ^ 64 - 1) : createEvaluator env g (gs "ab") (optsWith n) = .err :=
  (create_budget_monotone env g (gs "ab")).2 [] rfl rfl (optsWith n) hn

/-- `create_never_ok_below_threshold` instantiated: the run under budget 5 took exactly 6 = n + 1 steps -/
example : (run env g (getOpts (optsWith 5)).maxExpressions (gs "aaa")).cnt = 6 :=
  (create_never_ok_below_threshold env g (gs "aaa") (optsWith 5) (by decide)
    (by rw [show (getOpts (optsWith 5)).maxExpressions = 5 from rfl, N_aaa]; decide)).2.2.2.2

end Example

end Bexpr.Props.C11Create

#print axioms Bexpr.Props.C11Create.create_eq_ofRun
#print axioms Bexpr.Props.C11Create.getOpts_append_budget
#print axioms Bexpr.Props.C11Create.foldl_apply_forget_budget
#print axioms Bexpr.Props.C11Create.foldl_apply_filter_budget
#print axioms Bexpr.Props.C11Create.getOpts_budget_removed_eq_filter
#print axioms Bexpr.Props.C11Create.create_budget_removed_eq_filter
#print axioms Bexpr.Props.C11Create.create_congr_run
#print axioms Bexpr.Props.C11Create.create_err_of_errs
#print axioms Bexpr.Props.C11Create.create_err_iff
#print axioms Bexpr.Props.C11Create.create_budget_exact
#print axioms Bexpr.Props.C11Create.create_budget_threshold
#print axioms Bexpr.Props.C11Create.create_budget_threshold_filter
#print axioms Bexpr.Props.C11Create.create_budget_threshold_fields
#print axioms Bexpr.Props.C11Create.create_budget_threshold_explicit
#print axioms Bexpr.Props.C11Create.threshold_le_of_not_err
#print axioms Bexpr.Props.C11Create.create_budget_monotone
#print axioms Bexpr.Props.C11Create.create_budget_monotone_explicit
#print axioms Bexpr.Props.C11Create.create_budget_monotone_panic
#print axioms Bexpr.Props.C11Create.create_steps_le
#print axioms Bexpr.Props.C11Create.create_never_ok_below_threshold
#print axioms Bexpr.Props.C11Create.create_steps_eq_above_threshold
#print axioms Bexpr.Props.C11Create.create_adversarial_bound
#print axioms Bexpr.Props.C11Create.Example.N_aa
#print axioms Bexpr.Props.C11Create.Example.N_aaa
