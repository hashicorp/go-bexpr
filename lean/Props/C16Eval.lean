/-
  Property C16, last clause, END TO END:

    "… a quoted literal denotes exactly the Go string it spells
       (so `X == <quoted s>` is true of X = s for every string s)."

  `Props/C16.lean` proves the parsing half (the pinned grammar reads a rendered literal back as
  the string it spells), `Props/C02.lean` the evaluation half (`==` on a string value compares
  raw bytes); the lookup of `X` is unfolded here (`evaluate_litExpr`).  The halves are composed
  through the real entry
  points: `createEvaluator pinEnv pinGrammar text opts` (= `bexpr.CreateEvaluator`: runs the
  parser `Peg.run`, type-asserts the result, stores the options) and `Evaluator.evaluate`
  (= `(*Evaluator).Evaluate`).

  The text is `X == <literal>`: bytes `58 20 3D 3D 20` followed by the literal.  The datum is the
  Go value `map[string]interface{}{"X": t}` (`datumIface t`) or `map[string]string{"X": t}`
  (`datumStr t`), `t` an arbitrary byte string.

  PROVED
   (A) `quoted_literal_decides` — for EVERY byte string `s` (valid UTF-8 or not, empty or not)
       that does not start with `/`:  `CreateEvaluator("X == " + quoteX22 s)` (default options)
       returns an evaluator, and evaluating it on `{"X": t}` returns `s == t` (byte-wise), no
       error; its two halves: `quoted_literal_true` (`true` on `{"X": s}`) and
       `quoted_literal_false` (`false` on `{"X": t}`, `t ≠ s`).
   (B) `backquoted_literal_true` / `_false` / `_decides` — the same for ``X == `s` `` with `s` any
       valid UTF-8 string without backquote and `\r`; no restriction on a leading `/`, `s` may
       be empty.
   `quoted_literal_opts` / `backquoted_literal_opts` — the general form: every option list
       (any tag name, any unknown-value, a hook that does not replace values, any budget that
       allows the `N` steps of the parse), both datum shapes, every regexp engine.
   `quoted_literal_engine` / `backquoted_literal_engine` — the parser level: `Peg.run` returns
       exactly the tree `match(selector X, equal, raw s)`, no errors, after `N` steps, and
       `N ≤ 576 + 200·|s|` resp. `N ≤ 540 + 20·|s|` (`Proofs/C16EvalLemmas.lean` rebuilds the
       derivation of this text shape with sizes: 576 resp. 540 steps plus 20 per byte of the
       literal's body, which has at most 10 bytes per byte of `s`; on `s2`, `s3` of
       `Example.step_counts` the engine takes exactly that many).

  HYPOTHESES, and why each is needed
   1. `s.head? ≠ some 0x2F` in (A): restriction 2 of `Props/C16.lean`, a DEFECT of the
      grammar, not of the proof — `Value` tries `Selector` first, which reads `"/a"` as a JSON
      pointer, so `X == "/a"` compares with `a`: `Example.leading_slash_defect` shows
      `X == "/a"` evaluating to FALSE on `{"X": "/a"}` and to TRUE on `{"X": "a"}`.
      The other half of restriction 2 (non-empty body) is NOT needed here: `s = ""` is the
      single text `X == ""`, settled by running the engine (`empty_run`).
      No such hypothesis in (B).
   2. `s.length < 2^56` in (A), `s.length < 2^59` in (B) — 64 PiB resp. 512 PiB, more than a
      Go string can hold on any existing machine; it is a hypothesis only because the MODEL of
      pigeon's `newParser` turns the budget `0` ("unlimited") into `math.MaxUint64`
      (`Peg.effectiveMax`), so a parse of more than `2^64 - 1` expression evaluations ends in
      the max-expressions error also without any `MaxExpressions` option, and the parse of
      `X == "body"` takes at most `576 + 20·|body|` steps, `|body| ≤ 10·|s|` (proved; on the
      instances of `Example.step_counts` it takes exactly `576 + 20·(runes of body)`), so SOME
      bound on the length is unavoidable.  The hypothesis that is EXACTLY needed is `Fits text` (the unlimited parse takes fewer than `2^64` steps): the `_of_fits`
      forms assume only that, `fits_necessary` shows that it holds whenever `CreateEvaluator`
      (default options) returns an evaluator at all, `fits_quoted` / `fits_backquoted` derive
      it from the length bound.  The `_opts` / `_engine` forms have no such hypothesis: they
      speak about every budget `n` with `N ≤ effectiveMax n`.
   3. (B) `Utf8.validString s`, no byte `0x60`, no byte `0x0D`: the parser rejects invalid
      UTF-8 (`C16.Example.invalid_byte_rejected`), a backquote ends the literal, and Go drops
      `\r` from raw string literals.
   4. `PlainHook` in the `_opts` forms: the value-transformation hook of the options must not
      replace the value looked up (`off`, `identity`, `unwrap` of the harness family; `const42`
      and `nilret` do).  The default options have no hook.

  Nothing else is assumed; in particular nothing about `s` being ASCII, printable or valid
  UTF-8 in (A).
-/
import Props.C16
import Props.C02
import Props.C11
import Proofs.C16EvalLemmas

namespace Bexpr.Props.C16Eval
open Bexpr Bexpr.Go Bexpr.Eval Bexpr.Peg Bexpr.Driver Bexpr.Proofs.RoundTrip
open Bexpr.Proofs.C16Eval Bexpr.Proofs.C16Steps

/-! ## 0. The objects of the statements -/

/-- the text `X == "…"` with the renderer's double-quoted literal for `s` -/
def textDQ (s : GoString) : GoString := [0x58, 0x20, 0x3D, 0x3D, 0x20] ++ Strconv.quoteX22 s

/-- the text ``X == `s` `` -/
def textBQ (s : GoString) : GoString := [0x58, 0x20, 0x3D, 0x3D, 0x20] ++ ([0x60] ++ (s ++ [0x60]))

/-- the tree: a match expression, selector `X` (bexpr spelling, one segment), operator equal,
    value with `Raw = s` -/
def litExpr (s : GoString) : Expr := .match_ ⟨.bexpr, [[0x58]]⟩ .equal (some s)

/-- `map[string]interface{}{"X": t}` with `t` a Go `string` holding exactly the bytes `t` -/
def datumIface (t : GoString) : Any :=
  some (.map "" GoType.stringT .iface false [(.str "" [0x58], .iface (some (.str "" t)))])

/-- `map[string]string{"X": t}` -/
def datumStr (t : GoString) : Any :=
  some (.map "" GoType.stringT GoType.stringT false [(.str "" [0x58], .str "" t)])

/-- hooks that hand on the value they are given -/
def PlainHook (h : Hook) : Prop := h = .off ∨ h = .identity ∨ h = .unwrap

/-- the unlimited parse (`MaxExpressions` unset = `math.MaxUint64`) does not hit the limit -/
def Fits (text : GoString) : Prop := (run pinEnv pinGrammar 0 text).cnt < 2 ^ 64

theorem datum_wf (t : GoString) : Any.wf (datumIface t) = true ∧ Any.wf (datumStr t) = true := by
  constructor <;>
  simp [Any.wf, datumIface, datumStr, GoVal.kind, GoVal.wf, wfEntries, GoVal.typeOf,
    GoType.stringT] <;> decide

/-! ## 1. Evaluation of the tree `X == raw s` -/

/-- a plain hook hands on the string found under `X`, boxed in an interface or not -/
theorem applyHook_plain {hook : Hook} (hh : PlainHook hook) (tag t : GoString) :
    getStep.applyHook { tagName := tag, hook := hook } (.ok (some (.str "" t))) =
      .ok (some (.str "" t)) ∧
    getStep.applyHook { tagName := tag, hook := hook } (.ok (some (.iface (some (.str "" t))))) =
      .ok (some (.iface (some (.str "" t)))) := by
  rcases hh with rfl | rfl | rfl <;> exact ⟨rfl, rfl⟩

/-- On `{"X": t}` the tree `X == raw s` evaluates to `s == t` (byte-wise), without error,
    under any tag name, unknown-value and plain hook, with any regexp engine. -/
theorem evaluate_litExpr (re : RegexOracle) (s t tag : GoString) (hook : Hook)
    (hh : PlainHook hook) (unknown : Option Any) :
    Eval.evaluate re (litExpr s)
      { tagName := tag, hook := hook, unknown := unknown, locals := [] } (datumIface t) =
        .val (s == t) ∧
    Eval.evaluate re (litExpr s)
      { tagName := tag, hook := hook, unknown := unknown, locals := [] } (datumStr t) =
        .val (s == t) := by
  -- the lookup of `X` in the one-entry map finds `t`, the plain hook hands it on, and `==` on a
  -- string is `C02.eq_string_spec`; the rest unfolds the path from `evaluate` to `getMap`
  have ha := applyHook_plain hh tag t
  simp [Eval.evaluate, litExpr, datumIface, datumStr, evaluateMatch, getValue, resolveLocals,
    Go.get, getLoop, getStep, unwrapForStep, unwrapIfaceV, unwrapPtrV, valueOf, getMap,
    coerceKey, GoType.stringT, fkeyEq, keyEq, keyEqV, unboxKey, Opts.cfg, GoVal.toAny, ha.1, ha.2,
    narrowJsonNumber, indirect, Props.C02.eq_string_spec]

/-! ## 2. The parser level -/

namespace Example

/-- `a"b\c é` — a double quote, a backslash, a blank, a two-byte rune -/
def s1 : GoString := [0x61, 0x22, 0x62, 0x5C, 0x63, 0x20, 0xC3, 0xA9]
/-- invalid UTF-8: `0xFF`, then `a` -/
def s2 : GoString := [0xFF, 0x61]
/-- control bytes, a surrogate half's encoding (invalid), a non-printable rune, `/` inside -/
def s3 : GoString := [0x00, 0x0A, 0xED, 0xA0, 0x80, 0xE2, 0x80, 0x8B, 0x2F]

end Example

/-- Every run of the engine this file relies on: `X == ""` (needed for (A), see `empty_run`),
    `X == "/a"` and the texts of `Example`.  They stand in one statement because the kernel
    shares the grammar's rule lookups between runs only inside one declaration. -/
theorem engine_runs :
    ((run pinEnv pinGrammar 0 (textDQ [])).cnt = 420 ∧
      (run pinEnv pinGrammar 0 (textDQ [])).errs = [] ∧
      C16.Example.valExpr (run pinEnv pinGrammar 0 (textDQ [])).val = some (litExpr [])) ∧
    ((run pinEnv pinGrammar 0 (textDQ [0x2F, 0x61])).errs = [] ∧
      C16.Example.valExpr (run pinEnv pinGrammar 0 (textDQ [0x2F, 0x61])).val =
        some (litExpr [0x61])) ∧
    (run pinEnv pinGrammar 0 (textDQ Example.s1)).cnt = 576 + 20 * 11 ∧
    (run pinEnv pinGrammar 0 (textDQ Example.s2)).cnt = 576 + 20 * 5 ∧
    (run pinEnv pinGrammar 0 (textDQ Example.s3)).cnt = 576 + 20 * 25 ∧
    (run pinEnv pinGrammar 0 (textBQ Example.s1)).cnt = 540 + 20 * 7 ∧
    (run pinEnv pinGrammar 0 (textBQ [])).cnt = 540 := by
  decide +kernel

/-- `X == ""` (the one text excluded by restriction 2 of `Props/C16.lean` that is needed here),
    by running the engine: accepted after 420 steps, with the tree `X == raw ""`. -/
theorem empty_run :
    (run pinEnv pinGrammar 0 (textDQ [])).cnt = 420 ∧
    (run pinEnv pinGrammar 0 (textDQ [])).errs = [] ∧
    C16.Example.valExpr (run pinEnv pinGrammar 0 (textDQ [])).val = some (litExpr []) :=
  engine_runs.1

theorem empty_steps : AcceptsIn pinEnv pinGrammar (textDQ []) (.expr (litExpr [])) 420 := by
  have h := (acceptsIn_of_run empty_run.2.1 empty_run.2.2).1
  rwa [empty_run.1] at h

theorem quoted_literal_steps (s : GoString) (hsl : s.head? ≠ some 0x2F) :
    ∃ N, N ≤ 576 + 200 * s.length ∧
      AcceptsIn pinEnv pinGrammar (textDQ s) (.expr (litExpr s)) N := by
  by_cases hne : s = []
  · subst hne; exact ⟨420, by decide, empty_steps⟩
  · obtain ⟨body, hq, hhead⟩ := quoteX22_body_head s hne hsl
    exact acceptsIn_bound_quoteX22 s body hq hhead

theorem backquoted_literal_steps (s : GoString) (hs : Utf8.validString s = true)
    (hnq : ∀ c ∈ s, c ≠ 0x60 ∧ c ≠ 0x0D) :
    ∃ N, N ≤ 540 + 20 * s.length ∧
      AcceptsIn pinEnv pinGrammar (textBQ s) (.expr (litExpr s)) N :=
  acceptsIn_bound_backtick s hs hnq

theorem quoted_literal_accepts (s : GoString) (hsl : s.head? ≠ some 0x2F) :
    Accepts pinEnv pinGrammar (textDQ s) (.expr (litExpr s)) := by
  obtain ⟨N, _, hN⟩ := quoted_literal_steps s hsl
  exact (C15.accepts_iff_acceptsIn _ _ _ _).2 ⟨N, hN⟩

theorem backquoted_literal_accepts (s : GoString) (hs : Utf8.validString s = true)
    (hnq : ∀ c ∈ s, c ≠ 0x60 ∧ c ≠ 0x0D) :
    Accepts pinEnv pinGrammar (textBQ s) (.expr (litExpr s)) := by
  obtain ⟨N, _, hN⟩ := backquoted_literal_steps s hs hnq
  exact (C15.accepts_iff_acceptsIn _ _ _ _).2 ⟨N, hN⟩

/-- Engine level: `Peg.run` (= pigeon's `Parse`) returns the tree, no errors, after exactly `N`
    steps, for every budget `n` that allows `N` (`n = 0` is `math.MaxUint64`). -/
theorem quoted_literal_engine (s : GoString) (hsl : s.head? ≠ some 0x2F) :
    ∃ N, N ≤ 576 + 200 * s.length ∧
      AcceptsIn pinEnv pinGrammar (textDQ s) (.expr (litExpr s)) N ∧
      ∀ n, N ≤ effectiveMax n →
        run pinEnv pinGrammar n (textDQ s) = { val := .expr (litExpr s), errs := [], cnt := N } := by
  obtain ⟨N, hb, hN⟩ := quoted_literal_steps s hsl
  exact ⟨N, hb, hN, fun n hn => C15.run_of_acceptsIn pinEnv pinGrammar n _ hN hn⟩

theorem backquoted_literal_engine (s : GoString) (hs : Utf8.validString s = true)
    (hnq : ∀ c ∈ s, c ≠ 0x60 ∧ c ≠ 0x0D) :
    ∃ N, N ≤ 540 + 20 * s.length ∧
      AcceptsIn pinEnv pinGrammar (textBQ s) (.expr (litExpr s)) N ∧
      ∀ n, N ≤ effectiveMax n →
        run pinEnv pinGrammar n (textBQ s) = { val := .expr (litExpr s), errs := [], cnt := N } := by
  obtain ⟨N, hb, hN⟩ := backquoted_literal_steps s hs hnq
  exact ⟨N, hb, hN, fun n hn => C15.run_of_acceptsIn pinEnv pinGrammar n _ hN hn⟩

/-! ## 3. End to end, every option list -/

theorem endToEnd_of_acceptsIn {text s : GoString} {N : Nat}
    (h : AcceptsIn pinEnv pinGrammar text (.expr (litExpr s)) N) (opts : List Opt)
    (hN : N ≤ effectiveMax (getOpts opts).maxExpressions) (hh : PlainHook (getOpts opts).hook) :
    ∃ ev, createEvaluator pinEnv pinGrammar text opts = .ok ev ∧ ev.ast = litExpr s ∧
      ∀ (re : RegexOracle) (t : GoString),
        ev.evaluate re (datumIface t) = .val (s == t) ∧
        ev.evaluate re (datumStr t) = .val (s == t) :=
  ⟨_, create_of_acceptsIn h opts hN, rfl, fun re t => evaluate_litExpr re s t _ _ hh _⟩

/-- **General form of (A)**: every option list whose budget allows the `N` parser steps of
    the text and whose hook is plain. -/
theorem quoted_literal_opts (s : GoString) (hsl : s.head? ≠ some 0x2F) :
    ∃ N, N ≤ 576 + 200 * s.length ∧
      AcceptsIn pinEnv pinGrammar (textDQ s) (.expr (litExpr s)) N ∧
      ∀ opts : List Opt, N ≤ effectiveMax (getOpts opts).maxExpressions →
        PlainHook (getOpts opts).hook →
        ∃ ev, createEvaluator pinEnv pinGrammar (textDQ s) opts = .ok ev ∧ ev.ast = litExpr s ∧
          ∀ (re : RegexOracle) (t : GoString),
            ev.evaluate re (datumIface t) = .val (s == t) ∧
            ev.evaluate re (datumStr t) = .val (s == t) := by
  obtain ⟨N, hb, hN⟩ := quoted_literal_steps s hsl
  exact ⟨N, hb, hN, fun opts hb hh => endToEnd_of_acceptsIn hN opts hb hh⟩

theorem backquoted_literal_opts (s : GoString) (hs : Utf8.validString s = true)
    (hnq : ∀ c ∈ s, c ≠ 0x60 ∧ c ≠ 0x0D) :
    ∃ N, N ≤ 540 + 20 * s.length ∧
      AcceptsIn pinEnv pinGrammar (textBQ s) (.expr (litExpr s)) N ∧
      ∀ opts : List Opt, N ≤ effectiveMax (getOpts opts).maxExpressions →
        PlainHook (getOpts opts).hook →
        ∃ ev, createEvaluator pinEnv pinGrammar (textBQ s) opts = .ok ev ∧ ev.ast = litExpr s ∧
          ∀ (re : RegexOracle) (t : GoString),
            ev.evaluate re (datumIface t) = .val (s == t) ∧
            ev.evaluate re (datumStr t) = .val (s == t) := by
  obtain ⟨N, hb, hN⟩ := backquoted_literal_steps s hs hnq
  exact ⟨N, hb, hN, fun opts hb hh => endToEnd_of_acceptsIn hN opts hb hh⟩

/-! ## 4. The budget of the default options -/

theorem fits_of_cnt {text : GoString} {n : Nat} (h : (run pinEnv pinGrammar 0 text).cnt = n)
    (hn : n < 2 ^ 64) : Fits text := by
  rw [Fits, h]
  exact hn

theorem fits_of_acceptsIn {text : GoString} {v : PVal} {N : Nat}
    (h : AcceptsIn pinEnv pinGrammar text v N) (hN : N < 2 ^ 64) : Fits text := by
  unfold Fits
  rw [C15.run_of_acceptsIn pinEnv pinGrammar 0 text h (by rw [C11.effectiveMax_zero]; omega)]
  exact hN

theorem fits_quoted (s : GoString) (hsl : s.head? ≠ some 0x2F) (hlen : s.length < 2 ^ 56) :
    Fits (textDQ s) := by
  obtain ⟨N, hb, hN⟩ := quoted_literal_steps s hsl
  exact fits_of_acceptsIn hN (by omega)

theorem fits_backquoted (s : GoString) (hs : Utf8.validString s = true)
    (hnq : ∀ c ∈ s, c ≠ 0x60 ∧ c ≠ 0x0D) (hlen : s.length < 2 ^ 59) : Fits (textBQ s) := by
  obtain ⟨N, hb, hN⟩ := backquoted_literal_steps s hs hnq
  exact fits_of_acceptsIn hN (by omega)

/-- Whenever `CreateEvaluator` with the default options returns an evaluator — for ANY text —
    the unlimited parse stayed below the `2^64` limit: `Fits` is necessary. -/
theorem fits_necessary (text : GoString) (ev : Evaluator)
    (h : createEvaluator pinEnv pinGrammar text [] = .ok ev) : Fits text := by
  have hacc : (run pinEnv pinGrammar 0 text).accepted = true := by
    have h0 : (getOpts []).maxExpressions = 0 := rfl
    simp only [createEvaluator, h0] at h
    cases hc : (run pinEnv pinGrammar 0 text).accepted with
    | true => rfl
    | false => simp [hc] at h
  have := (acceptsIn_of_accepted hacc).2
  rw [C11.effectiveMax_zero] at this
  unfold Fits
  omega

instance (text : GoString) : Decidable (Fits text) := by unfold Fits; infer_instance

/-! ## 5. End to end, default options -/

theorem quoted_literal_decides_of_fits (s : GoString) (hsl : s.head? ≠ some 0x2F)
    (hfit : Fits (textDQ s)) :
    ∃ ev, createEvaluator pinEnv pinGrammar (textDQ s) [] = .ok ev ∧
      ∀ (re : RegexOracle) (t : GoString),
        ev.evaluate re (datumIface t) = .val (s == t) ∧
        ev.evaluate re (datumStr t) = .val (s == t) := by
  obtain ⟨N, _, hN⟩ := quoted_literal_steps s hsl
  obtain ⟨ev, hev, _, he⟩ := endToEnd_of_acceptsIn hN [] (le_of_cnt_lt hN hfit) (.inl rfl)
  exact ⟨ev, hev, he⟩

theorem backquoted_literal_decides_of_fits (s : GoString) (hs : Utf8.validString s = true)
    (hnq : ∀ c ∈ s, c ≠ 0x60 ∧ c ≠ 0x0D) (hfit : Fits (textBQ s)) :
    ∃ ev, createEvaluator pinEnv pinGrammar (textBQ s) [] = .ok ev ∧
      ∀ (re : RegexOracle) (t : GoString),
        ev.evaluate re (datumIface t) = .val (s == t) ∧
        ev.evaluate re (datumStr t) = .val (s == t) := by
  obtain ⟨N, _, hN⟩ := backquoted_literal_steps s hs hnq
  obtain ⟨ev, hev, _, he⟩ := endToEnd_of_acceptsIn hN [] (le_of_cnt_lt hN hfit) (.inl rfl)
  exact ⟨ev, hev, he⟩

theorem quoted_literal_decides (s : GoString) (hsl : s.head? ≠ some 0x2F)
    (hlen : s.length < 2 ^ 56) :
    ∃ ev, createEvaluator pinEnv pinGrammar (textDQ s) [] = .ok ev ∧
      ∀ (re : RegexOracle) (t : GoString),
        ev.evaluate re (datumIface t) = .val (s == t) ∧
        ev.evaluate re (datumStr t) = .val (s == t) :=
  quoted_literal_decides_of_fits s hsl (fits_quoted s hsl hlen)

/-- **(A), first half: a quoted literal denotes exactly the Go string it spells.**  For every byte string `s`
    not starting with `/` (of fewer than `2^56` bytes): `CreateEvaluator("X == " + quoteX22 s)`
    succeeds and the evaluator returns `true`, no error, on `map[string]interface{}{"X": s}` and
    on `map[string]string{"X": s}`. -/
theorem quoted_literal_true (s : GoString) (hsl : s.head? ≠ some 0x2F) (hlen : s.length < 2 ^ 56) :
    ∃ ev, createEvaluator pinEnv pinGrammar (textDQ s) [] = .ok ev ∧
      ∀ re : RegexOracle,
        ev.evaluate re (datumIface s) = .val true ∧ ev.evaluate re (datumStr s) = .val true := by
  obtain ⟨ev, hev, he⟩ := quoted_literal_decides s hsl hlen
  exact ⟨ev, hev, fun re => by simpa using he re s⟩

/-- **(A), second half: and no other string.**  Under the same hypotheses, for every string value
    `t ≠ s` the evaluator returns `false`, no error, on `{"X": t}`. -/
theorem quoted_literal_false (s : GoString) (hsl : s.head? ≠ some 0x2F) (hlen : s.length < 2 ^ 56) :
    ∃ ev, createEvaluator pinEnv pinGrammar (textDQ s) [] = .ok ev ∧
      ∀ (re : RegexOracle) (t : GoString), t ≠ s →
        ev.evaluate re (datumIface t) = .val false ∧ ev.evaluate re (datumStr t) = .val false := by
  obtain ⟨ev, hev, he⟩ := quoted_literal_decides s hsl hlen
  exact ⟨ev, hev, fun re t hts => beq_eq_false_iff_ne.2 (Ne.symm hts) ▸ he re t⟩

theorem backquoted_literal_decides (s : GoString) (hs : Utf8.validString s = true)
    (hnq : ∀ c ∈ s, c ≠ 0x60 ∧ c ≠ 0x0D) (hlen : s.length < 2 ^ 59) :
    ∃ ev, createEvaluator pinEnv pinGrammar (textBQ s) [] = .ok ev ∧
      ∀ (re : RegexOracle) (t : GoString),
        ev.evaluate re (datumIface t) = .val (s == t) ∧
        ev.evaluate re (datumStr t) = .val (s == t) :=
  backquoted_literal_decides_of_fits s hs hnq (fits_backquoted s hs hnq hlen)

/-- **(B) The backquoted literal.**  For every valid UTF-8 string `s` without backquote and
    `\r` (a leading `/` and the empty string included; fewer than `2^59` bytes):
    ``CreateEvaluator("X == `" + s + "`")`` succeeds and the evaluator returns `true`, no error,
    on `{"X": s}`. -/
theorem backquoted_literal_true (s : GoString) (hs : Utf8.validString s = true)
    (hnq : ∀ c ∈ s, c ≠ 0x60 ∧ c ≠ 0x0D) (hlen : s.length < 2 ^ 59) :
    ∃ ev, createEvaluator pinEnv pinGrammar (textBQ s) [] = .ok ev ∧
      ∀ re : RegexOracle,
        ev.evaluate re (datumIface s) = .val true ∧ ev.evaluate re (datumStr s) = .val true := by
  obtain ⟨ev, hev, he⟩ := backquoted_literal_decides s hs hnq hlen
  exact ⟨ev, hev, fun re => by simpa using he re s⟩

theorem backquoted_literal_false (s : GoString) (hs : Utf8.validString s = true)
    (hnq : ∀ c ∈ s, c ≠ 0x60 ∧ c ≠ 0x0D) (hlen : s.length < 2 ^ 59) :
    ∃ ev, createEvaluator pinEnv pinGrammar (textBQ s) [] = .ok ev ∧
      ∀ (re : RegexOracle) (t : GoString), t ≠ s →
        ev.evaluate re (datumIface t) = .val false ∧ ev.evaluate re (datumStr t) = .val false := by
  obtain ⟨ev, hev, he⟩ := backquoted_literal_decides s hs hnq hlen
  exact ⟨ev, hev, fun re t hts => beq_eq_false_iff_ne.2 (Ne.symm hts) ▸ he re t⟩

/-! ## 6. Non-vacuity: the hypotheses are satisfiable, the theorems apply -/

namespace Example

/-- what the renderer writes: `X == "a\x22b\\c é"`, `X == "\xffa"` -/
theorem texts :
    textDQ s1 = [0x58, 0x20, 0x3D, 0x3D, 0x20, 0x22, 0x61, 0x5C, 0x78, 0x32, 0x32, 0x62, 0x5C, 0x5C,
      0x63, 0x20, 0xC3, 0xA9, 0x22] ∧
    textDQ s2 = [0x58, 0x20, 0x3D, 0x3D, 0x20, 0x22, 0x5C, 0x78, 0x66, 0x66, 0x61, 0x22] := by
  decide +kernel

/-- the step counts, by running the engine: 576 + 20 per rune of the body `a\x22b\\c é`
    (11 runes, 12 bytes), `\xffa` (5), `\x00\n\xed\xa0\x80\u200b/` (25); 420 for `X == ""` (read as
    the empty JSON pointer); 540 + 20 per rune for ``X == `a"b\c é` `` (7 runes).  For `s2` and
    `s3` (bodies of one-byte runes) the bound `576 + 20·|body|` of `Proofs/C16EvalLemmas.lean` is
    attained. -/
theorem step_counts :
    (run pinEnv pinGrammar 0 (textDQ s1)).cnt = 576 + 20 * 11 ∧
    (run pinEnv pinGrammar 0 (textDQ s2)).cnt = 576 + 20 * 5 ∧
    (run pinEnv pinGrammar 0 (textDQ s3)).cnt = 576 + 20 * 25 ∧
    (run pinEnv pinGrammar 0 (textDQ [])).cnt = 420 ∧
    (run pinEnv pinGrammar 0 (textBQ s1)).cnt = 540 + 20 * 7 ∧
    (run pinEnv pinGrammar 0 (textBQ [])).cnt = 540 :=
  have ⟨_, _, h1, h2, h3, h4, h5⟩ := engine_runs
  ⟨h1, h2, h3, empty_run.1, h4, h5⟩

/-- (A) applies to `a"b\c é`, -/
example : ∃ ev, createEvaluator pinEnv pinGrammar (textDQ s1) [] = .ok ev ∧
    ∀ re : RegexOracle,
      ev.evaluate re (datumIface s1) = .val true ∧ ev.evaluate re (datumStr s1) = .val true :=
  quoted_literal_true s1 (by decide) (by decide)

/-- (A) applies to a string that is not valid UTF-8, -/
example : ∃ ev, createEvaluator pinEnv pinGrammar (textDQ s2) [] = .ok ev ∧
    ∀ re : RegexOracle,
      ev.evaluate re (datumIface s2) = .val true ∧ ev.evaluate re (datumStr s2) = .val true :=
  quoted_literal_true s2 (by decide) (by decide)

/-- (A) applies to control bytes, invalid sequences and non-printable runes, -/
example : ∃ ev, createEvaluator pinEnv pinGrammar (textDQ s3) [] = .ok ev ∧
    ∀ re : RegexOracle,
      ev.evaluate re (datumIface s3) = .val true ∧ ev.evaluate re (datumStr s3) = .val true :=
  quoted_literal_true s3 (by decide) (by decide)

/-- (A) applies to the empty string. -/
example : ∃ ev, createEvaluator pinEnv pinGrammar (textDQ []) [] = .ok ev ∧
    ∀ re : RegexOracle,
      ev.evaluate re (datumIface []) = .val true ∧ ev.evaluate re (datumStr []) = .val true :=
  quoted_literal_true [] (by decide) (by decide)

/-- (A), second half: `X == "\xffa"` is false of `X = "\xff"`, of `X = "a"`, of `X = "�a"`. -/
example : ∃ ev, createEvaluator pinEnv pinGrammar (textDQ s2) [] = .ok ev ∧
    ∀ re : RegexOracle, ev.evaluate re (datumIface [0xFF]) = .val false ∧
      ev.evaluate re (datumStr [0x61]) = .val false ∧
      ev.evaluate re (datumIface [0xEF, 0xBF, 0xBD, 0x61]) = .val false := by
  obtain ⟨ev, hev, he⟩ := quoted_literal_false s2 (by decide) (by decide)
  exact ⟨ev, hev, fun re => ⟨(he re _ (by decide)).1, (he re _ (by decide)).2,
    (he re _ (by decide)).1⟩⟩

/-- `/usr/bin` -/
def s4 : GoString := [0x2F, 0x75, 0x73, 0x72, 0x2F, 0x62, 0x69, 0x6E]

/-- (B) applies to ``X == `/usr/bin` `` (a leading `/` is fine between backquotes), -/
example : ∃ ev, createEvaluator pinEnv pinGrammar (textBQ s4) [] = .ok ev ∧
    ∀ re : RegexOracle,
      ev.evaluate re (datumIface s4) = .val true ∧ ev.evaluate re (datumStr s4) = .val true :=
  backquoted_literal_true s4 (by decide +kernel) (by decide) (by decide)

/-- (B) applies to ``X == `` ``, -/
example : ∃ ev, createEvaluator pinEnv pinGrammar (textBQ []) [] = .ok ev ∧
    ∀ re : RegexOracle,
      ev.evaluate re (datumIface []) = .val true ∧ ev.evaluate re (datumStr []) = .val true :=
  backquoted_literal_true [] (by decide +kernel) (by decide) (by decide)

/-- (B) applies to ``X == `é"\` `` (no escapes between backquotes). -/
example : ∃ ev, createEvaluator pinEnv pinGrammar (textBQ [0xC3, 0xA9, 0x22, 0x5C]) [] = .ok ev ∧
    ∀ re : RegexOracle,
      ev.evaluate re (datumIface [0xC3, 0xA9, 0x22, 0x5C]) = .val true ∧
      ev.evaluate re (datumStr [0xC3, 0xA9, 0x22, 0x5C]) = .val true :=
  backquoted_literal_true _ (by decide +kernel) (by decide) (by decide)

theorem steps_s1 :
    AcceptsIn pinEnv pinGrammar (textDQ s1) (.expr (litExpr s1)) (576 + 20 * 11) := by
  obtain ⟨N, _, hN⟩ := quoted_literal_steps s1 (by decide)
  have hfit : (run pinEnv pinGrammar 0 (textDQ s1)).cnt ≤ effectiveMax 0 := by
    rw [step_counts.1]
    decide
  rwa [← cnt_of_acceptsIn hN hfit, step_counts.1] at hN

/-- The `_of_fits` form, its hypothesis discharged by running the engine. -/
example : ∃ ev, createEvaluator pinEnv pinGrammar (textDQ s1) [] = .ok ev ∧
    ∀ (re : RegexOracle) (t : GoString), ev.evaluate re (datumIface t) = .val (s1 == t) ∧
      ev.evaluate re (datumStr t) = .val (s1 == t) :=
  quoted_literal_decides_of_fits s1 (by decide) (fits_of_acceptsIn steps_s1 (by decide))

/-- The general form with a budget: `MaxExpressions(1000)` allows the 796 steps of
    `X == "a\x22b\\c é"`, a tag name and an unknown-value do not matter. -/
example : ∃ ev, createEvaluator pinEnv pinGrammar (textDQ s1)
      [.maxExpressions 1000, .tagName [0x6A], .unknownValue none, .hookFn .identity] = .ok ev ∧
    ∀ re : RegexOracle, ev.evaluate re (datumIface s1) = .val true := by
  obtain ⟨N, _, hN, h⟩ := quoted_literal_opts s1 (by decide)
  obtain rfl := (C15.acceptsIn_unique _ _ _ hN steps_s1).2
  obtain ⟨ev, hev, _, he⟩ := h [.maxExpressions 1000, .tagName [0x6A], .unknownValue none,
    .hookFn .identity] (by decide) (.inr (.inl rfl))
  exact ⟨ev, hev, fun re => by simpa using (he re s1).1⟩

/-- `MaxExpressions(795)` does not allow them: the same text is an error. -/
example : createEvaluator pinEnv pinGrammar (textDQ s1) [.maxExpressions 795] = .err :=
  create_err_of_acceptsIn steps_s1 _ (by decide)

/-- the tree of `X == "/a"`: its value is `a`, not `/a` -/
theorem leading_slash_tree :
    (run pinEnv pinGrammar 0 (textDQ [0x2F, 0x61])).errs = [] ∧
    C16.Example.valExpr (run pinEnv pinGrammar 0 (textDQ [0x2F, 0x61])).val =
      some (litExpr [0x61]) :=
  engine_runs.2.1

/-- **Hypothesis 1 is needed** (the `"/usr/bin"` finding): the evaluator created from
    `X == "/a"` = `X == <quoteX22 "/a">` returns FALSE on `{"X": "/a"}` and TRUE on
    `{"X": "a"}`. -/
theorem leading_slash_defect :
    ∃ ev, createEvaluator pinEnv pinGrammar (textDQ [0x2F, 0x61]) [] = .ok ev ∧
      ∀ re : RegexOracle, ev.evaluate re (datumIface [0x2F, 0x61]) = .val false ∧
        ev.evaluate re (datumIface [0x61]) = .val true := by
  obtain ⟨hN, hb⟩ := acceptsIn_of_run leading_slash_tree.1 leading_slash_tree.2
  obtain ⟨ev, hev, _, he⟩ := endToEnd_of_acceptsIn hN [] hb (.inl rfl)
  exact ⟨ev, hev, fun re => ⟨(he re _).1, (he re _).1⟩⟩

end Example

end Bexpr.Props.C16Eval

#print axioms Bexpr.Props.C16Eval.datum_wf
#print axioms Bexpr.Props.C16Eval.evaluate_litExpr
#print axioms Bexpr.Props.C16Eval.empty_run
#print axioms Bexpr.Props.C16Eval.empty_steps
#print axioms Bexpr.Props.C16Eval.quoted_literal_steps
#print axioms Bexpr.Props.C16Eval.backquoted_literal_steps
#print axioms Bexpr.Props.C16Eval.quoted_literal_accepts
#print axioms Bexpr.Props.C16Eval.backquoted_literal_accepts
#print axioms Bexpr.Props.C16Eval.quoted_literal_engine
#print axioms Bexpr.Props.C16Eval.backquoted_literal_engine
#print axioms Bexpr.Props.C16Eval.endToEnd_of_acceptsIn
#print axioms Bexpr.Props.C16Eval.quoted_literal_opts
#print axioms Bexpr.Props.C16Eval.backquoted_literal_opts
#print axioms Bexpr.Props.C16Eval.fits_quoted
#print axioms Bexpr.Props.C16Eval.fits_backquoted
#print axioms Bexpr.Props.C16Eval.fits_necessary
#print axioms Bexpr.Props.C16Eval.quoted_literal_decides_of_fits
#print axioms Bexpr.Props.C16Eval.backquoted_literal_decides_of_fits
#print axioms Bexpr.Props.C16Eval.quoted_literal_decides
#print axioms Bexpr.Props.C16Eval.quoted_literal_true
#print axioms Bexpr.Props.C16Eval.quoted_literal_false
#print axioms Bexpr.Props.C16Eval.backquoted_literal_decides
#print axioms Bexpr.Props.C16Eval.backquoted_literal_true
#print axioms Bexpr.Props.C16Eval.backquoted_literal_false
#print axioms Bexpr.Props.C16Eval.Example.texts
#print axioms Bexpr.Props.C16Eval.Example.step_counts
#print axioms Bexpr.Props.C16Eval.Example.leading_slash_tree
#print axioms Bexpr.Props.C16Eval.Example.leading_slash_defect
