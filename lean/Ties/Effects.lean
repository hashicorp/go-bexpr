/-
  Tie (C12): every statement that can write non-local memory in a function reachable from
  `(*Evaluator).Evaluate` / `(*Filter).Execute` — as extracted from /repo on this run — has a
  class that `Bexpr/Eval/Effects.lean` explains to be call-local (`isLocalSite`: memory held by a
  fresh local, an Option setter writing the options struct of `getOpts`, a field of a by-value
  parameter), every
  appended-to slice there has fresh origins only, there are no package-level variables written, no
  goroutines / channels / sync, and the one AST write (`precompileRegexps`) is reachable from
  creation only.  The classes are computed by xlate (facts_effects.go); the source text of a site is
  not compared.
-/
import BexprGen.Effects
import Bexpr.Eval.Effects

namespace Bexpr.Ties.Effects
open Bexpr.Eval.Effects

def fromEvaluate (fn : String) : Bool := BexprGen.Effects.reachableFromEvaluate.contains fn

theorem no_shared_write_in_evaluate :
    BexprGen.Effects.storeSites.all (fun s => !fromEvaluate s.1 || isLocalSite s) = true := by
  decide +kernel

theorem append_targets_fresh :
    BexprGen.Effects.appendOrigins.all (fun o => !fromEvaluate o.1 || isFreshOrigin o) = true := by
  decide +kernel

/-- the regexp cache is written at creation time only -/
theorem ast_write_only_at_creation :
    fromEvaluate "precompileRegexps" = false ∧ fromEvaluate "CreateEvaluator" = false ∧
    BexprGen.Effects.reachable.contains "precompileRegexps" = true := by
  decide +kernel

/-- every package-level variable is initialised with a value the code can only READ: a `reflect.Type`, an
    `errors.New` value, a basic literal, or a table from reflect kinds to function names (a store into such a
    table would be a `shared` store site, which the class obligations above exclude).  A `sync.Pool`, a
    `sync.Map`, a cache, a counter, a buffer — anything else — has no class and fails here. -/
theorem globals_immutable :
    BexprGen.Effects.globalClasses.all
      (fun g => ["typeOf", "errorsNew", "basic", "kindFnTable"].contains g.2) = true ∧
    BexprGen.Effects.globalClasses.length = BexprGen.Effects.globals.length := by
  decide +kernel

/-- Evaluate rebuilds its options from the evaluator's fields on every call: exactly these three
    options, in any order (they set three different fields: `Ties.Options.setters_own_field`);
    compared with literals, no term of the model occurs -/
theorem evaluate_rebuilds_options :
    BexprGen.Effects.evaluateOptsBuilt.length = 3 ∧
    ["WithTagName(eval.tagName)", "WithHookFn(eval.valueTransformationHook)",
     "if eval.unknownVal != nil: WithUnknownValue(*eval.unknownVal)"].all
      BexprGen.Effects.evaluateOptsBuilt.contains = true ∧
    BexprGen.Effects.evaluatorFields = ["ast", "tagName", "valueTransformationHook", "unknownVal", "expression"] := by
  decide +kernel

end Bexpr.Ties.Effects
