/-
  Tie (C18, C11, C10): option setters, defaults and the plumbing of CreateEvaluator / newParser — extracted from options.go, bexpr.go, grammar/grammar.go on this run — are the texts
  written out below.  The literals describe the model (Bexpr/Eval/Create.lean: `Opt.apply`,
  `defaultOptions`, `getOpts`, `createEvaluator`; Bexpr/Peg/Engine.lean: `effectiveMax`, the tick
  at the top of `eval`), but no term of the model occurs in a statement.
-/
import BexprGen.Options

namespace Bexpr.Ties.Options

/-- each With* option assigns exactly its own field -/
theorem setters_own_field :
    BexprGen.Options.setters.length = 5 ∧
    BexprGen.Options.setters.contains ("WithMaxExpressions", ["withMaxExpressions"]) = true ∧
    BexprGen.Options.setters.contains ("WithTagName", ["withTagName"]) = true ∧
    BexprGen.Options.setters.contains ("WithHookFn", ["withHookFn"]) = true ∧
    BexprGen.Options.setters.contains ("WithUnknownValue", ["withUnknown"]) = true ∧
    BexprGen.Options.setters.contains ("WithLocalVariable", ["withLocalVariables+append"]) = true := by
  decide +kernel

/-- defaults (of the function `getOpts` starts from): budget 0, tag "bexpr", no hook, no unknown
    value, no local variables.  The table lists every field of struct `options`: the value the
    defaults literal gives it or, for a field the literal leaves out, the zero value of its type
    (`zero(T)` for a named type T: the hook's type is a function type of pointerstructure). -/
theorem defaults_agree :
    BexprGen.Options.defaults.length = 5 ∧
    BexprGen.Options.defaults.contains ("withMaxExpressions", "0") = true ∧
    BexprGen.Options.defaults.contains ("withTagName", "\"bexpr\"") = true ∧
    BexprGen.Options.defaults.contains ("withHookFn", "zero(ValueTransformationHookFn)") = true ∧
    BexprGen.Options.defaults.contains ("withUnknown", "nil") = true ∧
    BexprGen.Options.defaults.contains ("withLocalVariables", "nil") = true ∧
    BexprGen.Options.optionsFields.length = 5 := by
  decide +kernel

/-- getOpts is `opts := F(); for _, o := range opt { if o != nil { o(&opts) } }; return opts` (or
    the same loop written with `continue`): it folds the options over the defaults `F()` — a struct
    that is a local variable of this call — and skips nil options -/
theorem getOpts_shape : BexprGen.Options.getOptsSkipsNil = true := by decide +kernel

/-- creation: every evaluator field is fed from its own option; the tree is the parse result -/
theorem create_plumbing :
    BexprGen.Options.createPlumbing =
      [("ast", "$tree"), ("tagName", "$opts.withTagName"),
       ("valueTransformationHook", "$opts.withHookFn"), ("unknownVal", "$opts.withUnknown"),
       ("expression", "$expression")] ∧
    BexprGen.Options.createErrCheckBeforeAssert = true := by
  decide +kernel

/-- the budget is forwarded to the parser when non-zero, and zero means unlimited there -/
theorem budget_plumbing :
    BexprGen.Options.newParserZeroMeansMax = true ∧
    BexprGen.Options.createForwardsMax = ["nonzero"] := by
  decide +kernel

/-- the step counter: incremented and checked (`>`) at the top of every parseExpr call -/
theorem parseExpr_budget :
    BexprGen.Options.parseExprBudget =
      ["p", ".", "ExprCnt", "++", "if", "p", ".", "ExprCnt", ">", "p", ".", "maxExprCnt", "{",
       "panic", "(", "errMaxExprCnt", ")", "}"] := by
  decide +kernel

end Bexpr.Ties.Options
