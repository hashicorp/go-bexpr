/-
  Tie (C04, C05, C09, C01): the operator dispatch of `evaluateMatchExpression` and the
  `NotPresentDisposition` table, extracted from the source as order-insensitive facts, agree with
  the table `modelDispatch` written in this file after `Eval.evaluateMatch` (no lemma relates the
  two; see `Ties/MatchSem.model_dispatch`) and with the model's `Eval.notPresentDisposition`.
-/
import BexprGen.Tables
import Bexpr.Eval.Impl

namespace Bexpr.Ties.Dispatch
open Bexpr Bexpr.Eval

def goName : MatchOp → String
  | .equal => "MatchEqual" | .notEqual => "MatchNotEqual" | .in_ => "MatchIn" | .notIn => "MatchNotIn"
  | .isEmpty => "MatchIsEmpty" | .isNotEmpty => "MatchIsNotEmpty" | .matches => "MatchMatches"
  | .notMatches => "MatchNotMatches"

/-- the dispatch per operator: which `doMatch*` function, negated or not -/
def modelDispatch : MatchOp → String × String
  | .equal => ("direct", "doMatchEqual") | .notEqual => ("negated", "doMatchEqual")
  | .in_ => ("direct", "doMatchIn") | .notIn => ("negated", "doMatchIn")
  | .isEmpty => ("direct", "doMatchIsEmpty") | .isNotEmpty => ("negated", "doMatchIsEmpty")
  | .matches => ("direct", "doMatchMatches") | .notMatches => ("negated", "doMatchMatches")

def dispatchOf (name : String) : Option (String × String) :=
  (BexprGen.Tables.matchDispatch.find? (·.1 == name)).map (·.2)

/-- the table has exactly the eight operators and an erroring default -/
theorem dispatch_agrees :
    MatchOp.all.all (fun op => dispatchOf (goName op) == some (modelDispatch op)) = true ∧
    BexprGen.Tables.matchDispatch.length = 9 ∧
    dispatchOf "default" = some ("error", "") := by
  decide +kernel

def npdOf (name : String) : Option Bool :=
  (BexprGen.Tables.notPresent.find? (·.1 == name)).map (·.2)

/-- the per-operator result for an absent map key -/
theorem notPresent_agrees :
    MatchOp.all.all (fun op => npdOf (goName op) == some (notPresentDisposition op)) = true ∧
    BexprGen.Tables.notPresent.length = 9 := by
  decide +kernel

/-- the operator constants are declared in the order the model's `MatchOp` lists them (iota) -/
theorem operator_order : BexprGen.Tables.matchOpOrder = MatchOp.all.map goName := by
  decide +kernel

end Bexpr.Ties.Dispatch
