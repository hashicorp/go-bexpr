/-
  Tie (C03, C09, C01): the MEANING of `evaluate` (connectives, delegation, invalid nodes), checked
  on the GoLite terms REGENERATED from the source on every run (`BexprGen/GoLiteGen.lean`, written
  by `xlate golite`); the operator dispatch is the second stage, `Ties/MatchSem.lean`.

  The regenerated functions are interpreted (`Bexpr/GoLite/Interp.lean`) over an abstract domain: the
  operands of a connective are unknown nodes `L`, `R`; every call of a leaf is answered by a scenario
  (oracle) and logged.  For EVERY combination of answers the obligations below demand
    * the returned pair is what the model's `Eval.evaluate` returns on these outcomes (the outcome
      tables `C03.notTable / andTable / orTable`, which `C03.not_table / and_table / or_table` prove
      to be the model), with the error being the error of the operand that decided;
    * the calls made are exactly `evaluate(left)` when the left operand decides and
      `evaluate(left), evaluate(right)` otherwise — each with the unmodified `datum` and `opt...`.
  Nothing is said about how the code is written: a switch, an if/else chain, early returns, helpers
  (inlined by the interpreter) all pass as long as they mean the same; anything the translator or the
  interpreter does not understand makes the run `stuck`, which fails the obligation.

  When an obligation fails, `#eval report` (bottom of the file) prints the failing combinations with
  what was expected and what the code did — the witness `./check` shows.
-/
import BexprGen.GoLiteGen
import Ties.GoLiteScenario
import Props.C03

namespace Bexpr.Ties.EvaluateSem
open Bexpr Bexpr.Eval Bexpr.GoLite Bexpr.Ties.Scenario
open Bexpr.Props

/-! ### scenarios -/

def L : Node := .leaf "L"
def R : Node := .leaf "R"

/-- in the first stage everything `evaluate` hands a node to is a leaf -/
def leaves1 : List String :=
  ["evaluate", "evaluateMatchExpression", "evaluateCollectionExpression"] ++ BexprGen.GoLiteGen.leaves

/-- the oracle of the connective scenarios: `evaluate(L,…)` answers `a`, `evaluate(R,…)` answers `b`,
    the two delegates answer `a`; nothing else is answered -/
def oracle1 (a b : Ans) : Oracle := fun pkg name args =>
  if pkg != "" then none
  else if name == "evaluate" then
    match args with
    | .node (.leaf n) :: _ =>
      if n == "L" then some (a.vals "errL") else if n == "R" then some (b.vals "errR") else none
    | _ => none
  else if name == "evaluateMatchExpression" || name == "evaluateCollectionExpression" then
    some (a.vals "errD")
  else none

def cfg1 (a b : Ans) : Cfg := { funcs := BexprGen.GoLiteGen.funcs, leaves := leaves1, oracle := oracle1 a b }

def evaluateOn (a b : Ans) (n : Node) : Seen :=
  observe (run (cfg1 a b) fuel "evaluate" [.node n, datum, opt] true)

/-- `evaluate(child, datum, opt...)` -/
def evalCall (n : Node) : Call := ⟨"", "evaluate", [.node n, datum, opt], true⟩

/-! ### expected behaviour, from the model's outcome tables -/

def expectNot (a : Ans) : Obs :=
  ⟨ofOut "errL" (C03.notTable a.out), [evalCall L]⟩

/-- `and`: the left operand decides unless it is `(true, nil)` -/
def expectAnd (a b : Ans) : Obs :=
  if a = .t then ⟨ofOut "errR" (C03.andTable a.out b.out), [evalCall L, evalCall R]⟩
  else ⟨ofOut "errL" (C03.andTable a.out b.out), [evalCall L]⟩

/-- `or`: the left operand decides unless it is `(false, nil)` -/
def expectOr (a b : Ans) : Obs :=
  if a = .f then ⟨ofOut "errR" (C03.orTable a.out b.out), [evalCall L, evalCall R]⟩
  else ⟨ofOut "errL" (C03.orTable a.out b.out), [evalCall L]⟩

def notNode : Node := .unary "UnaryOpNot" L
def andNode : Node := .binary "BinaryOpAnd" L R
def orNode : Node := .binary "BinaryOpOr" L R

def failingNot : List Failure :=
  Ans.all.flatMap fun a => compare ("not: operand=" ++ ansName a) (evaluateOn a a notNode) (expectNot a)

def failingAnd : List Failure :=
  pairs.flatMap fun (a, b) =>
    compare ("and: left=" ++ ansName a ++ " right=" ++ ansName b) (evaluateOn a b andNode) (expectAnd a b)

def failingOr : List Failure :=
  pairs.flatMap fun (a, b) =>
    compare ("or: left=" ++ ansName a ++ " right=" ++ ansName b) (evaluateOn a b orNode) (expectOr a b)

/-- match / collection nodes are handed to their function with `(node, datum, opt...)` and its
    result is returned as it is -/
def failingDelegation : List Failure :=
  Ans.all.flatMap fun a =>
    compare ("match node: callee answers " ++ ansName a) (evaluateOn a a (.match_ "MatchEqual"))
      ⟨a.vals "errD", [⟨"", "evaluateMatchExpression", [.node (.match_ "MatchEqual"), datum, opt], true⟩]⟩
    ++ compare ("collection node: callee answers " ++ ansName a) (evaluateOn a a .coll)
      ⟨a.vals "errD", [⟨"", "evaluateCollectionExpression", [.node .coll, datum, opt], true⟩]⟩

/-- a node of no known type, or a unary / binary node with an unknown operator: `(false, err)` with a
    freshly made error and no call -/
def isFreshError (o : Seen) : Bool :=
  match o with
  | .ok ⟨[.bool false, .err _], []⟩ => true
  | _ => false

def invalidNodes : List (String × Node) :=
  [("invalid node", .invalid), ("unary node with an unknown operator", .unary "UnaryOpOther" L),
   ("binary node with an unknown operator", .binary "BinaryOpOther" L R)]

def failingInvalid : List Failure :=
  invalidNodes.flatMap fun (what, n) =>
    let got := evaluateOn .t .t n
    if isFreshError got then [] else [⟨what, "(false, <new error>), no calls", showObs got⟩]

/-! ### the obligations (kernel-evaluated on the regenerated terms) -/

/-- nothing in the interpreted functions is outside the GoLite subset -/
theorem all_supported : unsupportedIn "evaluate" = [] := by decide +kernel

theorem not_sem : failingNot = [] := by decide +kernel

theorem and_sem : failingAnd = [] := by decide +kernel

theorem or_sem : failingOr = [] := by decide +kernel

theorem delegation_sem : failingDelegation = [] := by decide +kernel

theorem invalid_sem : failingInvalid = [] := by decide +kernel

/-! ### what the obligations say about the model

  With `outOf` (a Go pair read back as an outcome, `outOf_ofOut`) the three theorems above and
  `C03.not_table / and_table / or_table` give: whenever the recursive calls return the Go pairs of
  the model's outcomes of the operands, the pair the interpreted `evaluate` returns reads back as
  the model's outcome of the connective. -/

/-- the results the interpreted code returns are the model's outcomes -/
theorem not_refines_model (re : RegexOracle) (o : Opts) (d : Go.Any) (e : Expr) (a : Ans)
    (h : evaluate re e o d = a.out) :
    (evaluateOn a a notNode).result?.bind outOf = some (evaluate re (.not e) o d) := by
  rw [C03.not_table, h, eq_ok_of_compare_nil (nil_at not_sem a)]
  cases a <;> rfl

theorem and_refines_model (re : RegexOracle) (o : Opts) (d : Go.Any) (l r : Expr) (a b : Ans)
    (hl : evaluate re l o d = a.out) (hr : evaluate re r o d = b.out) :
    (evaluateOn a b andNode).result?.bind outOf = some (evaluate re (.and l r) o d) := by
  rw [C03.and_table, hl, hr, eq_ok_of_compare_nil (nil_at_pair and_sem a b)]
  cases a <;> cases b <;> rfl

theorem or_refines_model (re : RegexOracle) (o : Opts) (d : Go.Any) (l r : Expr) (a b : Ans)
    (hl : evaluate re l o d = a.out) (hr : evaluate re r o d = b.out) :
    (evaluateOn a b orNode).result?.bind outOf = some (evaluate re (.or l r) o d) := by
  rw [C03.or_table, hl, hr, eq_ok_of_compare_nil (nil_at_pair or_sem a b)]
  cases a <;> cases b <;> rfl

/-! ### witnesses -/

def failingCombos : List Failure :=
  failingNot ++ failingAnd ++ failingOr ++ failingDelegation ++ failingInvalid

#eval IO.println (report "EvaluateSem" failingCombos)
#eval IO.println (reportUnsupported "EvaluateSem" "evaluate")

end Bexpr.Ties.EvaluateSem
