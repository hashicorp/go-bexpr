/-
  Tie (C04, C09, C01), second stage of the semantic tie: the operator dispatch of
  `evaluateMatchExpression`, checked on the GoLite term REGENERATED from the source
  (`BexprGen/GoLiteGen.lean`) by interpreting it (`Bexpr/GoLite/Interp.lean`).

  Scenario: the node is a match node with operator `op`; `getValue` is a leaf answering
  `(val, true, nil)` (present), `(nil, false, nil)` (absent key) or `(nil, false, err)`; the value is
  not a `json.Number`; `reflect.ValueOf` / `reflect.Indirect` are symbolic; the `doMatch*` function
  answers one of the four results.  For each of the eight operators and each answer:
    * the result is the leaf's result for the positive operators and, for the negated ones, the
      model's `negate` of it (`!result` without error, `(false, err)` with the leaf's error);
    * exactly one `doMatch*` function is called — the one the model dispatches to — with the node and
      `reflect.Indirect(reflect.ValueOf(val))`; `getValue` is called once with the unmodified `datum`,
      the node's `Selector.Path` and `opt...`;
    * an absent key returns `(expression.Operator.NotPresentDisposition(), nil)`, an error of
      `getValue` returns `(false, err)`, both without calling a `doMatch*` function;
    * an unknown operator returns `(false, <new error>)`.
  (`Ties/Dispatch.lean` states the dispatch on extracted shapes, this file on the interpreted function.)
-/
import BexprGen.GoLiteGen
import Ties.GoLiteScenario
import Bexpr.Eval.Impl

namespace Bexpr.Ties.MatchSem
open Bexpr Bexpr.Eval Bexpr.GoLite Bexpr.Ties.Scenario

/-! ### the model's dispatch, by operator -/

def goName : MatchOp → String
  | .equal => "MatchEqual" | .notEqual => "MatchNotEqual" | .in_ => "MatchIn" | .notIn => "MatchNotIn"
  | .isEmpty => "MatchIsEmpty" | .isNotEmpty => "MatchIsNotEmpty" | .matches => "MatchMatches"
  | .notMatches => "MatchNotMatches"

def leafOf : MatchOp → String
  | .equal | .notEqual => "doMatchEqual"
  | .in_ | .notIn => "doMatchIn"
  | .isEmpty | .isNotEmpty => "doMatchIsEmpty"
  | .matches | .notMatches => "doMatchMatches"

def negated : MatchOp → Bool
  | .notEqual | .notIn | .isNotEmpty | .notMatches => true
  | _ => false

/-- the model's `doMatch*` functions by their Go names -/
def modelLeaf (re : RegexOracle) (raw : Option GoString) (rv : Go.RV) (name : String) : Out :=
  if name = "doMatchEqual" then doMatchEqual raw rv
  else if name = "doMatchIn" then doMatchIn raw rv
  else if name = "doMatchIsEmpty" then doMatchIsEmpty rv
  else doMatchMatches re raw rv

/-- `leafOf` / `negated` ARE the dispatch of the model (`Eval.evaluateMatch`) -/
theorem model_dispatch (re : RegexOracle) (o : Opts) (d : Go.Any) (sel : Selector) (op : MatchOp)
    (raw : Option GoString) (v v' : Go.Any)
    (hg : getValue o d sel.path = .present v) (hn : narrowJsonNumber v = .ok v') :
    evaluateMatch re o d sel op raw =
      (if negated op then negate (modelLeaf re raw (Go.indirect (Go.valueOf v')) (leafOf op))
       else modelLeaf re raw (Go.indirect (Go.valueOf v')) (leafOf op)) := by
  unfold evaluateMatch
  rw [hg]
  simp only [hn]
  cases op <;> simp [negated, leafOf, modelLeaf]

/-! ### scenarios -/

inductive GV where
  | present | absent | error
  deriving DecidableEq, Repr

def leaves2 : List String :=
  ["evaluate", "evaluateCollectionExpression"] ++ BexprGen.GoLiteGen.leaves

def isDoMatch (name : String) : Bool :=
  name == "doMatchEqual" || name == "doMatchIn" || name == "doMatchIsEmpty" || name == "doMatchMatches"

def oracle2 (gv : GV) (a : Ans) : Oracle := fun pkg name args =>
  if pkg == "" then
    if name == "getValue" then
      match gv with
      | .present => some [.opaque "val", .bool true, .nil]
      | .absent => some [.nil, .bool false, .nil]
      | .error => some [.nil, .bool false, .err "errGV"]
    else if isDoMatch name then some (a.vals "errM")
    else none
  else if pkg == ".(type)" then
    -- the value is of no type the code asks for (in particular not a json.Number)
    some [.app pkg name (Val.ofList args), .bool false]
  else if pkg == "reflect" && (name == "ValueOf" || name == "Indirect") then
    some [.app pkg name (Val.ofList args)]
  else if pkg == "." && name == "NotPresentDisposition" then
    some [.app pkg name (Val.ofList args)]
  else none

def cfg2 (gv : GV) (a : Ans) : Cfg :=
  { funcs := BexprGen.GoLiteGen.funcs, leaves := leaves2, oracle := oracle2 gv a }

/-- calls without effect: making an error value, `reflect.ValueOf/Indirect`, type assertions -/
def pureCall (c : Call) : Bool := c.pkg == "error" || c.pkg == "reflect" || c.pkg == ".(type)"

def observe2 : Run → Seen
  | .done r log => .ok ⟨r, log.filter (!pureCall ·)⟩
  | .stuck m => .stuck m

def matchOn (gv : GV) (a : Ans) (opName : String) : Seen :=
  observe2 (run (cfg2 gv a) fuel "evaluateMatchExpression" [.node (.match_ opName), datum, opt] true)

def app1 (pkg name : String) (v : Val) : Val := .app pkg name (.cons v .unit)

/-- `getValue(datum, expression.Selector.Path, opt...)` -/
def getValueCall (opName : String) : Call :=
  ⟨"", "getValue", [datum, app1 "." "Path" (app1 "." "Selector" (.node (.match_ opName))), opt], true⟩

/-- `reflect.Indirect(reflect.ValueOf(val))` -/
def rvalue : Val := app1 "reflect" "Indirect" (app1 "reflect" "ValueOf" (.opaque "val"))

def expectPresent (op : MatchOp) (a : Ans) : Obs :=
  ⟨ofOut "errM" (if negated op then negate a.out else a.out),
   [getValueCall (goName op), ⟨"", leafOf op, [.node (.match_ (goName op)), rvalue], false⟩]⟩

def expectAbsent (op : MatchOp) : Obs :=
  ⟨[app1 "." "NotPresentDisposition" (.opc (goName op)), .nil],
   [getValueCall (goName op), ⟨".", "NotPresentDisposition", [.opc (goName op)], false⟩]⟩

def expectError (op : MatchOp) : Obs :=
  ⟨[.bool false, .err "errGV"], [getValueCall (goName op)]⟩

def failingDispatch : List Failure :=
  MatchOp.all.flatMap fun op => Ans.all.flatMap fun a =>
    compare (goName op ++ ": value present, " ++ leafOf op ++ " answers " ++ ansName a)
      (matchOn .present a (goName op)) (expectPresent op a)

def failingAbsent : List Failure :=
  MatchOp.all.flatMap fun op =>
    compare (goName op ++ ": key absent") (matchOn .absent .t (goName op)) (expectAbsent op)
    ++ compare (goName op ++ ": getValue fails") (matchOn .error .t (goName op)) (expectError op)

def failingUnknownOp : List Failure :=
  match matchOn .present .t "MatchOther" with
  | .ok ⟨[.bool false, .err _], [c]⟩ =>
    if c = getValueCall "MatchOther" then [] else [⟨"unknown operator", "only getValue is called", showCall c⟩]
  | got => [⟨"unknown operator", "(false, <new error>), only getValue is called", showObs got⟩]

/-! ### the obligations (kernel-evaluated on the regenerated term) -/

theorem all_supported : unsupportedIn "evaluateMatchExpression" = [] := by decide +kernel

theorem dispatch_sem : failingDispatch = [] := by decide +kernel

theorem absent_sem : failingAbsent = [] := by decide +kernel

theorem unknown_operator_sem : failingUnknownOp = [] := by decide +kernel

/-- on outcomes: the interpreted code returns the model's dispatch result -/
theorem dispatch_refines_model (op : MatchOp) (a : Ans) :
    (matchOn .present a (goName op)).result?.bind outOf
      = some (if negated op then negate a.out else a.out) := by
  have hop : op ∈ MatchOp.all := by cases op <;> decide
  rw [eq_ok_of_compare_nil (nil_at (List.flatMap_eq_nil_iff.1 dispatch_sem op hop) a)]
  show outOf (ofOut "errM" (if negated op then negate a.out else a.out)) = _
  cases negated op <;> cases a <;> rfl

/-! ### witnesses -/

def failingCombos : List Failure := failingDispatch ++ failingAbsent ++ failingUnknownOp

#eval IO.println (report "MatchSem" failingCombos)
#eval IO.println (reportUnsupported "MatchSem" "evaluateMatchExpression")

end Bexpr.Ties.MatchSem
