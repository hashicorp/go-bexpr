/-
  Tie (C13): the package-level variables extracted from /repo on this run are all of a class the
  code can only read (`globals_immutable`, as in `Ties/Effects.lean`).  Store sites and append
  origins are NOT checked here (that is `Ties/Effects.lean`, for C12): the write of a match node's
  regexp cache cell, harmless for C13 (`Props/C13.history_independent_with_cache`) and a data race
  for C12, is neither rejected nor classified by this tie.
-/
import BexprGen.Effects
import Bexpr.Eval.Effects

namespace Bexpr.Ties.EffectsC13
open Bexpr.Eval.Effects

def fromEvaluate (fn : String) : Bool := BexprGen.Effects.reachableFromEvaluate.contains fn

/-- as `Ties.Effects.globals_immutable` (store sites are not looked at in this file) -/
theorem globals_immutable :
    BexprGen.Effects.globalClasses.all
      (fun g => ["typeOf", "errorsNew", "basic", "kindFnTable"].contains g.2) = true ∧
    BexprGen.Effects.globalClasses.length = BexprGen.Effects.globals.length := by
  decide +kernel

end Bexpr.Ties.EffectsC13
