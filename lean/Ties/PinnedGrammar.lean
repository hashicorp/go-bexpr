/-
  Tie (C01–C04, C06, C07, C10, C15, C16): the grammar table and the code blocks regenerated from /repo on
  this run are the pinned ones the language-level theorems and the expected-tree oracle refer to.
-/
import BexprGen.GoGrammar
import BexprGen.GoActions
import Bexpr.Peg.PinnedGrammar
import Bexpr.Peg.PinnedActions

namespace Bexpr.Ties.PinnedGrammar

theorem grammar_is_pinned : BexprGen.GoGrammar.grammar = Bexpr.Peg.Pinned.Grammar.grammar := rfl

theorem actions_are_pinned : BexprGen.GoActions.actions = Bexpr.Peg.Pinned.Actions.actions := rfl

end Bexpr.Ties.PinnedGrammar
