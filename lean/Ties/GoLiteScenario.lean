/-
  GoLite scenarios — what the semantic ties (`Ties/EvaluateSem`, `Ties/MatchSem`) share: the four
  results a call returning `(bool, error)` can have, their reading as outcomes of the model
  (`Eval.Out`), observed runs, the failure records the witnesses are printed from, and the way back
  from an empty failure list to the observed run (`eq_ok_of_compare_nil`).
-/
import Bexpr.GoLite.Interp
import Bexpr.Eval.Impl
import BexprGen.GoLiteGen

namespace Bexpr.Ties.Scenario
open Bexpr Bexpr.Eval Bexpr.GoLite

/-- the four results a call of `evaluate` (or of a `doMatch*` function) can have -/
inductive Ans where
  | t    -- (true, nil)
  | f    -- (false, nil)
  | fe   -- (false, err)
  | te   -- (true, err)
  deriving DecidableEq, Repr, Inhabited

def Ans.all : List Ans := [.t, .f, .fe, .te]

/-- the model's outcome of that result -/
def Ans.out : Ans → Out
  | .t => .val true | .f => .val false | .fe => .err false | .te => .err true

/-- a model outcome as a Go result pair; `tag` identifies the error -/
def ofOut (tag : String) : Out → List Val
  | .val b => [.bool b, .nil]
  | .err b => [.bool b, .err tag]
  | _ => []

def Ans.vals (a : Ans) (tag : String) : List Val := ofOut tag a.out

def pairs : List (Ans × Ans) := Ans.all.flatMap fun a => Ans.all.map fun b => (a, b)

def datum : Val := .opaque "datum"
def opt : Val := .opaque "opt"

def fuel : Nat := 400

/-- what is compared: the returned values and the calls with an effect (making an error value is
    logged under package `error` and is not an effect) -/
structure Obs where
  result : List Val
  calls : List Call
  deriving DecidableEq, Repr, Inhabited

/-- an observed run -/
inductive Seen where
  | ok (o : Obs)
  | stuck (msg : String)
  deriving DecidableEq, Repr, Inhabited

def Seen.result? : Seen → Option (List Val)
  | .ok o => some o.result
  | .stuck _ => none

def observe : Run → Seen
  | .done r log => .ok ⟨r, log.filter (·.pkg != "error")⟩
  | .stuck m => .stuck m

/-- a failing combination: scenario, expected, observed -/
structure Failure where
  what : String
  expected : String
  got : String
  deriving Repr, DecidableEq

/-! compact printing of the witnesses -/

def showNode : Node → String
  | .unary op c => op ++ "(" ++ showNode c ++ ")"
  | .binary op l r => op ++ "(" ++ showNode l ++ ", " ++ showNode r ++ ")"
  | .match_ op => "match[" ++ op ++ "]"
  | .coll => "collection"
  | .leaf n => n
  | .invalid => "<invalid node>"

mutual
def showVal : Val → String
  | .bool b => toString b
  | .nil => "nil"
  | .err tag => "err:" ++ tag
  | .node n => showNode n
  | .opc n => "grammar." ++ n
  | .opaque n => n
  | .str s => s
  | .unit => "()"
  | .cons a r => "(" ++ showVal a ++ showRest r ++ ")"
  | .app pkg name args =>
    (if pkg == "" then name else if pkg == "." then "." ++ name else pkg ++ "." ++ name) ++ showArgs args
def showRest : Val → String
  | .unit => ""
  | .cons a r => ", " ++ showVal a ++ showRest r
  | v => " . " ++ showVal v
def showArgs : Val → String
  | .unit => "()"
  | .cons a r => "(" ++ showVal a ++ showRest r ++ ")"
  | v => "(" ++ showVal v ++ ")"
end

def showVals (vs : List Val) : String := "(" ++ String.intercalate ", " (vs.map showVal) ++ ")"

def showCall (c : Call) : String :=
  (if c.pkg == "" then c.name else if c.pkg == "." then "." ++ c.name else c.pkg ++ "." ++ c.name)
    ++ "(" ++ String.intercalate ", " (c.args.map showVal) ++ (if c.ellipsis then "..." else "") ++ ")"

def showObs1 (o : Obs) : String :=
  "returns " ++ showVals o.result ++ " after the calls [" ++ String.intercalate "; " (o.calls.map showCall) ++ "]"

def showObs (o : Seen) : String :=
  match o with
  | .ok o => showObs1 o
  | .stuck m => "stuck: " ++ m

def compare (what : String) (got : Seen) (want : Obs) : List Failure :=
  if got = .ok want then [] else [⟨what, showObs1 want, showObs got⟩]

/-- an obligation `… = []` built from `compare` fixes the observed run -/
theorem eq_ok_of_compare_nil {what : String} {got : Seen} {want : Obs}
    (h : compare what got want = []) : got = .ok want := by
  unfold compare at h
  split at h
  · assumption
  · cases h

theorem Ans.mem_all (a : Ans) : a ∈ Ans.all := by
  cases a <;> decide

/-- an obligation over all answers, at one answer -/
theorem nil_at {f : Ans → List Failure} (h : Ans.all.flatMap f = []) (a : Ans) : f a = [] :=
  List.flatMap_eq_nil_iff.1 h a a.mem_all

theorem nil_at_pair {f : Ans × Ans → List Failure} (h : pairs.flatMap f = []) (a b : Ans) :
    f (a, b) = [] :=
  List.flatMap_eq_nil_iff.1 h (a, b)
    (List.mem_flatMap.2 ⟨a, a.mem_all, List.mem_map.2 ⟨b, b.mem_all, rfl⟩⟩)

def ansName : Ans → String
  | .t => "(true,nil)" | .f => "(false,nil)" | .fe => "(false,err)" | .te => "(true,err)"

/-- one line per failing combination, each starting with `<tie> witness:` (what `./check` greps) -/
def report (tie : String) (fs : List Failure) : String :=
  if fs.isEmpty then tie ++ ": all combinations agree"
  else String.intercalate "\n" (fs.map fun f =>
    tie ++ " witness: " ++ f.what ++ " | expected: " ++ f.expected ++ " | the code: " ++ f.got)

/-- the Go pair of an interpreted run, forgetting which error it is -/
def outOf : List Val → Option Out
  | [.bool b, .nil] => some (.val b)
  | [.bool b, .err _] => some (.err b)
  | _ => none

theorem outOf_ofOut (tag : String) (a : Ans) : outOf (ofOut tag a.out) = some a.out := by
  cases a <;> rfl

/-- the functions the interpretation of `root` may inline -/
def reachOf (root : String) : List String :=
  ((BexprGen.GoLiteGen.reach.find? (·.1 == root)).map (·.2)).getD []

/-- constructs outside the GoLite subset in the functions `root` may inline -/
def unsupportedIn (root : String) : List (String × String) :=
  BexprGen.GoLiteGen.unsupportedNodes.filter fun u => (reachOf root).contains u.1

def reportUnsupported (tie root : String) : String :=
  if (unsupportedIn root).isEmpty then tie ++ ": no unsupported nodes"
  else String.intercalate "\n" ((unsupportedIn root).map fun u =>
    tie ++ " witness: outside the GoLite subset, in " ++ u.1 ++ ": " ++ u.2)

end Bexpr.Ties.Scenario
