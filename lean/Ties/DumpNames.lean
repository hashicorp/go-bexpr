/-
  Tie (C19): operator / binding / collection names, the set of operators whose value is printed and
  what the ExpressionDump methods write — extracted from grammar/ast.go on this run — compared
  with the model's functions (Bexpr/Eval/Dump.lean) for the names and the value-printing set, with
  templates typed in this file after `Dump.dump` for what the methods write.

  The fmt format strings themselves (`BexprGen.Tables.dumpFormats`, extracted but used by no
  statement) are deliberately NOT pinned: the same output can be spelled with many format strings
  (`%[1]s…%[1]s` with inline arguments vs. `%s…%s` with locals).  Pinned instead are the TEMPLATES
  computed from them (`BexprGen.Tables.dumpTemplates`, xlate/facts_dump.go): the sequence of literal
  texts, (verb, argument) pairs and recursive dumps each method writes, with argument indices
  resolved, single-assignment locals inlined and the pieces before / in / after the operator switch
  of `MatchExpression` put in a row per operator.  `CollectionNameBinding.String` and
  `Selector.String` are not pinned here (`BexprGen.Tables.selectorString` is informational); their
  output is compared with the model's `bindingString` / `Selector.render` by the dump harness.
-/
import BexprGen.Tables
import Bexpr.Eval.Dump
import Ties.Dispatch

namespace Bexpr.Ties.DumpNames
open Bexpr Bexpr.Dump Bexpr.Ties.Dispatch

def lookup (tbl : List (String × String)) (k : String) : Option String :=
  (tbl.find? (·.1 == k)).map (·.2)

theorem match_op_names :
    MatchOp.all.all (fun op => lookup BexprGen.Tables.matchOpStrings (goName op) == some (matchOpName op)) = true := by
  decide +kernel

theorem connective_names :
    lookup BexprGen.Tables.unaryOpStrings "UnaryOpNot" = some "Not" ∧
    lookup BexprGen.Tables.binaryOpStrings "BinaryOpAnd" = some "And" ∧
    lookup BexprGen.Tables.binaryOpStrings "BinaryOpOr" = some "Or" := by
  decide +kernel

theorem binding_and_collection_names :
    lookup BexprGen.Tables.bindModeStrings "CollectionBindDefault" = some (bindModeName .default) ∧
    lookup BexprGen.Tables.bindModeStrings "CollectionBindIndex" = some (bindModeName .index) ∧
    lookup BexprGen.Tables.bindModeStrings "CollectionBindValue" = some (bindModeName .value) ∧
    lookup BexprGen.Tables.bindModeStrings "CollectionBindIndexAndValue" = some (bindModeName .indexAndValue) ∧
    lookup BexprGen.Tables.collOpStrings "CollectionOpAll" = some (collOpName .all) ∧
    lookup BexprGen.Tables.collOpStrings "CollectionOpAny" = some (collOpName .any) := by
  decide +kernel

theorem prints_value_set :
    MatchOp.all.all (fun op => BexprGen.Tables.dumpPrintsValue.contains (goName op) == printsValue op) = true ∧
    BexprGen.Tables.dumpPrintsValue.length = 4 := by
  decide +kernel

/-! ### what the ExpressionDump methods write -/

def templateOf (k : String) : Option (List String) :=
  (BexprGen.Tables.dumpTemplates.find? (·.1 == k)).map (·.2)

/-- `repeatStr indent level` / `repeatStr indent (level + 1)` of the model -/
def li : String := "%s:strings.Repeat(indent, level)"
def li1 : String := "%s:strings.Repeat(indent, level+1)"

/-- the template of the model's `.match_` case: header, selector line, value line (quoted with
    `%q` = `Strconv.quote`) for the operators that print their value, closing brace -/
def matchTemplate (withValue : Bool) : List String :=
  [li, "%s:expr.Operator.String()", "text: {\n", li1, "text:Selector: ", "%v:expr.Selector", "text:\n"] ++
  (if withValue then [li1, "text:Value: ", "%q:expr.Value.Raw", "text:\n"] else []) ++
  [li, "text:}\n"]

/-- the clause of `MatchExpression.ExpressionDump` that handles an operator: its own, else the default -/
def matchTemplateOf (op : MatchOp) : Option (List String) :=
  match templateOf ("MatchExpression/" ++ goName op) with
  | some t => some t
  | none => templateOf "MatchExpression/default"

/-- the templates are typed here after what `Dump.dump` concatenates; no term of it occurs -/
theorem dump_templates :
    templateOf "UnaryExpression" =
      some [li, "%s:expr.Operator.String()", "text: {\n", "dump:expr.Operand", li, "text:}\n"] ∧
    templateOf "BinaryExpression" =
      some [li, "%s:expr.Operator.String()", "text: {\n", "dump:expr.Left", "dump:expr.Right", li, "text:}\n"] ∧
    templateOf "CollectionExpression" =
      some [li, "%s:expr.Op", "text: ", "%s:expr.NameBinding.String()", "text: on ", "%v:expr.Selector",
            "text: {\n", "dump:expr.Inner", li, "text:}\n"] ∧
    MatchOp.all.all (fun op => matchTemplateOf op == some (matchTemplate (printsValue op))) = true := by
  decide +kernel

end Bexpr.Ties.DumpNames
