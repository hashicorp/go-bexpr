/-
  Tie (C15): the message pieces regenerated on this run by `xlate failnames` are usable — every
  piece was recognised in the source (no `unknown:` entry, so the model never silently keeps an old
  wording).  The matcher texts (grammar.peg vs grammar.go) are `Ties/MatcherTexts.lean`.

  Deliberately NOT compared with the pinned wording (`Bexpr/Peg/PinnedFailNames.lean`): a commit
  that rewords a message changes the model's message with it and breaks nothing.
-/
import BexprGen.FailNames

namespace Bexpr.Ties.FailNames

theorem all_pieces_recognised : BexprGen.FailNames.unknowns = [] := by decide +kernel

end Bexpr.Ties.FailNames
