/-
  Tie (C02, C01): the kind → equality-function table (`primitiveEqualityFn`), the kind → coercion
  table (`getMatchExprValue`), the bodies of the six `doEqual*` functions and the `strconv` calls
  of coerce.go — extracted from /repo on this run — agree with the tables `modelEqFn`,
  `modelCoerce` and the texts written in this file after `applyEq` and `coerceLit` of
  Bexpr/Eval/Impl.lean; the model itself enters only through `hasEqFn_is_table`.  The comparison
  is by kind, so reordering the `case`s is harmless while a dropped kind, a changed base or bit
  size, or a different comparison is not.
-/
import BexprGen.Tables
import Bexpr.Eval.Impl

namespace Bexpr.Ties.Coerce
open Bexpr Bexpr.Eval Bexpr.Go

/-- the `reflect.X` identifier of a kind -/
def reflectName : Kind → String
  | .invalid => "Invalid" | .bool => "Bool"
  | .int => "Int" | .int8 => "Int8" | .int16 => "Int16" | .int32 => "Int32" | .int64 => "Int64"
  | .uint => "Uint" | .uint8 => "Uint8" | .uint16 => "Uint16" | .uint32 => "Uint32" | .uint64 => "Uint64"
  | .uintptr => "Uintptr" | .float32 => "Float32" | .float64 => "Float64"
  | .complex64 => "Complex64" | .complex128 => "Complex128" | .array => "Array" | .chan => "Chan"
  | .func => "Func" | .interface => "Interface" | .map => "Map" | .pointer => "Ptr" | .slice => "Slice"
  | .string => "String" | .struct => "Struct" | .unsafePointer => "UnsafePointer"

def allKinds : List Kind :=
  [.invalid, .bool, .int, .int8, .int16, .int32, .int64, .uint, .uint8, .uint16, .uint32, .uint64, .uintptr,
   .float32, .float64, .complex64, .complex128, .array, .chan, .func, .interface, .map, .pointer, .slice,
   .string, .struct, .unsafePointer]

def lookup (tbl : List (String × String)) (k : String) : Option String :=
  (tbl.find? (·.1 == k)).map (·.2)

/-- which `doEqual*` function a kind is compared with, after the model's `applyEq` (no lemma) -/
def modelEqFn (k : Kind) : Option String :=
  if k == .bool then some "doEqualBool"
  else if k.isInt then some "doEqualInt64"
  else if k.isUint && k != .uintptr then some "doEqualUint64"
  else if k == .float32 then some "doEqualFloat32"
  else if k == .float64 then some "doEqualFloat64"
  else if k == .string then some "doEqualString"
  else none

/-- which coercion a kind's literal gets (`none` = the raw string), after `coerceLit` (no lemma) -/
def modelCoerce (k : Kind) : Option String :=
  if k == .bool then some "CoerceBool"
  else if k.isInt then some "CoerceInt64"
  else if k.isUint && k != .uintptr then some "CoerceUint64"
  else if k == .float32 then some "CoerceFloat32"
  else if k == .float64 then some "CoerceFloat64"
  else none

theorem eqFn_table_agrees :
    allKinds.all (fun k => lookup BexprGen.Tables.eqFnTable (reflectName k) == modelEqFn k) = true ∧
    lookup BexprGen.Tables.eqFnTable "default" = some "nil" ∧
    BexprGen.Tables.eqFnTable.length = 15 := by
  decide +kernel

theorem hasEqFn_is_table : ∀ k ∈ allKinds, hasEqFn k = (modelEqFn k).isSome := by
  decide +kernel

theorem coerce_table_agrees :
    allKinds.all (fun k => lookup BexprGen.Tables.coerceTable (reflectName k) == modelCoerce k) = true ∧
    lookup BexprGen.Tables.coerceTable "default" = some "raw" ∧
    BexprGen.Tables.coerceTable.length = 14 ∧ BexprGen.Tables.coerceNilValueGuard = true := by
  decide +kernel

/-- base 0 and 64 bits for integers, the field's width for floats -/
theorem strconv_calls :
    BexprGen.Tables.strconvCalls.length = 5 ∧
    BexprGen.Tables.strconvCalls.contains ("CoerceInt64", "ParseInt", ["value", "0", "64"]) = true ∧
    BexprGen.Tables.strconvCalls.contains ("CoerceUint64", "ParseUint", ["value", "0", "64"]) = true ∧
    BexprGen.Tables.strconvCalls.contains ("CoerceBool", "ParseBool", ["value"]) = true ∧
    BexprGen.Tables.strconvCalls.contains ("CoerceFloat32", "ParseFloat", ["value", "32"]) = true ∧
    BexprGen.Tables.strconvCalls.contains ("CoerceFloat64", "ParseFloat", ["value", "64"]) = true := by
  decide +kernel

def body (n : String) : List String :=
  match BexprGen.Tables.eqFnBodies.find? (·.1 == n) with
  | some (_, b) => b
  | none => []

/-- typed `==` on the accessor of the value's own kind; float32 narrows the value, never widens
    the literal; integers never go through floating point -/
theorem eqFn_bodies :
    body "doEqualBool" = ["return", "first", ".", "(", "bool", ")", "==", "second", ".", "Bool", "(", ")"] ∧
    body "doEqualInt64" = ["return", "first", ".", "(", "int64", ")", "==", "second", ".", "Int", "(", ")"] ∧
    body "doEqualUint64" = ["return", "first", ".", "(", "uint64", ")", "==", "second", ".", "Uint", "(", ")"] ∧
    body "doEqualFloat32" = ["return", "first", ".", "(", "float32", ")", "==", "float32", "(", "second", ".", "Float", "(", ")", ")"] ∧
    body "doEqualFloat64" = ["return", "first", ".", "(", "float64", ")", "==", "second", ".", "Float", "(", ")"] ∧
    body "doEqualString" = ["return", "first", ".", "(", "string", ")", "==", "second", ".", "String", "(", ")"] := by
  decide +kernel

end Bexpr.Ties.Coerce
